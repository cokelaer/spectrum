-- root of the `SpecVerif` library: the executable model, the generated registry, and the proofs
import SpecVerif.Model.Basic
import SpecVerif.Model.DFT
import SpecVerif.Model.Correlation
import SpecVerif.Model.Periodogram
import SpecVerif.Model.Daniell
import SpecVerif.Model.Levinson
import SpecVerif.Model.RealFn
import SpecVerif.Model.Window
import SpecVerif.Model.Criteria
import SpecVerif.Model.EigenCrit
import SpecVerif.Model.Dpss
import SpecVerif.Model.DpssTri
import SpecVerif.Model.Lpc
import SpecVerif.Model.Sides
import SpecVerif.Model.Arma
import SpecVerif.Model.Burg
import SpecVerif.Model.Minvar
import SpecVerif.Model.LinAlg
import SpecVerif.Model.Estimators
import SpecVerif.Model.Marple
import SpecVerif.Model.Eigen
import SpecVerif.Model.Mtm
import SpecVerif.Model.ClassGlue
import SpecVerif.Model.Object
import SpecVerif.Model.ObjectF

import SpecVerif.Generated.Registry
import SpecVerif.Generated.CriteriaSrc
import SpecVerif.Generated.RangeSrc

import SpecVerif.Proofs.Lemmas.Except
import SpecVerif.Proofs.Lemmas.Basic
import SpecVerif.Proofs.Lemmas.EvalAttr
import SpecVerif.Proofs.Lemmas.Eval
import SpecVerif.Proofs.Lemmas.IsZero
import SpecVerif.Proofs.Lemmas.CRatField
import SpecVerif.Proofs.Lemmas.Norm
import SpecVerif.Proofs.Lemmas.Sesq
import SpecVerif.Proofs.Lemmas.RealFn
import SpecVerif.Proofs.Lemmas.Sides

import SpecVerif.Proofs.Lemmas.DFT
import SpecVerif.Proofs.Lemmas.DFTOrth
import SpecVerif.Proofs.Lemmas.Correlation
import SpecVerif.Proofs.Lemmas.Periodogram
import SpecVerif.Proofs.Lemmas.WienerKhinchin
import SpecVerif.Proofs.Lemmas.Arma
import SpecVerif.Proofs.Lemmas.Glue
import SpecVerif.Proofs.Lemmas.Placement
import SpecVerif.Proofs.Lemmas.Daniell

import SpecVerif.Proofs.Lemmas.StepUp
import SpecVerif.Proofs.Lemmas.Levinson
import SpecVerif.Proofs.Lemmas.LevinsonPD
import SpecVerif.Proofs.Lemmas.Toeplitz
import SpecVerif.Proofs.Lemmas.LinPred
import SpecVerif.Proofs.Lemmas.SchurCohn
import SpecVerif.Proofs.Lemmas.Similarity
import SpecVerif.Proofs.Lemmas.Burg
import SpecVerif.Proofs.Lemmas.Yule
import SpecVerif.Proofs.Lemmas.Minvar
import SpecVerif.Proofs.Lemmas.GohbergSemencul

import SpecVerif.Proofs.Lemmas.LpcLsf
import SpecVerif.Proofs.Lemmas.LsfCircle
import SpecVerif.Proofs.Lemmas.LsfInterlace
import SpecVerif.Proofs.Lemmas.LsfRoundtrip

import SpecVerif.Proofs.Lemmas.LeastSquares
import SpecVerif.Proofs.Lemmas.ExpSum
import SpecVerif.Proofs.Lemmas.Marple
import SpecVerif.Proofs.Lemmas.GaussJordan
import SpecVerif.Proofs.Lemmas.Covar
import SpecVerif.Proofs.Lemmas.ArmaEst

import SpecVerif.Proofs.Lemmas.Eigen
import SpecVerif.Proofs.Lemmas.EigenOnly
import SpecVerif.Proofs.Lemmas.EigenCrit

import SpecVerif.Proofs.Lemmas.Mtm
import SpecVerif.Proofs.Lemmas.Window
import SpecVerif.Proofs.Lemmas.Kaiser
import SpecVerif.Proofs.Lemmas.Dpss
import SpecVerif.Proofs.Lemmas.DpssTri
import SpecVerif.Proofs.Lemmas.SincKernel

import SpecVerif.Proofs.Lemmas.Object
import SpecVerif.Proofs.Lemmas.ObjectF

import SpecVerif.Proofs.Lemmas.Grid
import SpecVerif.Proofs.Lemmas.Scale
import SpecVerif.Proofs.Lemmas.Shift
import SpecVerif.Proofs.Lemmas.ShiftEst
import SpecVerif.Proofs.Lemmas.ShiftLS
import SpecVerif.Proofs.Lemmas.AdaptLoop

import SpecVerif.Proofs.C01
import SpecVerif.Proofs.C02
import SpecVerif.Proofs.C03
import SpecVerif.Proofs.C04
import SpecVerif.Proofs.C05
import SpecVerif.Proofs.C06
import SpecVerif.Proofs.C07
import SpecVerif.Proofs.C08
import SpecVerif.Proofs.C09
import SpecVerif.Proofs.C10
import SpecVerif.Proofs.C11
import SpecVerif.Proofs.C12
import SpecVerif.Proofs.C13
import SpecVerif.Proofs.C14
import SpecVerif.Proofs.C15
import SpecVerif.Proofs.C16
import SpecVerif.Proofs.C17
import SpecVerif.Proofs.C18
import SpecVerif.Proofs.C19
import SpecVerif.Proofs.C20
