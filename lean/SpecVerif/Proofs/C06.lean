import SpecVerif.Proofs.Lemmas.Sides
import SpecVerif.Proofs.Lemmas.CRatField
import SpecVerif.Generated.RangeSrc
/-
  C06 — conversions among 'onesided', 'twosided' and 'centerdc' are refinements of one abstract
  object, a two-sided spectrum `S : ℕ → K` of `n = NFFT` bins.

  `rep s n S` (in `Lemmas/Sides`) is the specification of what is stored for sides `s`:
    * `.two`    entry `k` is `S k`;
    * `.center` entry `a` is `S ((a - n/2) mod n)`;
    * `.one`    entry `k ≤ n/2` is `S k + S (n-k)`, except DC and (even `n`) Nyquist which are `S k`.
  Every conversion of the model maps `rep s n S` to `rep t n S`; length, frequency alignment, power
  preservation and path independence are consequences.  `SymmSpec n S` (`S k = S (n-k)`) is the spectrum
  of real data; it is required exactly where the code needs it (whenever side `.one` is involved).
  `n ≥ 1` has either parity.
-/
namespace SpecVerif.C06
open Finset SpecVerif

variable {K : Type} [Field K]

/-- **refinement, real data**: for a symmetric spectrum all nine conversions `s → t` of
`get_converted_psd` map the representation for `s` to the representation for `t`. -/
theorem convert_refines (h2 : (2 : K) ≠ 0) {n : ℕ} (hn : 1 ≤ n) {S : ℕ → K} (hS : SymmSpec n S)
    (s t : Side) : convert s t false n (rep s n S) = some (rep t n S) := by
  have hodd : (decide (n % 2 = 1 ∧ (repOne n S).length = (n + 1) / 2) = true) ↔ n % 2 = 1 := by
    rw [decide_eq_true_iff, repOne_length]
    exact convert_flag_iff
  cases s <;> cases t
  all_goals simp only [rep]
  all_goals simp only [convert, if_true, reduceCtorEq, if_false, Bool.false_eq_true, false_and, and_false]
  case one.two => rw [unfoldOne_repOne h2 hn hS _ hodd]
  case one.center => rw [unfoldOne_repOne h2 hn hS _ hodd, fftshift_repTwo]
  case two.one => rw [twosided2onesided_repTwo hn hS]
  case two.center => rw [fftshift_repTwo]
  case center.one => rw [ifftshift_repCenter, twosided2onesided_repTwo hn hS]
  case center.two => rw [ifftshift_repCenter]

/-- **refinement, any data** (complex included): between 'twosided' and 'centerdc' no symmetry is
needed and the `isComplex` flag is irrelevant. -/
theorem convert_refines_twosided (n : ℕ) (S : ℕ → K) (isComplex : Bool) (s t : Side)
    (hs : s ≠ .one) (ht : t ≠ .one) :
    convert s t isComplex n (rep s n S) = some (rep t n S) := by
  cases s <;> cases t <;> simp only [convert, rep, if_true, reduceCtorEq, if_false,
    and_false, ne_eq, not_true_eq_false] at hs ht ⊢
  case two.center => rw [fftshift_repTwo]
  case center.two => rw [ifftshift_repCenter]

/-- complex data cannot be converted to one-sided: the model reports the assertion failure. -/
theorem convert_complex_onesided (n : ℕ) (p : List K) (s : Side) (hs : s ≠ .one) :
    convert s .one true n p = none := by
  cases s <;> simp [convert] at hs ⊢

/-- on ANY stored one-sided list: no symmetry, no hypothesis on `2` -/
theorem convert_one_two {n : ℕ} (hn : 1 ≤ n) (p : List K) (hp : p.length = n / 2 + 1) :
    convert .one .two false n p = some (repTwo n (unfoldSpec n p)) := by
  simp only [convert, reduceCtorEq, if_false, Bool.false_eq_true, false_and]
  rw [unfoldOne_eq hn p hp _ (by rw [decide_eq_true_iff, hp]; exact convert_flag_iff)]

/-- **the four helper functions of `tools.py`** act on the representations as specified;
`onesided_2_twosided` only for an even NFFT (it assumes a Nyquist entry). -/
theorem helpers_refine (h2 : (2 : K) ≠ 0) {n : ℕ} (hn : 1 ≤ n) {S : ℕ → K} (hS : SymmSpec n S) :
    twosided2onesided (repTwo n S) = repOne n S
    ∧ twosided2centerdc (repTwo n S) = repCenter n S
    ∧ centerdc2twosided (repCenter n S) = repTwo n S
    ∧ (n % 2 = 0 → onesided2twosided (repOne n S) = repTwo n S) := by
  refine ⟨twosided2onesided_repTwo hn hS, fftshift_repTwo n S, ifftshift_repCenter n S, ?_⟩
  intro he
  exact unfoldOne_repOne h2 hn hS false (by simp; omega)

/-- the shifts need neither the symmetry `hS` nor `h2` (items 2–3 of `helpers_refine` without hypotheses) -/
theorem shifts_refine (n : ℕ) (S : ℕ → K) :
    fftshift (repTwo n S) = repCenter n S ∧ ifftshift (repCenter n S) = repTwo n S :=
  ⟨fftshift_repTwo n S, ifftshift_repCenter n S⟩

/-- **length**: the representation for sides `t` is as long as the frequency axis `Range(n).…(t)` -/
theorem length_eq_axis (t : Side) (n : ℕ) (S : ℕ → K) :
    (rep t n S).length = (rangeBins t n).length := by
  rw [rangeBins_length]
  cases t <;> simp [rep]

/-- **frequency alignment**: entry `i` holds the spectrum at the bin that the axis reports at index
`i`: `S` at that bin (mod `n`) for two-sided and centre-DC, `S` folded over `±bin` for one-sided. -/
theorem axis_aligned {n : ℕ} (hn : 1 ≤ n) (S : ℕ → K) (t : Side) (i : ℕ)
    (hi : i < (rangeBins t n).length) :
    nth (rep t n S) i = binValue t n S ((rangeBins t n)[i]) := by
  cases t
  · simp only [rep, binValue]
    rw [rangeBins_one_getElem]
    exact nth_repOne_eq_foldBin hn S (Nat.lt_of_lt_of_eq hi (rangeBins_length .one n))
  · have hin : i < n := Nat.lt_of_lt_of_eq hi (rangeBins_length .two n)
    simp only [rep, binValue]
    rw [rangeBins_two_getElem, binIdx_natCast hin, nth_repTwo hin]
  · have hin : i < n := Nat.lt_of_lt_of_eq hi (rangeBins_length .center n)
    simp only [rep, binValue]
    rw [rangeBins_center_getElem, binIdx_center, nth_repCenter hin]

/-- the bins reported by the axes: `k` for one- and two-sided, `a - n/2` for centre-DC. -/
theorem axis_bins (n i : ℕ) :
    (∀ h : i < (rangeBins .one n).length, (rangeBins .one n)[i] = (i : Int))
    ∧ (∀ h : i < (rangeBins .two n).length, (rangeBins .two n)[i] = (i : Int))
    ∧ (∀ h : i < (rangeBins .center n).length,
        (rangeBins .center n)[i] = (i : Int) - ((n / 2 : ℕ) : Int)) :=
  ⟨rangeBins_one_getElem n i, rangeBins_two_getElem n i, rangeBins_center_getElem n i⟩

/-- **power**: every representation sums to the two-sided total `Σ_{k<n} S k` (folding needs no
symmetry for this). -/
theorem power_preserved {n : ℕ} (hn : 1 ≤ n) (S : ℕ → K) (t : Side) :
    (rep t n S).sum = ∑ k ∈ range n, S k := by
  cases t
  · exact repOne_sum hn S
  · exact vec_sum n S
  · exact repCenter_sum n S

theorem convert_power (h2 : (2 : K) ≠ 0) {n : ℕ} (hn : 1 ≤ n) {S : ℕ → K} (hS : SymmSpec n S)
    (s t : Side) :
    ∃ q, convert s t false n (rep s n S) = some q ∧ q.sum = (rep s n S).sum :=
  ⟨rep t n S, convert_refines h2 hn hS s t, by rw [power_preserved hn, power_preserved hn]⟩

/-- **path independence, real data**: any sequence `ts` of conversions (of any length) starting from
the representation for `s` succeeds and ends at the representation for the last side of the list. -/
theorem path_independent (h2 : (2 : K) ≠ 0) {n : ℕ} (hn : 1 ≤ n) {S : ℕ → K} (hS : SymmSpec n S)
    (ts : List Side) (s : Side) :
    convertPath false n s ts (rep s n S) = some (rep (ts.getLastD s) n S) :=
  path_of_refines (fun _ => True) false n S (fun s t _ _ => convert_refines h2 hn hS s t) ts s trivial
    fun _ _ => trivial

/-- … hence any path gives the same PSD as the direct conversion to its final side. -/
theorem path_eq_direct (h2 : (2 : K) ≠ 0) {n : ℕ} (hn : 1 ≤ n) {S : ℕ → K} (hS : SymmSpec n S)
    (ts : List Side) (s : Side) :
    convertPath false n s ts (rep s n S) = convert s (ts.getLastD s) false n (rep s n S) := by
  rw [path_independent h2 hn hS, convert_refines h2 hn hS]

/-- **path independence, any data**: paths that never visit 'onesided' need no symmetry. -/
theorem path_independent_twosided (n : ℕ) (S : ℕ → K) (isComplex : Bool)
    (ts : List Side) (s : Side) (hs : s ≠ .one) (hts : ∀ t ∈ ts, t ≠ .one) :
    convertPath isComplex n s ts (rep s n S) = some (rep (ts.getLastD s) n S) :=
  path_of_refines (· ≠ .one) isComplex n S (convert_refines_twosided n S isComplex) ts s hs hts

/-- **round trip**: a path that returns to the original sides restores the stored values exactly. -/
theorem roundtrip (h2 : (2 : K) ≠ 0) {n : ℕ} (hn : 1 ≤ n) {S : ℕ → K} (hS : SymmSpec n S)
    (ts : List Side) (s : Side) (hback : ts.getLastD s = s) :
    convertPath false n s ts (rep s n S) = some (rep s n S) := by
  rw [path_independent h2 hn hS, hback]

/-- **every stored PSD is covered**: any list as long as the axis for `s` is the representation of
some spectrum (a symmetric one for one-sided data), so the theorems above speak about all stored
values, not about a special family. -/
theorem rep_complete (n : ℕ) (s : Side) (h2 : s = .one → (2 : K) ≠ 0) (p : List K)
    (hp : p.length = (rangeBins s n).length) :
    ∃ S : ℕ → K, (s = .one → SymmSpec n S) ∧ rep s n S = p := by
  rw [rangeBins_length] at hp
  cases s
  · exact ⟨unfoldSpec n p, fun _ => unfoldSpec_symm n p, repOne_complete (h2 rfl) p hp⟩
  · exact ⟨nth p, (fun h => by cases h), repTwo_complete p hp⟩
  · exact ⟨fun k => nth p ((k + n / 2) % n), (fun h => by cases h), repCenter_complete (n := n) p hp⟩

/-- **one-sided data, stated on the stored list**: any one-sided list `p` (length `n/2+1`) converts to
a two-sided list that carries `p k / 2` at both `+k` and `-k` (`= n - k`) for interior `k`, and `p k`
unsplit at DC and Nyquist. -/
theorem onesided_split (h2 : (2 : K) ≠ 0) {n : ℕ} (hn : 1 ≤ n) (p : List K)
    (hp : p.length = n / 2 + 1) :
    ∃ q, convert .one .two false n p = some q ∧ q.length = n ∧ nth q 0 = nth p 0
      ∧ (n % 2 = 0 → nth q (n / 2) = nth p (n / 2))
      ∧ ∀ k, 0 < k → 2 * k < n → nth q k = nth p k / 2 ∧ nth q (n - k) = nth p k / 2 := by
  have _ := h2  -- not needed: the halves are what `unfoldSpec` holds, whether or not they can be doubled back
  refine ⟨_, convert_one_two hn p hp, repTwo_length _ _, ?_, ?_, ?_⟩
  · rw [nth_repTwo hn, unfoldSpec_zero]
  · intro he
    have hhalf : 2 * (n / 2) = n := Nat.mul_div_cancel' (Nat.dvd_of_mod_eq_zero he)
    have h0 : 0 < n / 2 := by omega
    rw [nth_repTwo (Nat.div_lt_self hn Nat.one_lt_two), unfoldSpec_nyq h0 hhalf]
  · intro k h0 hk
    have hkn : k < n := lt_of_two_mul_lt hk
    rw [nth_repTwo hkn, nth_repTwo (Nat.sub_lt hn h0), unfoldSpec_pos h0 hk,
      unfoldSpec_neg (lt_two_mul_sub hk), Nat.sub_sub_self hkn.le]
    exact ⟨rfl, rfl⟩

/-- **path independence on stored lists, real data** (stored one-sided, the library's default for
real data): two conversion paths from the same stored PSD that end at the same sides give the same
list; it has the length of that axis and the same total. -/
theorem stored_path_independent (h2 : (2 : K) ≠ 0) {n : ℕ} (hn : 1 ≤ n) (p : List K)
    (hp : p.length = (rangeBins .one n).length) (ts ts' : List Side)
    (hlast : ts.getLastD .one = ts'.getLastD .one) :
    convertPath false n .one ts p = convertPath false n .one ts' p
    ∧ ∃ q, convertPath false n .one ts p = some q
        ∧ q.length = (rangeBins (ts.getLastD .one) n).length ∧ q.sum = p.sum := by
  obtain ⟨S, hS, rfl⟩ := rep_complete n .one (fun _ => h2) p hp
  have hS := hS rfl
  rw [path_independent h2 hn hS ts, path_independent h2 hn hS ts', hlast]
  exact ⟨rfl, _, rfl, length_eq_axis .., by rw [power_preserved hn, power_preserved hn]⟩

/-- **path independence on stored lists, any data** (stored two-sided or centre-DC, paths that stay
among those two): same statement, no symmetry and no hypothesis on `2`. -/
theorem stored_path_independent_twosided {n : ℕ} (hn : 1 ≤ n) (isComplex : Bool) (s : Side)
    (hs : s ≠ .one) (p : List K) (hp : p.length = (rangeBins s n).length) (ts ts' : List Side)
    (hts : ∀ t ∈ ts, t ≠ .one) (hts' : ∀ t ∈ ts', t ≠ .one)
    (hlast : ts.getLastD s = ts'.getLastD s) :
    convertPath isComplex n s ts p = convertPath isComplex n s ts' p
    ∧ ∃ q, convertPath isComplex n s ts p = some q
        ∧ q.length = (rangeBins (ts.getLastD s) n).length ∧ q.sum = p.sum := by
  obtain ⟨S, -, rfl⟩ := rep_complete n s (fun h => absurd h hs) p hp
  rw [path_independent_twosided n S isComplex ts s hs hts,
    path_independent_twosided n S isComplex ts' s hs hts', hlast]
  exact ⟨rfl, _, rfl, length_eq_axis .., by rw [power_preserved hn, power_preserved hn]⟩

/-- a symmetric, non-constant spectrum of `n = 4` bins over `ℚ` (where `2 ≠ 0`) -/
example : SymmSpec 4 (fun k => ([1, 2, 3, 2] : List ℚ).getD k 0) ∧ (2 : ℚ) ≠ 0 := by
  refine ⟨?_, by norm_num⟩
  intro k h0 h4
  obtain rfl | rfl | rfl : k = 1 ∨ k = 2 ∨ k = 3 := by omega
  all_goals rfl

example : rep .one 4 (fun k => ([1, 2, 3, 2] : List ℚ).getD k 0) = [1, 4, 3]
    ∧ rep .two 4 (fun k => ([1, 2, 3, 2] : List ℚ).getD k 0) = [1, 2, 3, 2]
    ∧ rep .center 4 (fun k => ([1, 2, 3, 2] : List ℚ).getD k 0) = [3, 2, 1, 2] := by
  decide +kernel

/-- even NFFT: one-sided `[1,4,3]` → centre-DC (interior value split, Nyquist not) -/
example : convert .one .center false 4 ([1, 4, 3] : List ℚ) = some [3, 2, 1, 2] := by
  decide +kernel

/-- odd NFFT: a three-step path returning to one-sided restores the stored values -/
example : convertPath false 5 .one [.center, .two, .one] ([1, 4, 6] : List ℚ) = some [1, 4, 6] := by
  decide +kernel

/-! instantiation at `CRat`: plain application, see `Lemmas/CRatField.lean`; the `example … := rfl` lines check that the `Field`
path elaborates to the model's own instances -/
section CRatInstantiation

/-- **`stored_path_independent` for the executed model**: `2 ≠ 0` holds in `CRat` (characteristic zero),
so the hypothesis `h2` of the generic theorem disappears -/
theorem stored_path_independent_CRat {n : ℕ} (hn : 1 ≤ n) (p : List CRat)
    (hp : p.length = (rangeBins .one n).length) (ts ts' : List Side)
    (hlast : ts.getLastD .one = ts'.getLastD .one) :
    convertPath false n .one ts p = convertPath false n .one ts' p
    ∧ ∃ q, convertPath false n .one ts p = some q
        ∧ q.length = (rangeBins (ts.getLastD .one) n).length ∧ q.sum = p.sum :=
  stored_path_independent two_ne_zero hn p hp ts ts' hlast

example : (fun (K : Type) [Field K] => (convert : _ → _ → _ → _ → List K → _)) CRat
    = @convert CRat CRat.instMul CRat.instDiv CRat.instOfNatOfNatNat CRat.instNatCast := rfl
example : @convert CRat CRat.instMul CRat.instDiv CRat.instOfNatOfNatNat CRat.instNatCast
    = convert := rfl

end CRatInstantiation

/-! ## the frequency axes of the model ARE the library's source

`Src.onesidedBins`, `Src.twosidedBins`, `Src.centerdcBins` (`Generated/RangeSrc.lean`) are translated on every run from the
abstract syntax tree of `Range.onesided_gen` / `twosided_gen` / `centerdc_gen` (`harness/srcgen.py`; every generator yields
`<integer bin> * self.df`, the translation lists the bins).  The model's `rangeBins` — the axis every length / alignment theorem
above is about — equals that translation for every NFFT: for the axes the tie between model and code is this theorem, re-checked
by the kernel against what the source says now. -/

section SourceTie

theorem rangeBins_two_eq_source (n : ℕ) : rangeBins .two n = Src.twosidedBins n := by
  simp [rangeBins, Src.twosidedBins, Src.pyRange, List.map_map]

theorem rangeBins_center_eq_source (n : ℕ) : rangeBins .center n = Src.centerdcBins n := by
  simp [rangeBins, Src.centerdcBins, Src.pyRange, List.map_map]

theorem rangeBins_one_eq_source (n : ℕ) : rangeBins .one n = Src.onesidedBins n := by
  have h1 : ((n : ℤ) / 2 + 1) = ((n / 2 + 1 : ℕ) : ℤ) := by push_cast; rfl
  have h2 : (((n : ℤ) + 1) / 2) = (((n + 1) / 2 : ℕ) : ℤ) := by push_cast; rfl
  have hc : ((n : ℤ) % 2 = 0) ↔ (n % 2 = 0) := by omega
  have hpy : ∀ m : ℕ, Src.pyRange 0 (m : ℤ) = (List.range m).map (fun (k : ℕ) => (k : ℤ)) := fun m => by
    simp [Src.pyRange]
  simp only [rangeBins, Src.onesidedBins, h1, h2, hc, hpy, List.map_map]
  split <;> rfl

theorem rangeBins_eq_source (sd : Side) (n : ℕ) :
    rangeBins sd n = match sd with
      | .one => Src.onesidedBins n | .two => Src.twosidedBins n | .center => Src.centerdcBins n := by
  cases sd
  · exact rangeBins_one_eq_source n
  · exact rangeBins_two_eq_source n
  · exact rangeBins_center_eq_source n

/-- the translated source is not a degenerate term -/
example : Src.onesidedBins 6 = [0, 1, 2, 3] ∧ Src.onesidedBins 5 = [0, 1, 2] ∧ Src.centerdcBins 5 = [-2, -1, 0, 1, 2] := by
  decide

end SourceTie

end SpecVerif.C06
