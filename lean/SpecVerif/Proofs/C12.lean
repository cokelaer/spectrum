import SpecVerif.Proofs.Lemmas.Yule
import SpecVerif.Proofs.Lemmas.LinPred
import SpecVerif.Proofs.Lemmas.Lpc
import Mathlib.Analysis.Complex.Basic
import Mathlib.Algebra.Star.Rat
/-
  C12 — the Yule–Walker estimator `aryule` (biased autocorrelation + Levinson) and the two-stage
  moving-average estimator `maEstimate`.

  `K` is any field with an involution; the order-dependent clauses (positive
  variance, `|k_i| < 1`, positive definiteness, uniqueness of the least-squares solution) are stated for
  `F` with `[RCLike F]`, i.e. for real *and* complex data.

  Conventions of the model: `nth l i` is zero-padded indexing, `N = x.length`, the biased lag `k` is
  `Σ_{j<N-k} x[j+k]·conj x[j] / N`; `(aryule x p .biased).A` are the coefficients `a_1..a_p` (no
  leading 1), `.P` the noise variance, `.ref` the reflection coefficients.  "`x` is not the zero
  signal" is `∃ j, j < x.length ∧ nth x j ≠ 0`.  `mentry (corrmtx x p .autocorrelation) i j` is entry
  `(i,j)` of the `(N+p)×(p+1)` 'autocorrelation' data matrix, the zero-padded `x[i-j]`.

  `lpc`: the DFT is the model's parameter (a primitive `nfft`-th root of unity `ω` with `star ω = ω⁻¹`);
  with `nfft ≥ 2m-1` there is no wrap-around, the FFT lags are `m/(m-1)` times the biased lags for real
  data, and Levinson is invariant under that scaling.
-/
namespace SpecVerif.C12
open Finset SpecVerif SpecVerif.YuleL

section Generic
variable {K : Type} [Field K] [StarRing K]

/-- **`aryule` = Levinson on the biased lags**: `r0 = re r[0]`, `T = r[1..p]` with
`r[k] = Σ_{j<N-k} x[j+k]·conj x[j] / N`; `p` coefficients and `p` reflection coefficients come back. -/
theorem aryule_eq (x : List K) (p : ℕ) :
    aryule x p .biased
        = levRun (rePart (nth (correlation x x p .biased 1) 0)) (correlation x x p .biased 1).tail p
    ∧ (correlation x x p .biased (1 : K)).tail.length = p
    ∧ (∀ j, j < p → nth (correlation x x p .biased (1 : K)).tail j
        = (∑ n ∈ range (x.length - (j + 1)), nth x (n + (j + 1)) * star (nth x n)) / (x.length : K))
    ∧ nth (correlation x x p .biased (1 : K)) 0
        = (∑ n ∈ range x.length, nth x n * star (nth x n)) / (x.length : K)
    ∧ (aryule x p .biased).A.length = p ∧ (aryule x p .biased).ref.length = p := by
  refine ⟨rfl, yuleT_length x p 1, ?_, ?_, aryule_A_length x p, aryule_ref_length x p⟩
  · intro j hj
    rw [nth_tail, nth_biased x p (j + 1) (by omega) 1]
  · rw [nth_biased x p 0 (Nat.zero_le _) 1]
    rfl

/-- lag 0 is real (`2 ≠ 0`): taking the real part changes nothing, so `aryule` is Levinson on
`r[0], r[1..p]` -/
theorem aryule_r0_real (x : List K) (p : ℕ) (h2 : (2 : K) ≠ 0) :
    star (nth (correlation x x p .biased (1 : K)) 0) = nth (correlation x x p .biased (1 : K)) 0
    ∧ rePart (nth (correlation x x p .biased (1 : K)) 0) = nth (correlation x x p .biased (1 : K)) 0
    ∧ aryule x p .biased
        = levRun (nth (correlation x x p .biased 1) 0) (correlation x x p .biased 1).tail p :=
  ⟨(biased_r0_eq_meanPow x p 1).2, rePart_r0 x p 1 h2, aryule_eq_levRun x p h2⟩

/-- **injectivity**: if `x` is not the zero signal, `X v = 0` forces `v = 0` for the
`(N+m)×(m+1)` 'autocorrelation' data matrix `X[i][j] = x[i-j]` (any field). -/
theorem autocorr_matrix_injective (x : List K) (m : ℕ) (hx : ∃ j, j < x.length ∧ nth x j ≠ 0)
    (v : ℕ → K)
    (hv : ∀ i, i < x.length + m →
      ∑ j ∈ range (m + 1), mentry (corrmtx x m .autocorrelation) i j * v j = 0) :
    ∀ j, j ≤ m → v j = 0 :=
  corrmtx_injective x m hx v hv

/-- non-vacuity: `x = [0, 3, 1]` over `ℚ` is not the zero signal (its first sample is zero) -/
example : ∃ j, j < ([0, 3, 1] : List ℚ).length ∧ nth ([0, 3, 1] : List ℚ) j ≠ 0 :=
  ⟨1, by simp, by simp [nth]⟩

/-- **matching property, any field**: when the returned variance is non-zero (and `2 ≠ 0`, `p ≥ 1`),
`poly2ac` (= `rlevinson`) of the Yule–Walker polynomial and variance returns exactly the biased lags
`0..p` of the data. -/
theorem yule_matches_acf_of_ne_zero (x : List K) (p : ℕ) (hp : 1 ≤ p) (h2 : (2 : K) ≠ 0)
    (hP : (aryule x p .biased).P ≠ 0) :
    poly2ac (aryule x p .biased).A (aryule x p .biased).P = correlation x x p .biased 1
    ∧ ∀ k, k ≤ p → nth (poly2ac (aryule x p .biased).A (aryule x p .biased).P) k
        = (∑ j ∈ range (x.length - k), nth x (j + k) * star (nth x j)) / (x.length : K) := by
  have hlen := yuleT_length x p (1 : K)
  have hT : (correlation x x p .biased (1 : K)).tail ≠ [] :=
    List.ne_nil_of_length_pos (by rw [hlen]; omega)
  have h : poly2ac (aryule x p .biased).A (aryule x p .biased).P
      = correlation x x p .biased 1 := by
    rw [aryule_eq_levRun x p h2] at hP ⊢
    have hP' : (levRun (nth (correlation x x p .biased 1) 0) (correlation x x p .biased 1).tail
        (correlation x x p .biased (1 : K)).tail.length).P ≠ 0 := by
      rw [hlen]; exact hP
    have := rc2ac_levRun _ _ hT hP'
    rw [rc2ac_eq, rc2poly_levRun_ref, hlen] at this
    rw [this, cons_nth_tail _ (yuleR_ne_nil x p 1)]
  refine ⟨h, ?_⟩
  intro k hk
  rw [h, nth_biased x p k hk 1]

/-- **normal equations, any field**: with `e_i = X[i][0] + Σ_{j<p} X[i][j+1]·a_j` the residual of the
least-squares problem `min ‖X₁ + X_c a‖²` on the 'autocorrelation' data matrix, the Yule–Walker
coefficients satisfy `X_cᴴ e = 0` (columns `b = 1..p`), and `X₁ᴴ e = N·P` — provided `N ≠ 0`,
`2 ≠ 0` in `K` and the returned variance is non-zero. -/
theorem yule_eq_ls_of_ne_zero (x : List K) (p : ℕ) (h2 : (2 : K) ≠ 0) (hN : (x.length : K) ≠ 0)
    (hP : (aryule x p .biased).P ≠ 0) :
    (∀ b, 1 ≤ b → b ≤ p →
      ∑ i ∈ range (x.length + p), star (mentry (corrmtx x p .autocorrelation) i b)
        * (mentry (corrmtx x p .autocorrelation) i 0
            + ∑ j ∈ range p, mentry (corrmtx x p .autocorrelation) i (j + 1)
                * nth (aryule x p .biased).A j) = 0)
    ∧ ∑ i ∈ range (x.length + p), star (mentry (corrmtx x p .autocorrelation) i 0)
        * (mentry (corrmtx x p .autocorrelation) i 0
            + ∑ j ∈ range p, mentry (corrmtx x p .autocorrelation) i (j + 1)
                * nth (aryule x p .biased).A j) = (x.length : K) * (aryule x p .biased).P := by
  constructor
  · intro b hb1 hb
    rw [aryule_normal_rows x p h2 hN hP b hb, if_neg (by omega)]
  · rw [aryule_normal_rows x p h2 hN hP 0 (Nat.zero_le _), if_pos rfl]

/-- non-vacuity of the hypotheses `2 ≠ 0`, `N ≠ 0`, `P ≠ 0`: `x = [1, 2, 3]` over `ℚ`, order 1, has
`r = [14/3, 8/3]`, `a_1 = -4/7` and variance `22/7` -/
example : (2 : ℚ) ≠ 0 ∧ ((([1, 2, 3] : List ℚ).length : ℕ) : ℚ) ≠ 0
    ∧ (aryule ([1, 2, 3] : List ℚ) 1 .biased).A = [-4 / 7]
    ∧ (aryule ([1, 2, 3] : List ℚ) 1 .biased).P = 22 / 7 := by
  decide +kernel

end Generic

section RC
variable {F : Type} [RCLike F]

/-- **positive definiteness**: for a non-zero signal the Hermitian Toeplitz form of the biased
autocorrelation on the leading `(p+1)×(p+1)` block is positive definite, for every `p` (even
`p ≥ N`): `vᴴ T v = ‖X v‖²/N > 0` for `v ≠ 0`. -/
theorem yule_toeplitz_pd (x : List F) (hx : ∃ j, j < x.length ∧ nth x j ≠ 0) (p : ℕ) (rms2 : F)
    (v : ℕ → F) (hv : ∃ i, i ≤ p ∧ v i ≠ 0) :
    ∑ a ∈ range (p + 1), ∑ b ∈ range (p + 1),
        star (v a) * hermToep (correlation x x p .biased rms2) a b * v b
      = (((∑ i ∈ range (x.length + p),
            ‖∑ b ∈ range (p + 1), mentry (corrmtx x p .autocorrelation) i b * v b‖ ^ 2)
          / (x.length : ℝ) : ℝ) : F)
    ∧ 0 < (∑ i ∈ range (x.length + p),
            ‖∑ b ∈ range (p + 1), mentry (corrmtx x p .autocorrelation) i b * v b‖ ^ 2)
          / (x.length : ℝ) := by
  have h := quad_form_eq_rc x (length_pos_of_nonzero x hx) p rms2 v
  refine ⟨h, ?_⟩
  obtain ⟨i, hi, hvi⟩ := hv
  have hpos := toeplitz_pd_rc x hx p rms2 v ⟨i, Nat.lt_succ_of_le hi, hvi⟩
  rwa [h, RCLike.ofReal_re] at hpos

/-- **stable parameters**: for a non-zero real or complex signal and every order `p` (no `p < N`
needed) the Yule–Walker variance is real and `> 0` and every reflection coefficient has modulus
`< 1`. -/
theorem yule_stable_params (x : List F) (hx : ∃ j, j < x.length ∧ nth x j ≠ 0) (p : ℕ) :
    star (aryule x p .biased).P = (aryule x p .biased).P
    ∧ 0 < RCLike.re (aryule x p .biased).P
    ∧ ∀ i, i < p → ‖nth (aryule x p .biased).ref i‖ < 1 :=
  YuleL.yule_stable_params x hx p

/-- the last coefficient of the polynomial is the last reflection coefficient, hence of modulus
`< 1` (necessary for all roots to be inside the unit circle: it is ± their product) -/
theorem yule_last_coeff_lt_one (x : List F) (hx : ∃ j, j < x.length ∧ nth x j ≠ 0) (p : ℕ) :
    ‖nth (aryule x (p + 1) .biased).A p‖ < 1 :=
  YuleL.yule_last_coeff_lt_one x hx p

/-- non-vacuity: a real and a complex non-zero signal -/
example : ∃ j, j < ([1, -2, 3] : List ℝ).length ∧ nth ([1, -2, 3] : List ℝ) j ≠ 0 :=
  ⟨0, by simp, by simp [nth]⟩

example : ∃ j, j < ([0, Complex.I] : List ℂ).length ∧ nth ([0, Complex.I] : List ℂ) j ≠ 0 :=
  ⟨1, by simp, by simp [nth]⟩

/-- **matching property**: for a non-zero real or complex signal and `p ≥ 1`, the first `p+1`
autocorrelation lags implied by the fitted AR model (`poly2ac` = `rlevinson` of the polynomial and the
variance) are the biased sample autocorrelation lags of the data. -/
theorem yule_matches_acf (x : List F) (hx : ∃ j, j < x.length ∧ nth x j ≠ 0) (p : ℕ) (hp : 1 ≤ p) :
    poly2ac (aryule x p .biased).A (aryule x p .biased).P = correlation x x p .biased 1
    ∧ ∀ k, k ≤ p → nth (poly2ac (aryule x p .biased).A (aryule x p .biased).P) k
        = (∑ j ∈ range (x.length - k), nth x (j + k) * star (nth x j)) / (x.length : F) :=
  yule_matches_acf_of_ne_zero x p hp two_ne_zero (aryule_P_ne_zero x hx p)

/-- **Yule–Walker = least squares (autocorrelation method)**: the coefficients satisfy the normal
equations `X_cᴴ (X₁ + X_c a) = 0`, and `X₁ᴴ (X₁ + X_c a) = N·P`. -/
theorem yule_eq_ls (x : List F) (hx : ∃ j, j < x.length ∧ nth x j ≠ 0) (p : ℕ) :
    (∀ b, 1 ≤ b → b ≤ p →
      ∑ i ∈ range (x.length + p), star (mentry (corrmtx x p .autocorrelation) i b)
        * (mentry (corrmtx x p .autocorrelation) i 0
            + ∑ j ∈ range p, mentry (corrmtx x p .autocorrelation) i (j + 1)
                * nth (aryule x p .biased).A j) = 0)
    ∧ ∑ i ∈ range (x.length + p), star (mentry (corrmtx x p .autocorrelation) i 0)
        * (mentry (corrmtx x p .autocorrelation) i 0
            + ∑ j ∈ range p, mentry (corrmtx x p .autocorrelation) i (j + 1)
                * nth (aryule x p .biased).A j) = (x.length : F) * (aryule x p .biased).P := by
  exact yule_eq_ls_of_ne_zero x p two_ne_zero (length_cast_ne_zero x hx) (aryule_P_ne_zero x hx p)

/-- **uniqueness**: the normal equations have no other solution (`XᴴX` is positive definite), so the
Yule–Walker coefficients are *the* least-squares solution. -/
theorem yule_ls_unique (x : List F) (hx : ∃ j, j < x.length ∧ nth x j ≠ 0) (p : ℕ) (a : ℕ → F)
    (ha : ∀ b, 1 ≤ b → b ≤ p →
      ∑ i ∈ range (x.length + p), star (mentry (corrmtx x p .autocorrelation) i b)
        * (mentry (corrmtx x p .autocorrelation) i 0
            + ∑ j ∈ range p, mentry (corrmtx x p .autocorrelation) i (j + 1) * a j) = 0) :
    ∀ j, j < p → a j = nth (aryule x p .biased).A j :=
  normal_eq_unique (x.length + p) p (fun i j => mentry (corrmtx x p .autocorrelation) i j)
    (fun v hv => corrmtx_injective x p hx v hv) a (nth (aryule x p .biased).A) ha
    (yule_eq_ls x hx p).1

/-- **Yule–Walker minimises the least-squares criterion**: for any other coefficients `a'`,
`‖X₁ + X_c a'‖² = ‖X₁ + X_c a‖² + ‖X_c (a' - a)‖²`, and the minimum `‖X₁ + X_c a‖²` is `N·P`
(`P` the returned variance, which is real). -/
theorem yule_ls_minimum (x : List F) (hx : ∃ j, j < x.length ∧ nth x j ≠ 0) (p : ℕ) (a' : ℕ → F) :
    ∑ i ∈ range (x.length + p), ‖mentry (corrmtx x p .autocorrelation) i 0
          + ∑ j ∈ range p, mentry (corrmtx x p .autocorrelation) i (j + 1) * a' j‖ ^ 2
      = ∑ i ∈ range (x.length + p), ‖mentry (corrmtx x p .autocorrelation) i 0
          + ∑ j ∈ range p, mentry (corrmtx x p .autocorrelation) i (j + 1)
              * nth (aryule x p .biased).A j‖ ^ 2
        + ∑ i ∈ range (x.length + p), ‖∑ j ∈ range p,
            mentry (corrmtx x p .autocorrelation) i (j + 1)
              * (a' j - nth (aryule x p .biased).A j)‖ ^ 2
    ∧ ∑ i ∈ range (x.length + p), ‖mentry (corrmtx x p .autocorrelation) i 0
          + ∑ j ∈ range p, mentry (corrmtx x p .autocorrelation) i (j + 1)
              * nth (aryule x p .biased).A j‖ ^ 2
        = (x.length : ℝ) * RCLike.re (aryule x p .biased).P := by
  constructor
  · exact ls_pythagoras (x.length + p) p (fun i j => mentry (corrmtx x p .autocorrelation) i j)
      (nth (aryule x p .biased).A) a' (yule_eq_ls x hx p).1
  · have h := aryule_resid_energy x p two_ne_zero (length_cast_ne_zero x hx)
      (aryule_P_ne_zero x hx p)
    rw [sum_star_mul_self_eq] at h
    have h' := congrArg RCLike.re h
    rwa [RCLike.ofReal_re, ← RCLike.ofReal_natCast, RCLike.re_ofReal_mul] at h'

end RC

section MA
variable {K : Type} [Field K] [StarRing K]

/-- **`ma` = two Yule–Walker fits**: it returns iff `0 < Q < M`, and then the MA coefficients are the
AR(`Q`) Yule–Walker coefficients of the sequence `[1, a_1..a_M]` of the long AR(`M`) fit and the
variance is that of the long fit. -/
theorem ma_eq_two_yule (x : List K) (Q M : ℕ) (b : List K) (rho : K) :
    maEstimate x Q M = .ok (b, rho) ↔
      0 < Q ∧ Q < M ∧ b = (aryule ((1 : K) :: (aryule x M .biased).A) Q .biased).A
        ∧ rho = (aryule x M .biased).P :=
  YuleL.ma_eq_two_yule x Q M b rho

theorem ma_error (x : List K) (Q M : ℕ) :
    maEstimate x Q M = .error "value" ↔ Q = 0 ∨ Q ≥ M :=
  YuleL.ma_error x Q M

theorem ma_length (x : List K) (Q M : ℕ) (b : List K) (rho : K)
    (h : maEstimate x Q M = .ok (b, rho)) : b.length = Q :=
  YuleL.ma_length x Q M b rho h

/-- non-vacuity: `Q = 1`, `M = 2` is admissible -/
example : (0 : ℕ) < 1 ∧ (1 : ℕ) < 2 := by omega

end MA

section Stability
variable {F : Type} [RCLike F]

/-- **stability, every order**: for a non-zero real or complex signal and every order `p`, every root
`z` of the Yule–Walker prediction polynomial `A(z) = z^p + a_1 z^{p-1} + … + a_p` (the polynomial
`[1, a_1..a_p]` handed to `numpy.roots`) lies strictly inside the unit circle: the fitted AR model is
stable. -/
theorem yule_stable (x : List F) (hx : ∃ j, j < x.length ∧ nth x j ≠ 0) (p : ℕ) (z : F)
    (hz : z ^ p + ∑ j ∈ range p, nth (aryule x p .biased).A j * z ^ (p - 1 - j) = 0) :
    ‖z‖ < 1 :=
  YuleL.yule_stable x hx p z hz

theorem yule_stable_order1 (x : List F) (hx : ∃ j, j < x.length ∧ nth x j ≠ 0)
    (z : F) (hz : z + nth (aryule x 1 .biased).A 0 = 0) : ‖z‖ < 1 := by
  refine yule_stable x hx 1 z ?_
  rw [pow_one, Finset.sum_range_one, Nat.sub_zero, Nat.sub_self, pow_zero, mul_one]
  exact hz

/-- `yule_stable` with `SchurL.polyA`: no zero on or outside the unit circle -/
theorem yule_stable_polyA (x : List F) (hx : ∃ j, j < x.length ∧ nth x j ≠ 0) (p : ℕ) (z : F)
    (hz : 1 ≤ ‖z‖) : SchurL.polyA (aryule x p .biased).A z ≠ 0 := by
  intro h
  rw [SchurL.polyA_eq _ p (aryule_A_length x p)] at h
  exact absurd (yule_stable x hx p z h) (not_lt.mpr hz)

/-- **no pole on the frequency grid**: the polynomial `1 + a_1 w + … + a_p w^p` evaluated by the PSD
code has no zero in the closed unit disc, in particular none with `|w| = 1`. -/
theorem yule_no_unit_zeros (x : List F) (hx : ∃ j, j < x.length ∧ nth x j ≠ 0) (p : ℕ) (w : F)
    (hw : ‖w‖ ≤ 1) : 1 + ∑ j ∈ range p, nth (aryule x p .biased).A j * w ^ (j + 1) ≠ 0 :=
  YuleL.yule_no_unit_zeros x hx p w hw

/-- non-vacuity: a non-zero real signal, order 2 (the hypothesis is the same as in
`yule_stable_params`) -/
example : ∃ j, j < ([1, -2, 3, 1] : List ℝ).length ∧ nth ([1, -2, 3, 1] : List ℝ) j ≠ 0 :=
  ⟨0, by simp, by simp [nth]⟩

example (x : List F) (hx : ∃ j, j < x.length ∧ nth x j ≠ 0)
    (z : F) (hz : z + nth (aryule x 1 .biased).A 0 = 0) : ‖z‖ < 1 :=
  yule_stable_order1 x hx z hz

end Stability

section Lpc
variable {K : Type} [Field K] [StarRing K]

/-- **the autocorrelation sequence of `lpc`**: `R = real(ifft(|fft(x, nfft)|²))/(m-1)` with
`nfft ≥ 2m-1` (`m = len x`, the code takes `nfft = 2**nextpow2(2m-1)`), `ω` a primitive `nfft`-th root
of unity with `conj ω = ω⁻¹` (`fft` uses the table of `ω`, `ifft` the table of `ω⁻¹` and the factor
`1/nfft`): every lag `d < m` is the real part of the raw autocorrelation `Σ_{n<m-d} x[n+d]·conj x[n]`
divided by `m-1` — no circular wrap-around. -/
theorem lpc_acf_eq {ω : K} {nfft : ℕ} (hω : IsPrimitiveRoot ω nfft) (hstar : star ω = ω⁻¹)
    (hn0 : (nfft : K) ≠ 0) (x : List K) (hnfft : 2 * x.length - 1 ≤ nfft) (d : ℕ)
    (hd : d < x.length) :
    nth (lpcAcf (twiddles ω nfft) (twiddles ω⁻¹ nfft) x nfft) d
      = rePart (∑ n ∈ range (x.length - d), nth x (n + d) * star (nth x n))
          / ((x.length - 1 : ℕ) : K) :=
  LpcL.lpcAcf_eq hω hstar hn0 x hnfft d hd

/-- for real data (every sample self-adjoint) the sequence handed to LEVINSON by `lpc` is
`m/(m-1)` times the biased autocorrelation used by `aryule`, at every lag `d ≤ maxlags`, `d < m` -/
theorem lpc_acf_real {ω : K} {nfft : ℕ} (hω : IsPrimitiveRoot ω nfft) (hstar : star ω = ω⁻¹)
    (h2 : (2 : K) ≠ 0) (hn0 : (nfft : K) ≠ 0) (x : List K)
    (hreal : ∀ n, star (nth x n) = nth x n) (hm1 : ((x.length - 1 : ℕ) : K) ≠ 0)
    (hm : (x.length : K) ≠ 0) (hnfft : 2 * x.length - 1 ≤ nfft) (maxlags d : ℕ)
    (hd : d < x.length) (hdl : d ≤ maxlags) (rms2 : K) :
    nth (lpcAcf (twiddles ω nfft) (twiddles ω⁻¹ nfft) x nfft) d
      = (x.length : K) / ((x.length - 1 : ℕ) : K) * nth (correlation x x maxlags .biased rms2) d := by
  rw [LpcL.lpcAcf_real hω hstar h2 hn0 x hreal hm hnfft d hd,
    nth_biased x maxlags d hdl rms2]
  rfl

/-- **`lpc` and `aryule` agree on real data**: for a real signal of `m ≥ 2` samples
(`(m-1 : K) ≠ 0`, `(m : K) ≠ 0`), order `p ≤ m-1` and `nfft ≥ 2m-1`, `lpc(x, p)` returns the AR
coefficients and reflection coefficients of `aryule(x, p)` (biased Yule–Walker), and its prediction
error is `m/(m-1)` times the Yule–Walker variance.  (`K` is any field with involution containing the
root of unity, e.g. `ℂ` with real-valued data `ℝ ⊂ ℂ`.) -/
theorem lpc_eq_yule {ω : K} {nfft : ℕ} (hω : IsPrimitiveRoot ω nfft) (hstar : star ω = ω⁻¹)
    (h2 : (2 : K) ≠ 0) (hn0 : (nfft : K) ≠ 0) (x : List K)
    (hreal : ∀ n, star (nth x n) = nth x n) (hm1 : ((x.length - 1 : ℕ) : K) ≠ 0)
    (hm : (x.length : K) ≠ 0) (hnfft : 2 * x.length - 1 ≤ nfft) (p : ℕ) (hp : p ≤ x.length - 1) :
    (lpc (twiddles ω nfft) (twiddles ω⁻¹ nfft) x nfft p).A = (aryule x p .biased).A
    ∧ (lpc (twiddles ω nfft) (twiddles ω⁻¹ nfft) x nfft p).ref = (aryule x p .biased).ref
    ∧ (lpc (twiddles ω nfft) (twiddles ω⁻¹ nfft) x nfft p).P
        = (x.length : K) / ((x.length - 1 : ℕ) : K) * (aryule x p .biased).P := by
  have hr : ∀ d, d ≤ p → nth (correlation x x p .biased (1 : K)) d
      = rawCorr x.length (nth x) d / (x.length : K) := by
    intro d hd
    rw [nth_biased x p d hd 1]
    rfl
  rw [LpcL.lpc_eq_scaleLev hω hstar h2 hn0 x hreal hm1 hm hnfft p hp _ hr,
    (aryule_r0_real x p h2).2.2]
  exact ⟨rfl, rfl, rfl⟩

/-- non-vacuity of the hypotheses: `K = ℂ`, `nfft = 4`, `ω = -i` (a primitive 4th root of unity on
the unit circle), the real signal `x = [1, 2]` (`m = 2`, `2m-1 = 3 ≤ 4`), order `p = 1` -/
example : IsPrimitiveRoot (-Complex.I) 4 ∧ star (-Complex.I) = (-Complex.I)⁻¹
    ∧ (2 : ℂ) ≠ 0 ∧ ((4 : ℕ) : ℂ) ≠ 0
    ∧ (∀ n, star (nth ([1, 2] : List ℂ) n) = nth ([1, 2] : List ℂ) n)
    ∧ (((([1, 2] : List ℂ).length - 1 : ℕ)) : ℂ) ≠ 0 ∧ ((([1, 2] : List ℂ).length : ℕ) : ℂ) ≠ 0
    ∧ 2 * ([1, 2] : List ℂ).length - 1 ≤ 4 ∧ 1 ≤ ([1, 2] : List ℂ).length - 1 := by
  refine ⟨?_, ?_, two_ne_zero, Nat.cast_ne_zero.mpr (by decide), ?_, Nat.cast_ne_zero.mpr (by decide),
    Nat.cast_ne_zero.mpr (by decide), by decide, by decide⟩
  · -- the order divides 4 and is not 2: `(-i)² = -1`
    have h2 : ¬ (-Complex.I) ^ 2 ^ 1 = 1 := by
      rw [pow_one, neg_sq, Complex.I_sq]
      norm_num
    have h4 : (-Complex.I) ^ 2 ^ (1 + 1) = 1 := by
      rw [show (2 : ℕ) ^ (1 + 1) = 4 from rfl, neg_pow, Complex.I_pow_four]
      norm_num
    have h := orderOf_eq_prime_pow h2 h4
    rw [show (4 : ℕ) = 2 ^ (1 + 1) from rfl, ← h]
    exact IsPrimitiveRoot.orderOf _
  · rw [star_neg, Complex.star_def, Complex.conj_I, neg_neg, inv_neg, Complex.inv_I, neg_neg]
  · intro n
    rcases n with _ | _ | n
    · exact star_one ℂ
    · exact star_ofNat 2
    · exact star_zero ℂ

end Lpc

end SpecVerif.C12
