import SpecVerif.Proofs.Lemmas.ExpSum
import SpecVerif.Proofs.Lemmas.Marple
import SpecVerif.Proofs.Lemmas.Covar
import Mathlib.Tactic.IntervalCases
import Mathlib.Tactic.FinCases
import Mathlib.Tactic.NormNum
import SpecVerif.Proofs.Lemmas.CRatField
/-
  C14 — `arcovar` / `modcovar` are least squares.  `scipy.linalg.lstsq` is a parameter of the model
  (contract: returns a minimiser); the model's own instance, Gauss–Jordan on the normal equations, is
  verified in `Lemmas/GaussJordan.lean` for a lawful pivot test (`LawfulIsZero`, true at `CRat`).  The
  first part is stated for ANY `a` satisfying the normal equations (`NormalEq`); `arcovar_normalEq`,
  `modcovar_normalEq`, `arcovar_least_squares`, `modcovar_least_squares` and the
  `…Marple_least_squares` have no solver hypothesis.  Not proved: Marple's recursions = least squares
  (box below).
-/
namespace SpecVerif.C14
open Finset SpecVerif SpecVerif.LSL

section Generic
variable {K : Type} [Field K] [StarRing K]

/-- the definitions of `Lemmas/LeastSquares.lean` restated, so that the statements of this file can be
read without it -/
theorem ls_defs (X1 : ℕ → K) (Xc : ℕ → ℕ → K) (r p : ℕ) (a : ℕ → K) :
    (∀ i, lsRes X1 Xc p a i = X1 i + ∑ j ∈ range p, Xc i j * a j) ∧
    lsEnergy X1 Xc r p a = ∑ i ∈ range r, lsRes X1 Xc p a i * star (lsRes X1 Xc p a i) ∧
    (NormalEq X1 Xc r p a ↔
      ∀ b, b < p → ∑ i ∈ range r, star (Xc i b) * (X1 i + ∑ j ∈ range p, Xc i j * a j) = 0) :=
  ⟨fun _ => rfl, rfl, Iff.rfl⟩

/-- **Pythagoras** at a solution `a` of the normal equations of the `r × (1+p)` data matrix `[X1 | Xc]` -/
theorem ls_pythagoras (X1 : ℕ → K) (Xc : ℕ → ℕ → K) (r p : ℕ) (a : ℕ → K)
    (h : ∀ b, b < p → ∑ i ∈ range r, star (Xc i b) * (X1 i + ∑ j ∈ range p, Xc i j * a j) = 0)
    (a' : ℕ → K) :
    lsEnergy X1 Xc r p a'
      = lsEnergy X1 Xc r p a
        + ∑ i ∈ range r, (∑ j ∈ range p, Xc i j * (a' j - a j))
            * star (∑ j ∈ range p, Xc i j * (a' j - a j)) :=
  pythagoras (X1 := X1) (Xc := Xc) (r := r) (p := p) (a := a) h a'

/-- **error formula**: at any solution `a` of the normal equations, `X1ᴴX1 + (X1ᴴXc) a = E(a)` — the
quantity `e` computed by `lsFit` is the energy of the residual. -/
theorem ls_error_formula (X1 : ℕ → K) (Xc : ℕ → ℕ → K) (r p : ℕ) (a : ℕ → K)
    (h : NormalEq X1 Xc r p a) :
    ∑ i ∈ range r, star (X1 i) * X1 i
        + ∑ j ∈ range p, (∑ i ∈ range r, star (X1 i) * Xc i j) * a j
      = lsEnergy X1 Xc r p a :=
  error_formula h

theorem ls_zero_residual (X1 : ℕ → K) (Xc : ℕ → ℕ → K) (r p : ℕ) (a : ℕ → K)
    (h : ∀ i, i < r → lsRes X1 Xc p a i = 0) :
    NormalEq X1 Xc r p a ∧ lsEnergy X1 Xc r p a = 0 :=
  ⟨normalEq_of_res_zero h, lsEnergy_of_res_zero h⟩

/-- the prediction errors and their energies restated (`f_t`, `b_s` in the comments below) -/
theorem pred_defs (x : List K) (p : ℕ) (a : ℕ → K) :
    (∀ t, fwdErr x p a t = nth x t + ∑ j ∈ range p, a j * nth x (t - 1 - j)) ∧
    (∀ s, bwdErr x p a s = nth x s + ∑ j ∈ range p, star (a j) * nth x (s + 1 + j)) ∧
    fwdEnergy x p a = ∑ t ∈ Ico p x.length, fwdErr x p a t * star (fwdErr x p a t) ∧
    bwdEnergy x p a = ∑ s ∈ range (x.length - p), bwdErr x p a s * star (bwdErr x p a s) :=
  ⟨fun _ => rfl, fun _ => rfl, rfl, rfl⟩

/-- 'covariance' data matrix: the residual of row `i < N-p` is the forward prediction error at
`t = i+p` (so `t = p..N-1`; only in-range samples are read, `mentry_covariance`). -/
theorem covariance_residual (x : List K) (p : ℕ) (a : ℕ → K) (i : ℕ) (hi : i < x.length - p) :
    lsRes (col0 (corrmtx x p .covariance)) (colR (corrmtx x p .covariance)) p a i
      = fwdErr x p a (i + p) :=
  CovarL.covariance_residual x p a i hi

/-- 'modified' data matrix, top block: rows `i < N-p` are again the forward errors at `t = i+p` -/
theorem modified_residual_fwd (x : List K) (p : ℕ) (a : ℕ → K) (i : ℕ) (hi : i < x.length - p) :
    lsRes (col0 (corrmtx x p .modified)) (colR (corrmtx x p .modified)) p a i
      = fwdErr x p a (i + p) :=
  CovarL.modified_residual_fwd x p a i hi

/-- 'modified' data matrix, bottom block: row `N-p+i`, `i < N-p`, is the conjugated backward error of
the window `x[i..i+p]` -/
theorem modified_residual_bwd (x : List K) (p : ℕ) (a : ℕ → K) (i : ℕ) (hi : i < x.length - p) :
    lsRes (col0 (corrmtx x p .modified)) (colR (corrmtx x p .modified)) p a (x.length - p + i)
      = star (bwdErr x p a i) :=
  CovarL.modified_residual_bwd x p a i hi

/-- the energy of the 'covariance' least-squares problem is the forward prediction-error energy over
`t = p..N-1` -/
theorem covariance_energy (x : List K) (p : ℕ) (a : ℕ → K) :
    lsEnergy (col0 (corrmtx x p .covariance)) (colR (corrmtx x p .covariance)) (x.length - p) p a
      = fwdEnergy x p a :=
  CovarL.covariance_energy x p a

/-- the energy of the 'modified' least-squares problem (`2(N-p)` rows) is the sum of the forward and
backward prediction-error energies -/
theorem modified_energy (x : List K) (p : ℕ) (a : ℕ → K) :
    lsEnergy (col0 (corrmtx x p .modified)) (colR (corrmtx x p .modified)) (2 * (x.length - p)) p a
      = fwdEnergy x p a + bwdEnergy x p a :=
  CovarL.modified_energy x p a

/-- the normal equations of the covariance problem in terms of the data: the forward prediction error
is orthogonal to every regressor `x[t-1-b]`, `b < p`, over `t = p..N-1` -/
theorem covariance_normalEq_iff (x : List K) (p : ℕ) (a : ℕ → K) :
    NormalEq (col0 (corrmtx x p .covariance)) (colR (corrmtx x p .covariance)) (x.length - p) p a
      ↔ ∀ b, b < p → ∑ t ∈ Ico p x.length, star (nth x (t - 1 - b)) * fwdErr x p a t = 0 :=
  CovarL.covariance_normalEq_iff x p a

/-- the normal equations of the modified covariance problem in terms of the data: for every `b < p`,
`Σ_t conj(x[t-1-b]) f_t + Σ_s x[s+1+b] conj(b_s) = 0` -/
theorem modified_normalEq_iff (x : List K) (p : ℕ) (a : ℕ → K) :
    NormalEq (col0 (corrmtx x p .modified)) (colR (corrmtx x p .modified)) (2 * (x.length - p)) p a
      ↔ ∀ b, b < p → ∑ t ∈ Ico p x.length, star (nth x (t - 1 - b)) * fwdErr x p a t
          + ∑ s ∈ range (x.length - p), nth x (s + 1 + b) * star (bwdErr x p a s) = 0 :=
  CovarL.modified_normalEq_iff x p a

section Fit
variable [IsZero K]

/-- what `lsFit` returns: the coefficients are the answer of its `lstsq` call on `(-X_c, X_1)` — in
the exact instance the answer of the linear solver on the Gram system — and
`e = X₁ᴴX₁ + (X₁ᴴX_c) a`. -/
theorem lsFit_returns (X : Mat K) (rows p : ℕ) (a : List K) (e : K)
    (h : lsFit X rows p = some (a, e)) :
    lstsq (negXc X rows p) (rhsX1 X rows) rows p = some a ∧
    solveVec (matMul (conjT (negXc X rows p) rows p) (negXc X rows p) p rows p)
        (matVec (conjT (negXc X rows p) rows p) (rhsX1 X rows) p rows) p = some a ∧
    e = ∑ i ∈ range rows, star (col0 X i) * col0 X i
          + ∑ j ∈ range p, (∑ i ∈ range rows, star (col0 X i) * colR X i j) * nth a j := by
  obtain ⟨h1, h2⟩ := lsFit_eq_some h
  exact ⟨h1, (lstsq_unfold X rows p) ▸ h1, h2⟩

/-- the square linear system solved inside `lsFit` **is** the normal equations of `[X_1 | X_c]`: if
the linear solver's answer solves its system `(-X_c)ᴴ(-X_c) a = (-X_c)ᴴ X_1` (contract of the solver,
hypothesis; for the model's solver: `lsFit_normalEq`), the returned coefficients satisfy the normal
equations and `e` is the residual energy. -/
theorem lsFit_normalEq_of_solver (X : Mat K) (rows p : ℕ) (a : List K) (e : K)
    (h : lsFit X rows p = some (a, e)) (hsolve : GramSystem X rows p (nth a)) :
    NormalEq (col0 X) (colR X) rows p (nth a) ∧ e = lsEnergy (col0 X) (colR X) rows p (nth a) := by
  have hn := (normalEq_iff_gramSystem X rows p (nth a)).mpr hsolve
  exact ⟨hn, (lsFit_error h hn).1⟩

/-- **covariance method** (any field with involution): if `arcovar x p` returns `(a, e)` and `a`
satisfies the normal equations of the covariance data matrix (contract of the least-squares solver),
then `e` is the forward prediction-error energy at `a`, and the energy at any other `a'` exceeds it by
`Σ_i |lsDiff … i|²` (left in terms of the data matrix). -/
theorem arcovar_error (x : List K) (p : ℕ) (a : List K) (e : K)
    (h : arcovar x p = some (a, e))
    (hne : NormalEq (col0 (corrmtx x p .covariance)) (colR (corrmtx x p .covariance))
      (x.length - p) p (nth a)) :
    e = fwdEnergy x p (nth a) ∧
    ∀ a' : ℕ → K, fwdEnergy x p a' = e + ∑ i ∈ range (x.length - p),
      lsDiff (colR (corrmtx x p .covariance)) p (nth a) a' i
        * star (lsDiff (colR (corrmtx x p .covariance)) p (nth a) a' i) := by
  have key := lsFit_error h hne
  simp only [CovarL.covariance_energy] at key
  exact key

/-- **modified covariance method** (any field with involution): if `modcovar x p` returns `(a, e)`
and `a` satisfies the normal equations of the modified data matrix, then `e` is the sum of the forward
and backward prediction-error energies at `a`, with the Pythagoras identity for any other `a'`. -/
theorem modcovar_error (x : List K) (p : ℕ) (a : List K) (e : K)
    (h : modcovar x p = some (a, e))
    (hne : NormalEq (col0 (corrmtx x p .modified)) (colR (corrmtx x p .modified))
      (2 * (x.length - p)) p (nth a)) :
    e = fwdEnergy x p (nth a) + bwdEnergy x p (nth a) ∧
    ∀ a' : ℕ → K, fwdEnergy x p a' + bwdEnergy x p a' = e + ∑ i ∈ range (2 * (x.length - p)),
      lsDiff (colR (corrmtx x p .modified)) p (nth a) a' i
        * star (lsDiff (colR (corrmtx x p .modified)) p (nth a) a' i) := by
  have key := lsFit_error h hne
  simp only [CovarL.modified_energy] at key
  exact key

/-- `arcovar_marple` (specification-level model): succeeds exactly when `arcovar` does, with the same
coefficients and the error divided by the number `N-p` of prediction equations -/
theorem arcovarMarple_iff (x : List K) (p : ℕ) (a : List K) (e' : K) :
    arcovarMarple x p = some (a, e')
      ↔ ∃ e, arcovar x p = some (a, e) ∧ e' = e / ((x.length - p : ℕ) : K) :=
  CovarL.arcovarMarple_iff x p a e'

/-- `modcovar_marple` (specification-level model): the coefficients of `modcovar` and the error
divided by the number `2(N-p)` of forward and backward prediction equations -/
theorem modcovarMarple_iff (x : List K) (p : ℕ) (a : List K) (e' : K) :
    modcovarMarple x p = some (a, e')
      ↔ ∃ e, modcovar x p = some (a, e) ∧ e' = e / ((2 * (x.length - p) : ℕ) : K) :=
  CovarL.modcovarMarple_iff x p a e'

/-- Marple covariance, per-sample minimum: with a non-zero divisor `N-p` in `K`, the returned error
times `N-p` is the forward energy at the returned coefficients (which are those of `arcovar`). -/
theorem arcovarMarple_error (x : List K) (p : ℕ) (a : List K) (e' : K)
    (hN : ((x.length - p : ℕ) : K) ≠ 0)
    (h : arcovarMarple x p = some (a, e'))
    (hne : NormalEq (col0 (corrmtx x p .covariance)) (colR (corrmtx x p .covariance))
      (x.length - p) p (nth a)) :
    (∃ e, arcovar x p = some (a, e)) ∧ e' * ((x.length - p : ℕ) : K) = fwdEnergy x p (nth a) := by
  obtain ⟨e, h1, rfl⟩ := (CovarL.arcovarMarple_iff x p a e').mp h
  refine ⟨⟨e, h1⟩, ?_⟩
  rw [div_mul_cancel₀ _ hN]
  exact (arcovar_error x p a e h1 hne).1

/-- Marple modified covariance, per-sample minimum -/
theorem modcovarMarple_error (x : List K) (p : ℕ) (a : List K) (e' : K)
    (hN : ((2 * (x.length - p) : ℕ) : K) ≠ 0)
    (h : modcovarMarple x p = some (a, e'))
    (hne : NormalEq (col0 (corrmtx x p .modified)) (colR (corrmtx x p .modified))
      (2 * (x.length - p)) p (nth a)) :
    (∃ e, modcovar x p = some (a, e)) ∧
    e' * ((2 * (x.length - p) : ℕ) : K) = fwdEnergy x p (nth a) + bwdEnergy x p (nth a) := by
  obtain ⟨e, h1, rfl⟩ := (CovarL.modcovarMarple_iff x p a e').mp h
  refine ⟨⟨e, h1⟩, ?_⟩
  rw [div_mul_cancel₀ _ hN]
  exact (modcovar_error x p a e h1 hne).1

end Fit
end Generic

section RC
variable {𝕜 : Type} [RCLike 𝕜]

/-- **characterisation of the minimisers** (`ℝ`/`ℂ`): `a` minimises the residual energy
`Σ_i |res_i|²` if and only if it satisfies the normal equations (the residual is orthogonal to every
regressor column). -/
theorem ls_minimiser_iff (X1 : ℕ → 𝕜) (Xc : ℕ → ℕ → 𝕜) (r p : ℕ) (a : ℕ → 𝕜) :
    (∀ a' : ℕ → 𝕜, ∑ i ∈ range r, ‖lsRes X1 Xc p a i‖ ^ 2 ≤ ∑ i ∈ range r, ‖lsRes X1 Xc p a' i‖ ^ 2)
      ↔ ∀ b, b < p → ∑ i ∈ range r, star (Xc i b) * lsRes X1 Xc p a i = 0 :=
  ⟨fun h => normalEq_of_minimiser h, fun h a' => lsEnergyR_le h a'⟩

variable [IsZero 𝕜]

/-- **C14 with the literal solver contract** ("`lstsq` returns a minimiser"): if `arcovar x p` returns
`(a, e)` and `a` minimises the forward prediction-error energy, then the forward error is orthogonal
to every regressor and `e` is that minimum. -/
theorem arcovar_of_minimiser (x : List 𝕜) (p : ℕ) (a : List 𝕜) (e : 𝕜)
    (h : arcovar x p = some (a, e))
    (hmin : ∀ a' : ℕ → 𝕜, ∑ t ∈ Ico p x.length, ‖fwdErr x p (nth a) t‖ ^ 2
      ≤ ∑ t ∈ Ico p x.length, ‖fwdErr x p a' t‖ ^ 2) :
    (∀ b, b < p → ∑ t ∈ Ico p x.length, star (nth x (t - 1 - b)) * fwdErr x p (nth a) t = 0) ∧
    e = ((∑ t ∈ Ico p x.length, ‖fwdErr x p (nth a) t‖ ^ 2 : ℝ) : 𝕜) := by
  have key := lsFit_of_minimiser h (by simpa only [CovarL.covariance_energyR] using hmin)
  simp only [CovarL.covariance_normalEq_iff, CovarL.covariance_energyR] at key
  exact key

/-- the same for `modcovar`: a minimiser of the forward + backward energy satisfies the
modified-covariance normal equations and the returned `e` is the minimum. -/
theorem modcovar_of_minimiser (x : List 𝕜) (p : ℕ) (a : List 𝕜) (e : 𝕜)
    (h : modcovar x p = some (a, e))
    (hmin : ∀ a' : ℕ → 𝕜, ∑ t ∈ Ico p x.length, ‖fwdErr x p (nth a) t‖ ^ 2
          + ∑ s ∈ range (x.length - p), ‖bwdErr x p (nth a) s‖ ^ 2
      ≤ ∑ t ∈ Ico p x.length, ‖fwdErr x p a' t‖ ^ 2
          + ∑ s ∈ range (x.length - p), ‖bwdErr x p a' s‖ ^ 2) :
    (∀ b, b < p → ∑ t ∈ Ico p x.length, star (nth x (t - 1 - b)) * fwdErr x p (nth a) t
          + ∑ s ∈ range (x.length - p), nth x (s + 1 + b) * star (bwdErr x p (nth a) s) = 0) ∧
    e = ((∑ t ∈ Ico p x.length, ‖fwdErr x p (nth a) t‖ ^ 2
          + ∑ s ∈ range (x.length - p), ‖bwdErr x p (nth a) s‖ ^ 2 : ℝ) : 𝕜) := by
  have key := lsFit_of_minimiser h (by simpa only [CovarL.modified_energyR] using hmin)
  simp only [CovarL.modified_normalEq_iff, CovarL.modified_energyR] at key
  exact key

end RC

section Exact
variable {K : Type} [Field K]

/-- definitions: `IsExpSum x p z c` says `x_n = Σ_{m<p} c_m z_m^n` for `n < N`;
`charPoly p a w = w^p + Σ_{j<p} a_j w^{p-1-j}`, which for `w ≠ 0` is `w^p (1 + Σ_j a_j w^{-(j+1)})`,
so that it vanishes exactly when the AR polynomial `1 + Σ_j a_j z^{-(j+1)}` vanishes at `z = w`. -/
theorem exact_defs (x : List K) (p : ℕ) (z c : Fin p → K) (a : ℕ → K) :
    (IsExpSum x p z c ↔ ∀ n, n < x.length → nth x n = ∑ m, c m * z m ^ n) ∧
    (∀ w, charPoly p a w = w ^ p + ∑ j ∈ range p, a j * w ^ (p - 1 - j)) ∧
    (∀ w, w ≠ 0 →
      (charPoly p a w = 0 ↔ 1 + ∑ j ∈ range p, a j * (w⁻¹) ^ (j + 1) = 0)) := by
  refine ⟨Iff.rfl, fun _ => rfl, fun w hw => ?_⟩
  rw [charPoly_eq_inv_form p a w hw, mul_eq_zero]
  constructor
  · intro h
    exact h.resolve_left (pow_ne_zero _ hw)
  · intro h
    exact Or.inr h

/-- the forward prediction error of noise-free data factors through the prediction polynomial
`q_a = charPoly p a` -/
theorem exact_residual_formula (x : List K) (p : ℕ) (z c : Fin p → K) (hx : IsExpSum x p z c)
    (a : ℕ → K) (t : ℕ) (hpt : p ≤ t) (ht : t < x.length) :
    fwdErr x p a t = ∑ m, c m * z m ^ (t - p) * charPoly p a (z m) :=
  fwdErr_expSum hx a t hpt ht

/-- **Vandermonde / uniqueness**: `p` distinct modes with non-zero amplitudes and at least `p`
prediction equations (`N - p ≥ p`).  Any `a` with zero forward residual annihilates every mode
(`q_a(z_m) = 0`, `q_a = charPoly p a`), equals the coefficient vector of `∏_m (X - z_m)` on `j < p`, and its prediction
polynomial is `q_a(w) = ∏_m (w - z_m)`: its roots are exactly the `p` modes. -/
theorem exact_recovery (x : List K) (p : ℕ) (z c : Fin p → K) (hx : IsExpSum x p z c)
    (hN : p ≤ x.length - p) (hz : Function.Injective z) (hc : ∀ m, c m ≠ 0)
    (a : ℕ → K) (h0 : ∀ t, p ≤ t → t < x.length → fwdErr x p a t = 0) :
    (∀ m, charPoly p a (z m) = 0) ∧
    (∀ j, j < p → a j = prodCoeffs z j) ∧
    (∀ w, charPoly p a w = ∏ m, (w - z m)) ∧
    (∀ w, charPoly p a w = 0 ↔ ∃ m, w = z m) := by
  have hroots := roots_of_fwdErr_zero hx (by omega) hz hc a h0
  have huniq := coeffs_unique_of_roots hz a (prodCoeffs z) hroots (charPoly_prodCoeffs_root z)
  have hprod : ∀ w, charPoly p a w = ∏ m, (w - z m) := by
    intro w
    rw [charPoly_congr huniq w, charPoly_prodCoeffs]
  refine ⟨hroots, huniq, hprod, fun w => ?_⟩
  rw [hprod w, Finset.prod_eq_zero_iff]
  constructor
  · rintro ⟨m, _, hm⟩
    exact ⟨m, sub_eq_zero.mp hm⟩
  · rintro ⟨m, rfl⟩
    exact ⟨m, Finset.mem_univ m, sub_self _⟩

/-- existence: the coefficient vector of `∏_m (X - z_m)` has zero forward residual on noise-free data
(so the hypotheses of `exact_recovery` are satisfiable for every such signal) -/
theorem exact_recovery_exists (x : List K) (p : ℕ) (z c : Fin p → K) (hx : IsExpSum x p z c) :
    ∀ t, p ≤ t → t < x.length → fwdErr x p (prodCoeffs z) t = 0 :=
  fwdErr_zero_of_roots hx _ (charPoly_prodCoeffs_root z)

variable [StarRing K]

/-- **exact fit**: if the prediction polynomial of `a` vanishes at every mode `z_m`, every forward
error vanishes; hence `a` satisfies the covariance normal equations and its forward energy is `0`
(it is optimal). -/
theorem exact_recovery_zero_residual (x : List K) (p : ℕ) (z c : Fin p → K)
    (hx : IsExpSum x p z c) (a : ℕ → K) (hq : ∀ m, charPoly p a (z m) = 0) :
    (∀ t, p ≤ t → t < x.length → fwdErr x p a t = 0) ∧
    NormalEq (col0 (corrmtx x p .covariance)) (colR (corrmtx x p .covariance)) (x.length - p) p a ∧
    fwdEnergy x p a = 0 := by
  have h0 := fwdErr_zero_of_roots hx a hq
  have hres := (CovarL.covariance_res_zero_iff x p a).mpr h0
  refine ⟨h0, normalEq_of_res_zero hres, ?_⟩
  rw [← CovarL.covariance_energy]
  exact lsEnergy_of_res_zero hres

/-- **exact fit, modified covariance**: for undamped modes (`conj z_m · z_m = 1`, complex
exponentials) the backward errors vanish as well, so `a` satisfies the modified-covariance normal
equations and the forward + backward energy is `0`. -/
theorem exact_recovery_zero_residual_modified (x : List K) (p : ℕ) (z c : Fin p → K)
    (hx : IsExpSum x p z c) (hu : ∀ m, star (z m) * z m = 1)
    (a : ℕ → K) (hq : ∀ m, charPoly p a (z m) = 0) :
    (∀ s, s + p < x.length → bwdErr x p a s = 0) ∧
    NormalEq (col0 (corrmtx x p .modified)) (colR (corrmtx x p .modified))
      (2 * (x.length - p)) p a ∧
    fwdEnergy x p a + bwdEnergy x p a = 0 := by
  have hb := bwdErr_zero_of_roots hx hu a hq
  have hres := (CovarL.modified_res_zero_iff x p a).mpr ⟨fwdErr_zero_of_roots hx a hq, hb⟩
  refine ⟨hb, normalEq_of_res_zero hres, ?_⟩
  rw [← CovarL.modified_energy]
  exact lsEnergy_of_res_zero hres

end Exact

section ExactRC
variable {𝕜 : Type} [RCLike 𝕜]

/-- **C14, exact recovery by the covariance method** (`ℝ`/`ℂ`): for a noise-free sum of `p` distinct
modes with non-zero amplitudes and `N - p ≥ p`, ANY solution `a` of the covariance normal equations
(any least-squares minimiser) has zero forward error, is the coefficient vector of `∏_m (X - z_m)`,
and its prediction polynomial has exactly the roots `z_m`. -/
theorem covariance_exact_recovery (x : List 𝕜) (p : ℕ) (z c : Fin p → 𝕜) (hx : IsExpSum x p z c)
    (hN : p ≤ x.length - p) (hz : Function.Injective z) (hc : ∀ m, c m ≠ 0) (a : ℕ → 𝕜)
    (hne : ∀ b, b < p →
      ∑ t ∈ Ico p x.length, star (nth x (t - 1 - b)) * fwdErr x p a t = 0) :
    (∀ t, p ≤ t → t < x.length → fwdErr x p a t = 0) ∧
    (∀ j, j < p → a j = prodCoeffs z j) ∧
    (∀ w, charPoly p a w = 0 ↔ ∃ m, w = z m) := by
  have hn := (CovarL.covariance_normalEq_iff x p a).mpr hne
  have hres0 := (CovarL.covariance_res_zero_iff x p _).mpr (exact_recovery_exists x p z c hx)
  have h0 := (CovarL.covariance_res_zero_iff x p a).mp (res_zero_of_normalEq_of_zero_fit hn hres0)
  obtain ⟨_, h2, _, h4⟩ := exact_recovery x p z c hx hN hz hc a h0
  exact ⟨h0, h2, h4⟩

/-- **C14, exact recovery by the modified covariance method** (`ℝ`/`ℂ`): the same for undamped modes
(`|z_m| = 1`, complex exponentials): any solution of the modified-covariance normal equations has zero
forward and backward errors, and its prediction polynomial has exactly the roots `z_m`. -/
theorem modified_exact_recovery (x : List 𝕜) (p : ℕ) (z c : Fin p → 𝕜) (hx : IsExpSum x p z c)
    (hN : p ≤ x.length - p) (hz : Function.Injective z) (hc : ∀ m, c m ≠ 0)
    (hu : ∀ m, star (z m) * z m = 1) (a : ℕ → 𝕜)
    (hne : ∀ b, b < p → ∑ t ∈ Ico p x.length, star (nth x (t - 1 - b)) * fwdErr x p a t
          + ∑ s ∈ range (x.length - p), nth x (s + 1 + b) * star (bwdErr x p a s) = 0) :
    (∀ t, p ≤ t → t < x.length → fwdErr x p a t = 0) ∧
    (∀ s, s + p < x.length → bwdErr x p a s = 0) ∧
    (∀ j, j < p → a j = prodCoeffs z j) ∧
    (∀ w, charPoly p a w = 0 ↔ ∃ m, w = z m) := by
  have hn := (CovarL.modified_normalEq_iff x p a).mpr hne
  have hres0 := (CovarL.modified_res_zero_iff x p _).mpr ⟨exact_recovery_exists x p z c hx,
    (exact_recovery_zero_residual_modified x p z c hx hu _ (charPoly_prodCoeffs_root z)).1⟩
  obtain ⟨h0, hb⟩ := (CovarL.modified_res_zero_iff x p a).mp (res_zero_of_normalEq_of_zero_fit hn hres0)
  obtain ⟨_, h2, _, h4⟩ := exact_recovery x p z c hx hN hz hc a h0
  exact ⟨h0, hb, h2, h4⟩

end ExactRC

section Examples

/-- hypotheses of `exact_recovery`: `x_n = 1 + 2^n` (`N = 5`), `p = 2`, modes `1, 2`,
`a = (-3, 2)` (`(w-1)(w-2) = w² - 3w + 2`) has zero forward residual. -/
example : IsExpSum ([2, 3, 5, 9, 17] : List ℝ) 2 ![1, 2] ![1, 1] ∧
    2 ≤ ([2, 3, 5, 9, 17] : List ℝ).length - 2 ∧
    Function.Injective (![1, 2] : Fin 2 → ℝ) ∧ (∀ m, (![1, 1] : Fin 2 → ℝ) m ≠ 0) ∧
    (∀ t, 2 ≤ t → t < ([2, 3, 5, 9, 17] : List ℝ).length →
      fwdErr ([2, 3, 5, 9, 17] : List ℝ) 2 (nth [-3, 2]) t = 0) := by
  refine ⟨?_, by decide, ?_, ?_, ?_⟩
  · intro n hn
    simp only [List.length_cons, List.length_nil] at hn
    interval_cases n <;>
      simp only [Fin.sum_univ_two, Matrix.cons_val_zero, Matrix.cons_val_one, spec_eval] <;>
      norm_num only
  · intro i j h
    fin_cases i <;> fin_cases j <;> simp_all
  · intro m
    fin_cases m <;> simp
  · intro t h1 ht
    simp only [List.length_cons, List.length_nil] at ht
    interval_cases t <;> simp only [fwdErr, spec_eval, spec_eval_proc] <;> norm_num only

/-- hypotheses of `modified_exact_recovery` (undamped modes): `x_n = 1 + (-1)^n`, modes `1, -1` of
unit modulus. -/
example : IsExpSum ([2, 0, 2, 0, 2] : List ℝ) 2 ![1, -1] ![1, 1] ∧
    Function.Injective (![1, -1] : Fin 2 → ℝ) ∧ (∀ m, (![1, 1] : Fin 2 → ℝ) m ≠ 0) ∧
    (∀ m, star ((![1, -1] : Fin 2 → ℝ) m) * (![1, -1] : Fin 2 → ℝ) m = 1) := by
  refine ⟨?_, ?_, ?_, ?_⟩
  · intro n hn
    simp only [List.length_cons, List.length_nil] at hn
    interval_cases n <;>
      simp only [Fin.sum_univ_two, Matrix.cons_val_zero, Matrix.cons_val_one, spec_eval] <;>
      norm_num only
  · intro i j h
    fin_cases i <;> fin_cases j <;> simp_all
    all_goals norm_num at h
  · intro m
    fin_cases m <;> simp
  · intro m
    fin_cases m <;> simp

end Examples

/-! ### The transliterated Marple recursions (`Model/Marple.lean`)

`arcovarMarpleRec` / `modcovarMarpleRec` are statement-by-statement transliterations of
`arcovar_marple` / `modcovar_marple`.

  ┌───────────────────────────────────────────────────────────────────────────────────────────────┐
  │ NOT PROVED: the general equality                                                              │
  │     `arcovarMarpleRec x p = arcovarMarple x p`,  `modcovarMarpleRec x p = modcovarMarple x p` │
  │ ("for every record with a non-singular least-squares problem Marple's fast recursion returns  │
  │ the least-squares coefficients and the minimum per sample").  That statement is Marple's      │
  │ derivation (Digital Spectral Analysis, app. 8.C / 8.D); it is not formalised here.  It is     │
  │ TESTED in exact rational arithmetic by `tools/scripts/marple_diff.py` (b): rational equality  │
  │ of the two driver commands on ≥ 400 random dyadic records per estimator and exhaustively on   │
  │ every record over a small alphabet (N ≤ 6); on every run by the harness kind `recexact` (C14  │
  │ check); and kernel-checked below on two records (one real, one complex) through both          │
  │ recursions, plus an exit and the dead-reciprocal case.                                        │
  └───────────────────────────────────────────────────────────────────────────────────────────────┘

What IS proved below holds for every scalar type carrying the operation classes of the model (no
algebraic law is used; in particular for `CRat` and for `CFloat`): shape of the result, the entry
guards, and the order-0 value. -/

section MarpleRec
variable {S : Type} [Add S] [Sub S] [Mul S] [Div S] [Neg S] [OfNat S 0] [OfNat S 1] [NatCast S]
  [Conj S] [IsZero S]

/-- whenever the transliterated `arcovar_marple` returns, it returns exactly `p` coefficients
(`AF[:order]`; the work array keeps its length `N ≥ p` through both halves of every iteration) -/
theorem arcovarMarpleRec_length (x : List S) (p : ℕ) (a : List S) (e : S)
    (h : arcovarMarpleRec x p = some (a, e)) : a.length = p :=
  MarpleL.arcovarMarpleCore_length (MarpleL.arcovarMarpleRec_eq_some.mp h)

/-- entry guards: the transliterated `arcovar_marple` returns only for a non-empty record with
`p ≤ N` (`assert len(x) >= order`; `x[0]` of an empty record is an `IndexError`) -/
theorem arcovarMarpleRec_domain (x : List S) (p : ℕ) (r : List S × S)
    (h : arcovarMarpleRec x p = some r) : p ≤ x.length ∧ 0 < x.length := by
  have hr := MarpleL.arcovarMarpleRec_eq_some.mp h
  unfold arcovarMarpleCore at hr
  obtain ⟨h1, hr⟩ := ite_error_eq_ok.mp hr
  obtain ⟨h2, -⟩ := ite_error_eq_ok.mp hr
  omega

/-- `order == 0`: no recursion, the signal power `Σ|x|²/N` is returned with no coefficient -/
theorem arcovarMarpleRec_order_zero (x : List S) (hx : 0 < x.length) :
    arcovarMarpleRec x 0
      = some ([], sumR x.length (fun k => abs2 (nth x k)) / ((x.length : ℕ) : S)) := by
  have h2 : x.length ≠ 0 := hx.ne'
  simp [arcovarMarpleRec, arcovarMarpleCore, h2]

variable [ReOrd S]

/-- whenever the transliterated `modcovar_marple` returns, it returns exactly `p` coefficients -/
theorem modcovarMarpleRec_length (x : List S) (p : ℕ) (a : List S) (e : S)
    (h : modcovarMarpleRec x p = some (a, e)) : a.length = p :=
  MarpleL.modcovarMarpleCore_length (MarpleL.modcovarMarpleRec_eq_some.mp h)

/-- entry guards of the transliterated `modcovar_marple`: non-empty record, `p ≤ N` -/
theorem modcovarMarpleRec_domain (x : List S) (p : ℕ) (r : List S × S)
    (h : modcovarMarpleRec x p = some r) : p ≤ x.length ∧ 0 < x.length := by
  have hr := MarpleL.modcovarMarpleRec_eq_some.mp h
  unfold modcovarMarpleCore at hr
  obtain ⟨h1, hr⟩ := ite_error_eq_ok.mp hr
  obtain ⟨h2, -⟩ := ite_error_eq_ok.mp hr
  omega

/-- `IP == 0`: `(.5*R1 + R2 + R3)/N` with `R1 = Σ_{0<k<N-1} 2|x_k|²`, `R2 = |x_0|²`, `R3 = |x_{N-1}|²` -/
theorem modcovarMarpleRec_order_zero (x : List S) (hx : 0 < x.length) :
    modcovarMarpleRec x 0
      = some ([], (half2 * sumR (x.length - 2) (fun j => two2 * abs2 (nth x (j + 1)))
                    + abs2 (nth x 0) + abs2 (nth x (x.length - 1))) / ((x.length : ℕ) : S)) := by
  have h2 : x.length ≠ 0 := hx.ne'
  simp [modcovarMarpleRec, modcovarMarpleCore, h2]

end MarpleRec

/-- order 0, every field with involution: the transliterated `arcovar_marple` and the least-squares
specification agree (`Σ|x|²/N`, no coefficient) — the only case of "recursion = least squares" that is
proved for all inputs -/
theorem arcovarMarpleRec_order_zero_eq_spec {K : Type} [Field K] [StarRing K] [IsZero K]
    (x : List K) (hx : 0 < x.length) :
    arcovarMarpleRec x 0 = arcovarMarple x 0 := by
  rw [arcovarMarpleRec_order_zero x hx]
  unfold arcovarMarple arcovar
  rw [lsFit_order_zero, Option.map_some, sumR_eq_sum, Nat.sub_zero]
  congr 3
  apply Finset.sum_congr rfl
  intro i hi
  have hi' : i < x.length - 0 := Finset.mem_range.mp hi
  unfold col0
  rw [mentryM_eq_mentry, mentry_covariance x 0 i 0 hi' (Nat.le_refl 0), abs2_eq,
    mul_comm]
  rfl

/-- hypotheses of `arcovarMarpleRec_order_zero_eq_spec` are satisfiable and the common value is the
mean power: `x = (1, 2i)` over the Gaussian rationals gives `5/2` -/
example : arcovarMarpleRec ([⟨1, 0⟩, ⟨0, 2⟩] : List CRat) 0 = some ([], ⟨5 / 2, 0⟩) ∧
    arcovarMarple ([⟨1, 0⟩, ⟨0, 2⟩] : List CRat) 0 = some ([], ⟨5 / 2, 0⟩) := by
  decide +kernel

/-- a quirk of `modcovar_marple` that the transliteration reproduces: for a ONE-sample record and
`IP = 0` the code adds `|X[0]|²` and `|X[N-1]|²`, which are the same sample, and returns `2|x₀|²`
where the least-squares specification (and `arcovar_marple`) give `|x₀|²`.  For `N ≥ 2` the two agree
(second conjunct: `N = 2`). -/
example : modcovarMarpleRec ([⟨3, 0⟩] : List CRat) 0 = some ([], ⟨18, 0⟩) ∧
    modcovarMarple ([⟨3, 0⟩] : List CRat) 0 = some ([], ⟨9, 0⟩) ∧
    modcovarMarpleRec ([⟨3, 0⟩, ⟨1, 0⟩] : List CRat) 0 = modcovarMarple ([⟨3, 0⟩, ⟨1, 0⟩] : List CRat) 0 := by
  decide +kernel

/-! Concrete exact instances of "recursion = least squares", checked by the kernel over the Gaussian
rationals `CRat` (real record: zero imaginary parts; complex record).  They are instances, not the
general theorem (see the box above). -/

/-- real record `x = (1,2,3,5,4,-1)`, `p = 2`: the covariance recursion returns the least-squares
solution `a = (-583/257, 511/257)` and the minimum per sample `439/257` -/
example :
    arcovarMarpleRec ([⟨1, 0⟩, ⟨2, 0⟩, ⟨3, 0⟩, ⟨5, 0⟩, ⟨4, 0⟩, ⟨-1, 0⟩] : List CRat) 2
      = arcovarMarple ([⟨1, 0⟩, ⟨2, 0⟩, ⟨3, 0⟩, ⟨5, 0⟩, ⟨4, 0⟩, ⟨-1, 0⟩] : List CRat) 2 ∧
    arcovarMarple ([⟨1, 0⟩, ⟨2, 0⟩, ⟨3, 0⟩, ⟨5, 0⟩, ⟨4, 0⟩, ⟨-1, 0⟩] : List CRat) 2
      = some ([⟨-583 / 257, 0⟩, ⟨511 / 257, 0⟩], ⟨439 / 257, 0⟩) := by
  decide +kernel

/-- the same record through the modified covariance recursion: `a = (-100/83, 52/83)`, `775/332` -/
example :
    modcovarMarpleRec ([⟨1, 0⟩, ⟨2, 0⟩, ⟨3, 0⟩, ⟨5, 0⟩, ⟨4, 0⟩, ⟨-1, 0⟩] : List CRat) 2
      = modcovarMarple ([⟨1, 0⟩, ⟨2, 0⟩, ⟨3, 0⟩, ⟨5, 0⟩, ⟨4, 0⟩, ⟨-1, 0⟩] : List CRat) 2 ∧
    modcovarMarple ([⟨1, 0⟩, ⟨2, 0⟩, ⟨3, 0⟩, ⟨5, 0⟩, ⟨4, 0⟩, ⟨-1, 0⟩] : List CRat) 2
      = some ([⟨-100 / 83, 0⟩, ⟨52 / 83, 0⟩], ⟨775 / 332, 0⟩) := by
  decide +kernel

/-- complex record `x = (1+i, 2-i, -1+2i, 3, 1-2i, i)`, `p = 2`, covariance recursion:
`a = ((4+55i)/117, (-42-40i)/117)`, minimum per sample `358/117` -/
example :
    arcovarMarpleRec ([⟨1, 1⟩, ⟨2, -1⟩, ⟨-1, 2⟩, ⟨3, 0⟩, ⟨1, -2⟩, ⟨0, 1⟩] : List CRat) 2
      = arcovarMarple ([⟨1, 1⟩, ⟨2, -1⟩, ⟨-1, 2⟩, ⟨3, 0⟩, ⟨1, -2⟩, ⟨0, 1⟩] : List CRat) 2 ∧
    arcovarMarple ([⟨1, 1⟩, ⟨2, -1⟩, ⟨-1, 2⟩, ⟨3, 0⟩, ⟨1, -2⟩, ⟨0, 1⟩] : List CRat) 2
      = some ([⟨4 / 117, 55 / 117⟩, ⟨-14 / 39, -40 / 117⟩], ⟨358 / 117, 0⟩) := by
  decide +kernel

/-- the same complex record through the modified covariance recursion -/
example :
    modcovarMarpleRec ([⟨1, 1⟩, ⟨2, -1⟩, ⟨-1, 2⟩, ⟨3, 0⟩, ⟨1, -2⟩, ⟨0, 1⟩] : List CRat) 2
      = modcovarMarple ([⟨1, 1⟩, ⟨2, -1⟩, ⟨-1, 2⟩, ⟨3, 0⟩, ⟨1, -2⟩, ⟨0, 1⟩] : List CRat) 2 ∧
    modcovarMarple ([⟨1, 1⟩, ⟨2, -1⟩, ⟨-1, 2⟩, ⟨3, 0⟩, ⟨1, -2⟩, ⟨0, 1⟩] : List CRat) 2
      = some ([⟨-27 / 1487, 738 / 1487⟩, ⟨-511 / 1487, -504 / 1487⟩], ⟨17667 / 5948, 0⟩) := by
  decide +kernel

/-- an exit: the constant record is fitted exactly at order 1, the order-2 normal equations are
singular, and the recursion stops at the reciprocal of the zero order-1 error energy -/
example :
    arcovarMarpleRec ([⟨1, 0⟩, ⟨1, 0⟩, ⟨1, 0⟩, ⟨1, 0⟩, ⟨1, 0⟩] : List CRat) 2 = none ∧
    arcovarMarple ([⟨1, 0⟩, ⟨1, 0⟩, ⟨1, 0⟩, ⟨1, 0⟩, ⟨1, 0⟩] : List CRat) 2 = none ∧
    arcovarMarpleRec ([⟨1, 0⟩, ⟨1, 0⟩, ⟨1, 0⟩, ⟨1, 0⟩, ⟨1, 0⟩] : List CRat) 1
      = some ([⟨-1, 0⟩], ⟨0, 0⟩) := by
  decide +kernel

/-- the dead reciprocal of the last order update (see `covOrderUpdate`): `x[2..]` of
`(5,1,2,4,8,16)` obeys `x_t = 2 x_{t-1}` exactly, so `pf = 0` on entry of the last order update, yet
the order-2 problem has full rank and the recursion returns its solution `a = (-2, 0)`, error `0` -/
example :
    arcovarMarpleRec ([⟨5, 0⟩, ⟨1, 0⟩, ⟨2, 0⟩, ⟨4, 0⟩, ⟨8, 0⟩, ⟨16, 0⟩] : List CRat) 2
      = some ([⟨-2, 0⟩, ⟨0, 0⟩], ⟨0, 0⟩) ∧
    arcovarMarple ([⟨5, 0⟩, ⟨1, 0⟩, ⟨2, 0⟩, ⟨4, 0⟩, ⟨8, 0⟩, ⟨16, 0⟩] : List CRat) 2
      = some ([⟨-2, 0⟩, ⟨0, 0⟩], ⟨0, 0⟩) := by
  decide +kernel

/-! ### the model's linear solver is verified: the solver contract discharged -/
section Solver
open SpecVerif.GJL
variable {K : Type} [Field K] [IsZero K] [LawfulIsZero K]

/-- **one Gauss–Jordan step is sound** (`n × w` matrix, `col < n ≤ w`): if `gjStep` returns `M'` then
(a) `M'` has the same null space as `M` — `M'` is `M` times an invertible matrix from the left —,
(b) column `col` of `M'` is the unit vector `e_col`, and (c) if the columns `< col` of `M` were the unit
columns `e_0 … e_{col-1}` they still are in `M'`. -/
theorem gjStep_sound (n w col : ℕ) (M M' : Mat K) (hcn : col < n) (hnw : n ≤ w)
    (h : gjStep n w M col = some M') :
    (∀ v : ℕ → K, (∀ i, i < n → ∑ j ∈ range w, mentryM M' i j * v j = 0)
        ↔ (∀ i, i < n → ∑ j ∈ range w, mentryM M i j * v j = 0)) ∧
    (∀ i, i < n → mentryM M' i col = if i = col then 1 else 0) ∧
    ((∀ i, i < n → ∀ j, j < col → mentryM M i j = if i = j then 1 else 0) →
      ∀ i, i < n → ∀ j, j < col → mentryM M' i j = if i = j then 1 else 0) := by
  obtain ⟨p, hcp, hpn, hpz, hE⟩ := gjStep_some h
  have hpiv : mentryM M p col ≠ 0 := (isZero_false_iff _).mp hpz
  have hcw : col < w := hcn.trans_le hnw
  refine ⟨fun v => nullVec_step hE hcn hpn hpiv v, pivotCol_step hE hcw hpiv, ?_⟩
  intro hU i hi j hj
  exact unitCols_step hE hcw hcp hpn hpiv hU i hi j (Nat.lt_succ_of_lt hj)

theorem gjStep_fails (n w col : ℕ) (M : Mat K) (h : gjStep n w M col = none) :
    ∀ i, col ≤ i → i < n → mentryM M i col = 0 :=
  fun i hci hin => (LawfulIsZero.isZero_iff _).mp (gjStep_none h i hci hin)

/-- **`solveMat` is sound**: a returned `X` satisfies `A X = B` (`A` is `n × n`, `B` and `X` are `n × m`) -/
theorem solveMat_solves (A B : Mat K) (n m : ℕ) (X : Mat K) (h : solveMat A B n m = some X) :
    ∀ i, i < n → ∀ j, j < m → ∑ k ∈ range n, mentryM A i k * mentryM X k j = mentryM B i j :=
  solveMat_sound h

/-- **`solveMat` succeeds exactly on nonsingular matrices**: it returns a solution iff `A v = 0` only
for `v = 0` (whatever the right-hand side `B`) -/
theorem solveMat_succeeds_iff (A B : Mat K) (n m : ℕ) :
    (∃ X, solveMat A B n m = some X) ↔
      ∀ v : ℕ → K, (∀ i, i < n → ∑ k ∈ range n, mentryM A i k * v k = 0) → ∀ k, k < n → v k = 0 :=
  ⟨fun ⟨_, h⟩ v hv => solveMat_nonsing h v hv, solveMat_complete A B n m⟩

/-- **`solveVec` is sound**: `A v = b` -/
theorem solveVec_solves (A : Mat K) (b : List K) (n : ℕ) (v : List K) (h : solveVec A b n = some v) :
    v.length = n ∧ ∀ i, i < n → ∑ k ∈ range n, mentryM A i k * nth v k = nth b i :=
  ⟨solveVec_length h, solveVec_sound h⟩

/-- **`inverse` is sound**: `A · inverse A = I` -/
theorem inverse_right (A : Mat K) (n : ℕ) (Ai : Mat K) (h : inverse A n = some Ai) :
    ∀ i, i < n → ∀ j, j < n →
      ∑ k ∈ range n, mentryM A i k * mentryM Ai k j = if i = j then 1 else 0 := by
  intro i hi j hj
  unfold inverse at h
  rw [solveMat_sound h i hi j hj, mentryM_identity n i j hi hj]

variable [StarRing K]

/-- **`lstsq` solves the normal equations** `XᴴX a = Xᴴ b` of the `r × c` problem `min ‖b - X a‖²` -/
theorem lstsq_normal_equations (X : Mat K) (b : List K) (r c : ℕ) (a : List K)
    (h : lstsq X b r c = some a) :
    ∀ k, k < c →
      ∑ l ∈ range c, (∑ i ∈ range r, star (mentryM X i k) * mentryM X i l) * nth a l
        = ∑ i ∈ range r, star (mentryM X i k) * nth b i := by
  intro k hk
  have hs : solveVec (matMul (conjT X r c) X c r c) (matVec (conjT X r c) b c r) c = some a := h
  have := solveVec_sound hs k hk
  rw [nth_matVec _ _ c r k hk] at this
  have e1 : ∑ i ∈ range r, mentryM (conjT X r c) k i * nth b i
      = ∑ i ∈ range r, star (mentryM X i k) * nth b i := by
    apply Finset.sum_congr rfl
    intro i hi
    rw [mentryM_conjT X r c k i hk (mem_range.mp hi)]
  rw [e1] at this
  rw [← this]
  apply Finset.sum_congr rfl
  intro l hl
  rw [mentryM_matMul _ _ c r c k l hk (mem_range.mp hl)]
  exact congrArg (· * nth a l) (Finset.sum_congr rfl (fun i hi => by
    rw [mentryM_conjT X r c k i hk (mem_range.mp hi)]))

/-- **`lsFit` without solver hypothesis**: whatever it returns satisfies the normal equations of
`[X_1 | X_c]`, and `e` is the residual energy there. -/
theorem lsFit_normalEq (X : Mat K) (rows p : ℕ) (a : List K) (e : K)
    (h : lsFit X rows p = some (a, e)) :
    NormalEq (col0 X) (colR X) rows p (nth a) ∧ e = lsEnergy (col0 X) (colR X) rows p (nth a) :=
  lsFit_sound h

/-- **`lsFit` succeeds exactly when the Gram matrix `X_cᴴX_c` is nonsingular** (`ShiftLSL.GramInj`,
written out; over `ℝ`/`ℂ`: full column rank of `X_c`, `LSL.gramInj_of_colInj`) -/
theorem lsFit_succeeds_iff (X : Mat K) (rows p : ℕ) :
    (∃ a e, lsFit X rows p = some (a, e)) ↔
      ∀ d : ℕ → K,
        (∀ b, b < p → ∑ i ∈ range rows, star (colR X i b) * ∑ j ∈ range p, colR X i j * d j = 0) →
          ∀ j, j < p → d j = 0 :=
  lsFit_some_iff X rows p

/-- **the returned coefficients are the only solution of the normal equations**, and there are `p` of
them -/
theorem lsFit_unique (X : Mat K) (rows p : ℕ) (a : List K) (e : K)
    (h : lsFit X rows p = some (a, e)) :
    a.length = p ∧
    ∀ a' : ℕ → K, NormalEq (col0 X) (colR X) rows p a' → ∀ j, j < p → a' j = nth a j :=
  ⟨lsFit_length h, lsFit_solution_unique h⟩

/-- **covariance method, any field with involution, no solver hypothesis**: if `arcovar x p` returns
`(a, e)` then the forward prediction error at `a` is orthogonal to every regressor (normal equations),
`e` is the forward prediction-error energy at `a`, the energy at any `a'` exceeds it by
`Σ_i |lsDiff … i|²` (left in terms of the data matrix), and `a` is the only solution of the normal equations. -/
theorem arcovar_normalEq (x : List K) (p : ℕ) (a : List K) (e : K)
    (h : arcovar x p = some (a, e)) :
    (∀ b, b < p → ∑ t ∈ Ico p x.length, star (nth x (t - 1 - b)) * fwdErr x p (nth a) t = 0) ∧
    e = fwdEnergy x p (nth a) ∧
    (∀ a' : ℕ → K, fwdEnergy x p a' = e + ∑ i ∈ range (x.length - p),
      lsDiff (colR (corrmtx x p .covariance)) p (nth a) a' i
        * star (lsDiff (colR (corrmtx x p .covariance)) p (nth a) a' i)) ∧
    (∀ a' : ℕ → K,
      (∀ b, b < p → ∑ t ∈ Ico p x.length, star (nth x (t - 1 - b)) * fwdErr x p a' t = 0) →
        ∀ j, j < p → a' j = nth a j) := by
  have hn := (lsFit_sound h).1
  have key := lsFit_error h hn
  simp only [CovarL.covariance_energy] at key
  obtain ⟨he, hpy⟩ := key
  refine ⟨(CovarL.covariance_normalEq_iff x p (nth a)).mp hn, he, hpy, fun a' ha' => ?_⟩
  exact lsFit_solution_unique h a' ((CovarL.covariance_normalEq_iff x p a').mpr ha')

/-- **modified covariance method, any field with involution, no solver hypothesis** -/
theorem modcovar_normalEq (x : List K) (p : ℕ) (a : List K) (e : K)
    (h : modcovar x p = some (a, e)) :
    (∀ b, b < p → ∑ t ∈ Ico p x.length, star (nth x (t - 1 - b)) * fwdErr x p (nth a) t
          + ∑ s ∈ range (x.length - p), nth x (s + 1 + b) * star (bwdErr x p (nth a) s) = 0) ∧
    e = fwdEnergy x p (nth a) + bwdEnergy x p (nth a) ∧
    (∀ a' : ℕ → K, fwdEnergy x p a' + bwdEnergy x p a' = e + ∑ i ∈ range (2 * (x.length - p)),
      lsDiff (colR (corrmtx x p .modified)) p (nth a) a' i
        * star (lsDiff (colR (corrmtx x p .modified)) p (nth a) a' i)) ∧
    (∀ a' : ℕ → K,
      (∀ b, b < p → ∑ t ∈ Ico p x.length, star (nth x (t - 1 - b)) * fwdErr x p a' t
          + ∑ s ∈ range (x.length - p), nth x (s + 1 + b) * star (bwdErr x p a' s) = 0) →
        ∀ j, j < p → a' j = nth a j) := by
  have hn := (lsFit_sound h).1
  have key := lsFit_error h hn
  simp only [CovarL.modified_energy] at key
  obtain ⟨he, hpy⟩ := key
  refine ⟨(CovarL.modified_normalEq_iff x p (nth a)).mp hn, he, hpy, fun a' ha' => ?_⟩
  exact lsFit_solution_unique h a' ((CovarL.modified_normalEq_iff x p a').mpr ha')

/-- **`arcovar` / `modcovar` succeed exactly when the Gram matrix of the regressor block of their data
matrix is nonsingular** -/
theorem covar_succeeds_iff (x : List K) (p : ℕ) :
    ((∃ a e, arcovar x p = some (a, e)) ↔
      ∀ d : ℕ → K,
        (∀ b, b < p → ∑ i ∈ range (x.length - p), star (colR (corrmtx x p .covariance) i b)
            * ∑ j ∈ range p, colR (corrmtx x p .covariance) i j * d j = 0) →
          ∀ j, j < p → d j = 0) ∧
    ((∃ a e, modcovar x p = some (a, e)) ↔
      ∀ d : ℕ → K,
        (∀ b, b < p → ∑ i ∈ range (2 * (x.length - p)), star (colR (corrmtx x p .modified) i b)
            * ∑ j ∈ range p, colR (corrmtx x p .modified) i j * d j = 0) →
          ∀ j, j < p → d j = 0) :=
  ⟨lsFit_some_iff _ _ p, lsFit_some_iff _ _ p⟩

end Solver

section SolverRC
open SpecVerif.GJL
variable {𝕜 : Type} [RCLike 𝕜] [IsZero 𝕜] [LawfulIsZero 𝕜]

/-- **C14, covariance method, unconditional** (`ℝ`/`ℂ`, lawful pivot test): if `arcovar x p` returns
`(a, e)` then the normal equations hold, `e` is the forward prediction-error energy
`Σ_{t=p}^{N-1} |x[t] + Σ_j a_j x[t-1-j]|²`, no coefficient vector has a smaller one, and every
coefficient vector with the same energy coincides with `a` (on `j < p`). -/
theorem arcovar_least_squares (x : List 𝕜) (p : ℕ) (a : List 𝕜) (e : 𝕜)
    (h : arcovar x p = some (a, e)) :
    (∀ b, b < p → ∑ t ∈ Ico p x.length, star (nth x (t - 1 - b)) * fwdErr x p (nth a) t = 0) ∧
    e = ((∑ t ∈ Ico p x.length, ‖fwdErr x p (nth a) t‖ ^ 2 : ℝ) : 𝕜) ∧
    (∀ a' : ℕ → 𝕜, ∑ t ∈ Ico p x.length, ‖fwdErr x p (nth a) t‖ ^ 2
      ≤ ∑ t ∈ Ico p x.length, ‖fwdErr x p a' t‖ ^ 2) ∧
    (∀ a' : ℕ → 𝕜, (∀ a'' : ℕ → 𝕜, ∑ t ∈ Ico p x.length, ‖fwdErr x p a' t‖ ^ 2
        ≤ ∑ t ∈ Ico p x.length, ‖fwdErr x p a'' t‖ ^ 2) → ∀ j, j < p → a' j = nth a j) := by
  have key := lsFit_least_squares h
  simp only [CovarL.covariance_normalEq_iff, CovarL.covariance_energyR] at key
  exact key

/-- **C14, modified covariance method, unconditional** (`ℝ`/`ℂ`, lawful pivot test) -/
theorem modcovar_least_squares (x : List 𝕜) (p : ℕ) (a : List 𝕜) (e : 𝕜)
    (h : modcovar x p = some (a, e)) :
    (∀ b, b < p → ∑ t ∈ Ico p x.length, star (nth x (t - 1 - b)) * fwdErr x p (nth a) t
          + ∑ s ∈ range (x.length - p), nth x (s + 1 + b) * star (bwdErr x p (nth a) s) = 0) ∧
    e = ((∑ t ∈ Ico p x.length, ‖fwdErr x p (nth a) t‖ ^ 2
          + ∑ s ∈ range (x.length - p), ‖bwdErr x p (nth a) s‖ ^ 2 : ℝ) : 𝕜) ∧
    (∀ a' : ℕ → 𝕜, ∑ t ∈ Ico p x.length, ‖fwdErr x p (nth a) t‖ ^ 2
          + ∑ s ∈ range (x.length - p), ‖bwdErr x p (nth a) s‖ ^ 2
      ≤ ∑ t ∈ Ico p x.length, ‖fwdErr x p a' t‖ ^ 2
          + ∑ s ∈ range (x.length - p), ‖bwdErr x p a' s‖ ^ 2) ∧
    (∀ a' : ℕ → 𝕜, (∀ a'' : ℕ → 𝕜, ∑ t ∈ Ico p x.length, ‖fwdErr x p a' t‖ ^ 2
          + ∑ s ∈ range (x.length - p), ‖bwdErr x p a' s‖ ^ 2
        ≤ ∑ t ∈ Ico p x.length, ‖fwdErr x p a'' t‖ ^ 2
          + ∑ s ∈ range (x.length - p), ‖bwdErr x p a'' s‖ ^ 2) → ∀ j, j < p → a' j = nth a j) := by
  have key := lsFit_least_squares h
  simp only [CovarL.modified_normalEq_iff, CovarL.modified_energyR] at key
  exact key

/-- **Marple covariance stand-in, unconditional**: the coefficients of `arcovar`, and the minimum forward
energy per prediction equation `E_min/(N-p)` (`hp` is not needed: `·/0 = 0` on both sides) -/
theorem arcovarMarple_least_squares (x : List 𝕜) (p : ℕ) (hp : p < x.length) (a : List 𝕜) (e' : 𝕜)
    (h : arcovarMarple x p = some (a, e')) :
    (∃ e, arcovar x p = some (a, e)) ∧
    e' = (((∑ t ∈ Ico p x.length, ‖fwdErr x p (nth a) t‖ ^ 2) / ((x.length - p : ℕ) : ℝ) : ℝ) : 𝕜) ∧
    ∀ a' : ℕ → 𝕜, ∑ t ∈ Ico p x.length, ‖fwdErr x p (nth a) t‖ ^ 2
      ≤ ∑ t ∈ Ico p x.length, ‖fwdErr x p a' t‖ ^ 2 := by
  obtain ⟨e, h1, rfl⟩ := (CovarL.arcovarMarple_iff x p a e').mp h
  obtain ⟨_, he, hmin, _⟩ := arcovar_least_squares x p a e h1
  exact ⟨⟨e, h1⟩, by rw [he, RCLike.ofReal_div, RCLike.ofReal_natCast], hmin⟩

/-- **Marple modified covariance stand-in, unconditional**: the coefficients of `modcovar`, and the
minimum forward + backward energy per equation `E_min/(2(N-p))` -/
theorem modcovarMarple_least_squares (x : List 𝕜) (p : ℕ) (hp : p < x.length) (a : List 𝕜) (e' : 𝕜)
    (h : modcovarMarple x p = some (a, e')) :
    (∃ e, modcovar x p = some (a, e)) ∧
    e' = (((∑ t ∈ Ico p x.length, ‖fwdErr x p (nth a) t‖ ^ 2
          + ∑ s ∈ range (x.length - p), ‖bwdErr x p (nth a) s‖ ^ 2)
            / ((2 * (x.length - p) : ℕ) : ℝ) : ℝ) : 𝕜) ∧
    ∀ a' : ℕ → 𝕜, ∑ t ∈ Ico p x.length, ‖fwdErr x p (nth a) t‖ ^ 2
          + ∑ s ∈ range (x.length - p), ‖bwdErr x p (nth a) s‖ ^ 2
      ≤ ∑ t ∈ Ico p x.length, ‖fwdErr x p a' t‖ ^ 2
          + ∑ s ∈ range (x.length - p), ‖bwdErr x p a' s‖ ^ 2 := by
  obtain ⟨e, h1, rfl⟩ := (CovarL.modcovarMarple_iff x p a e').mp h
  obtain ⟨_, he, hmin, _⟩ := modcovar_least_squares x p a e h1
  exact ⟨⟨e, h1⟩, by rw [he, RCLike.ofReal_div, RCLike.ofReal_natCast], hmin⟩

end SolverRC

section SolverExamples
open SpecVerif.GJL

-- exact zero tests on `ℚ` and `ℝ` for the examples (the executable instances are `CRat` / `CFloat`), and
-- their lawfulness: the hypothesis `LawfulIsZero` of the solver section is satisfiable
local instance : IsZero ℚ := ⟨fun q => decide (q = 0)⟩
local instance : LawfulIsZero ℚ := lawful_decide
noncomputable local instance : IsZero ℝ := ⟨fun q => decide (q = 0)⟩
local instance : LawfulIsZero ℝ := lawful_decide

/-- hypotheses of `gjStep_sound` / `solveVec_solves` / `solveMat_succeeds_iff` / `inverse_right`: a
`2 × 2` system whose first pivot is zero (row swap), a singular system, a `3 × 3` inverse -/
example :
    gjStep 2 3 ([[0, 1, 2], [1, 1, 3]] : Mat ℚ) 0 = some [[1, 1, 3], [0, 1, 2]] ∧
    solveVec ([[0, 1], [1, 1]] : Mat ℚ) [2, 3] 2 = some [1, 2] ∧
    solveVec ([[1, 2], [2, 4]] : Mat ℚ) [1, 1] 2 = none ∧
    inverse ([[0, 0, 2], [0, 1, 0], [4, 0, 0]] : Mat ℚ) 3
      = some [[0, 0, 1 / 4], [0, 1, 0], [1 / 2, 0, 0]] := by
  decide +kernel

/-- hypotheses of `lsFit_normalEq` / `arcovar_normalEq` / `modcovar_normalEq` over `ℚ` (order 2, the
elimination runs two steps); the singular case of `covar_succeeds_iff` (constant record, order 2) -/
example :
    arcovar ([1, 2, 3, 5, 4, -1] : List ℚ) 2 = some ([-583 / 257, 511 / 257], 1756 / 257) ∧
    modcovar ([1, 2, 3, 5, 4, -1] : List ℚ) 2 = some ([-100 / 83, 52 / 83], 1550 / 83) ∧
    arcovar ([1, 1, 1, 1, 1] : List ℚ) 2 = none := by
  decide +kernel

/-- hypothesis of `arcovar_least_squares` / `modcovar_least_squares` /
`arcovarMarple_least_squares` over `ℝ`: the model returns a value on `x = [1,2,3,5]`, `p = 1` -/
example : arcovar ([1, 2, 3, 5] : List ℝ) 1 = some ([-23/14], 3/14) ∧
    modcovar ([1, 2, 3, 5] : List ℝ) 1 = some ([-23/26], 147/13) :=
  ⟨CovarL.arcovar_1235, CovarL.modcovar_1235⟩

/-- hypotheses of `arcovar_error` / `arcovarMarple_error`: on `x = [1,2,3,5]`,
`p = 1`, the model returns `a = -23/14`, `e = 3/14` (non-zero residual) and `a` satisfies the normal
equations. -/
example : arcovar ([1, 2, 3, 5] : List ℝ) 1 = some ([-23/14], 3/14) ∧
    (∀ b, b < 1 → ∑ t ∈ Ico 1 ([1, 2, 3, 5] : List ℝ).length,
      star (nth ([1, 2, 3, 5] : List ℝ) (t - 1 - b))
        * fwdErr [1, 2, 3, 5] 1 (nth [-23/14]) t = 0) :=
  ⟨CovarL.arcovar_1235, (arcovar_normalEq _ 1 _ _ CovarL.arcovar_1235).1⟩

/-- hypotheses of `modcovar_error` / `modcovarMarple_error`: on
`x = [1,2,3,5]`, `p = 1`, the model returns `a = -23/26`, `e = 147/13`, and `a` satisfies the
modified-covariance normal equations. -/
example : modcovar ([1, 2, 3, 5] : List ℝ) 1 = some ([-23/26], 147/13) ∧
    (∀ b, b < 1 → ∑ t ∈ Ico 1 ([1, 2, 3, 5] : List ℝ).length,
        star (nth ([1, 2, 3, 5] : List ℝ) (t - 1 - b)) * fwdErr [1, 2, 3, 5] 1 (nth [-23/26]) t
      + ∑ s ∈ range (([1, 2, 3, 5] : List ℝ).length - 1),
        nth ([1, 2, 3, 5] : List ℝ) (s + 1 + b)
          * star (bwdErr [1, 2, 3, 5] 1 (nth [-23/26]) s) = 0) :=
  ⟨CovarL.modcovar_1235, (modcovar_normalEq _ 1 _ _ CovarL.modcovar_1235).1⟩

end SolverExamples

/-! ### the generic theorems applied at `K := CRat` (`Lemmas/CRatField.lean`); the `example … := rfl`
lines check that the elaborated function is the model's -/
section CRatInstantiation

/-- **`arcovar_normalEq` for the executed model** (the model's own Gauss–Jordan solver with its own
pivot test `instIsZeroCRat`, lawful by `CRat.instLawfulIsZero`): normal equations, error energy,
energy excess of any other coefficient vector, uniqueness -/
theorem arcovar_normalEq_CRat (x : List CRat) (p : ℕ) (a : List CRat) (e : CRat)
    (h : arcovar x p = some (a, e)) :
    (∀ b, b < p → ∑ t ∈ Ico p x.length, conj (nth x (t - 1 - b)) * fwdErr x p (nth a) t = 0) ∧
    e = fwdEnergy x p (nth a) ∧
    (∀ a' : ℕ → CRat, fwdEnergy x p a' = e + ∑ i ∈ range (x.length - p),
      lsDiff (colR (corrmtx x p .covariance)) p (nth a) a' i
        * conj (lsDiff (colR (corrmtx x p .covariance)) p (nth a) a' i)) ∧
    (∀ a' : ℕ → CRat,
      (∀ b, b < p → ∑ t ∈ Ico p x.length, conj (nth x (t - 1 - b)) * fwdErr x p a' t = 0) →
        ∀ j, j < p → a' j = nth a j) :=
  arcovar_normalEq x p a e h

example : (fun (K : Type) [Field K] [StarRing K] [IsZero K] => (arcovar : List K → _)) CRat
    = @arcovar CRat CRat.instAdd CRat.instSub CRat.instMul CRat.instDiv CRat.instNeg
        CRat.instOfNatOfNatNat CRat.instConj instIsZeroCRat := rfl
example : @arcovar CRat CRat.instAdd CRat.instSub CRat.instMul CRat.instDiv CRat.instNeg
    CRat.instOfNatOfNatNat CRat.instConj instIsZeroCRat = arcovar := rfl

end CRatInstantiation

end SpecVerif.C14
