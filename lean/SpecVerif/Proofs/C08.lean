import SpecVerif.Proofs.Lemmas.Arma
import SpecVerif.Proofs.Lemmas.Periodogram
import SpecVerif.Model.Sides
import Mathlib.Tactic.FieldSimp
import Mathlib.Tactic.Ring
/-
  C08 — `scale_by_freq` multiplies once by `2π/df`; the sampling frequency divides the AR/MA/ARMA model
  spectra and leaves the Fourier / multitaper / subspace values alone; `arma2psd` is
  `(rho/T)·|B(f)|²/|A(f)|²` on the grid `k/NFFT`.

  `K` is any field with an involution (`ℂ` in particular), `ω` an `NFFT`-th root of unity (numpy's
  `e^{-2πi/NFFT}`), `polyAt ω c k = 1 + Σ_{j<len c} c_j ω^{(j+1)k}` the polynomial `1 + Σ c_j z^{j+1}`
  at `z = ω^k`.  The `__call__` of pburg, pyule, pcovar, pmodcovar, parma, pma, pminvar, pcorrelogram
  and MultiTapering is `classPsd raw isReal nfft scaleByFreq twoPi sampling` (`classCall .fold2`), `raw`
  the two-sided estimate; Periodogram and pmusic/pev use the `.take` / `.eigen` glue of
  `Model/ClassGlue` with the same single `scalePsd`: their scale clause is `C02.placement_scaled`.
  The AR/MA/ARMA classes have `raw = arma2psd tw A B rho sampling nfft`; pminvar has
  `raw = minvarPsd tw a P sampling nfft` (proportional to `sampling`, `minvarPsd_sampling`); in the raw
  of the other classes `sampling` does not occur.
-/
namespace SpecVerif.C08
open Finset SpecVerif SpecVerif.ArmaL

variable {K : Type} [Field K]

section ArmaGrid
variable [StarRing K]

theorem arma2psd_length (tw : List K) (A B : Option (List K)) (rho T : K) (nfft : ℕ) :
    (arma2psd tw A B rho T nfft).length = nfft :=
  SpecVerif.arma2psd_length tw A B rho T nfft

/-- **ARMA clause**: for `NFFT > max(len A, len B)` bin `k` of `arma2psd(A, B, rho, T, NFFT)` is
`(rho/T)·|B(ω^k)|²/|A(ω^k)|²` with `A(z) = 1 + Σ a_j z^{j+1}`, `B(z) = 1 + Σ b_j z^{j+1}`. -/
theorem arma2psd_eq {ω : K} {nfft : ℕ} (hω : ω ^ nfft = 1) (A B : List K)
    (hA : A.length < nfft) (hB : B.length < nfft) (rho T : K) (k : ℕ) (hk : k < nfft) :
    nth (arma2psd (twiddles ω nfft) (some A) (some B) rho T nfft) k
      = rho / T * (polyAt ω B k * star (polyAt ω B k)) / (polyAt ω A k * star (polyAt ω A k)) := by
  rw [nth_arma2psd _ _ _ _ _ _ hk, armaFactor_some hω A hA, armaFactor_some hω B hB]

/-- the same with the sums written out (what `polyAt` abbreviates) -/
theorem arma2psd_eq_sum {ω : K} {nfft : ℕ} (hω : ω ^ nfft = 1) (A B : List K)
    (hA : A.length < nfft) (hB : B.length < nfft) (rho T : K) (k : ℕ) (hk : k < nfft) :
    nth (arma2psd (twiddles ω nfft) (some A) (some B) rho T nfft) k
      = rho / T
        * ((1 + ∑ j ∈ range B.length, nth B j * ω ^ ((j + 1) * k))
            * star (1 + ∑ j ∈ range B.length, nth B j * ω ^ ((j + 1) * k)))
        / ((1 + ∑ j ∈ range A.length, nth A j * ω ^ ((j + 1) * k))
            * star (1 + ∑ j ∈ range A.length, nth A j * ω ^ ((j + 1) * k))) :=
  arma2psd_eq hω A B hA hB rho T k hk

/-- **pure AR** (`B = None`): `(rho/T)/|A(ω^k)|²` -/
theorem arma2psd_eq_ar {ω : K} {nfft : ℕ} (hω : ω ^ nfft = 1) (A : List K)
    (hA : A.length < nfft) (rho T : K) (k : ℕ) (hk : k < nfft) :
    nth (arma2psd (twiddles ω nfft) (some A) none rho T nfft) k
      = rho / T * 1 / (polyAt ω A k * star (polyAt ω A k)) := by
  rw [nth_arma2psd _ _ _ _ _ _ hk, armaFactor_some hω A hA, armaFactor_none]

/-- **pure MA** (`A = None`): `(rho/T)·|B(ω^k)|²` -/
theorem arma2psd_eq_ma {ω : K} {nfft : ℕ} (hω : ω ^ nfft = 1) (B : List K)
    (hB : B.length < nfft) (rho T : K) (k : ℕ) (hk : k < nfft) :
    nth (arma2psd (twiddles ω nfft) none (some B) rho T nfft) k
      = rho / T * (polyAt ω B k * star (polyAt ω B k)) / 1 := by
  rw [nth_arma2psd _ _ _ _ _ _ hk, armaFactor_some hω B hB, armaFactor_none]

/-- non-vacuity: `K = ℚ` (trivial involution), `ω = -1`, `NFFT = 2`, `A = [3]`, `B = [2]`, `rho = 5`,
`T = 2`, bin `1`: `A(-1) = -2`, `B(-1) = -1`, value `(5/2)·1/4`. -/
example : nth (arma2psd (twiddles (-1 : ℚ) 2) (some [3]) (some [2]) 5 2 2) 1 = 5 / 8 := by
  rw [arma2psd_eq (ω := -1) (by norm_num) [3] [2] (by simp) (by simp) 5 2 1 (by norm_num)]
  decide +kernel

/-- `len A < NFFT` cannot be dropped: `polySeq` keeps only the first `NFFT` entries of `[1, a_1, …]`
(in the Python code `A[NFFT]` is an `IndexError`).  `NFFT = 2`, `ω = -1`, `A = [1, 1]`, bin `0`: the model
sees `[1, 1]`, `|1+1|² = 4`, whereas `|A(1)|² = |1+1+1|² = 9`. -/
example : nth (arma2psd (twiddles (-1 : ℚ) 2) (some [1, 1]) none 1 1 2) 0
    ≠ 1 / 1 * 1 / (polyAt (-1 : ℚ) [1, 1] 0 * star (polyAt (-1 : ℚ) [1, 1] 0)) := by
  decide +kernel

theorem arma2psd_linear_rho (tw : List K) (A B : Option (List K)) (c rho T : K) (nfft : ℕ) :
    arma2psd tw A B (c * rho) T nfft = (arma2psd tw A B rho T nfft).map (fun v => c * v) := by
  apply list_ext_nth (by rw [List.length_map, arma2psd_length, arma2psd_length])
  intro k hk
  rw [arma2psd_length] at hk
  rw [nth_map_mul_left, nth_arma2psd _ _ _ _ _ _ hk, nth_arma2psd _ _ _ _ _ _ hk]
  ring

/-- multiplying the sampling argument `T` by `c` divides every value of `arma2psd` by `c`
(`rho/(c·T) = rho/T/c` also when `c` or `T` is `0`) -/
theorem arma2psd_sampling (tw : List K) (A B : Option (List K)) (rho T c : K) (nfft : ℕ) :
    arma2psd tw A B rho (c * T) nfft = (arma2psd tw A B rho T nfft).map (fun v => v / c) := by
  apply list_ext_nth (by rw [List.length_map, arma2psd_length, arma2psd_length])
  intro k hk
  rw [arma2psd_length] at hk
  rw [nth_map_div, nth_arma2psd _ _ _ _ _ _ hk, nth_arma2psd _ _ _ _ _ _ hk]
  ring

/-- entry form of `arma2psd_sampling` (the hypotheses `hc`, `hT` are not used) -/
theorem arma2psd_sampling_entry (tw : List K) (A B : Option (List K)) (rho T c : K) (hc : c ≠ 0)
    (hT : T ≠ 0) (nfft k : ℕ) :
    nth (arma2psd tw A B rho (c * T) nfft) k = nth (arma2psd tw A B rho T nfft) k / c := by
  rw [arma2psd_sampling tw A B rho T c, nth_map_div]

end ArmaGrid

/-- **scale clause** (the nine `classPsd` classes; the other three: `C02.placement_scaled`):
`scale_by_freq=True` is the `scale_by_freq=False` estimate with every value multiplied (once) by
`2π/df`, `df = sampling/NFFT`. -/
theorem scale_once (raw : List K) (isReal : Bool) (nfft : ℕ) (twoPi fs : K) :
    classPsd raw isReal nfft true twoPi fs
      = (classPsd raw isReal nfft false twoPi fs).map (fun v => v * (twoPi / (fs / (nfft : K)))) := by
  rw [classPsd_true, classPsd_false]

theorem scale_once_entry (raw : List K) (isReal : Bool) (nfft : ℕ) (twoPi fs : K) (k : ℕ) :
    nth (classPsd raw isReal nfft true twoPi fs) k
      = nth (classPsd raw isReal nfft false twoPi fs) k * (twoPi / (fs / (nfft : K))) := by
  rw [scale_once, nth_map_mul_right]

theorem noscale_indep (raw : List K) (isReal : Bool) (nfft : ℕ) (twoPi twoPi' fs fs' : K) :
    classPsd raw isReal nfft false twoPi fs = classPsd raw isReal nfft false twoPi' fs' := by
  rw [classPsd_false, classPsd_false]

theorem classPsd_length (raw : List K) (isReal : Bool) (nfft : ℕ) (s : Bool) (twoPi fs : K) :
    (classPsd raw isReal nfft s twoPi fs).length
      = if isReal then (if nfft % 2 = 0 then nfft / 2 + 1 else (nfft + 1) / 2) else raw.length := by
  rw [classPsd_eq, scalePsd_length]
  cases isReal
  · rfl
  · exact foldReal_length raw nfft

/-- for a two-sided estimate of `NFFT ≥ 1` values every kept index `k` is a valid index of `raw` and
entry `k` of the fold is `2·raw[k]` (the DC and Nyquist bins are doubled too, as in the code). -/
theorem fold_real_entry (raw : List K) {nfft : ℕ} (hn : 0 < nfft) (hraw : raw.length = nfft) (k : ℕ)
    (hk : k < (if nfft % 2 = 0 then nfft / 2 + 1 else (nfft + 1) / 2)) :
    k < raw.length ∧ nth (foldReal raw nfft) k = 2 * nth raw k := by
  rw [oneSided_len] at hk
  constructor
  · omega
  · rw [nth_foldReal, if_pos hk]

/-- **non-parametric clause**: a class whose raw estimate does not involve `sampling` (correlogram,
multitaper; for the Periodogram / MUSIC / EV glue see `C02.placement_scaled`) returns the same values
for any two sampling frequencies when `scale_by_freq=False`. -/
theorem fourier_indep_sampling (raw : List K) (isReal : Bool) (nfft : ℕ) (twoPi fs1 fs2 : K) :
    classPsd raw isReal nfft false twoPi fs1 = classPsd raw isReal nfft false twoPi fs2 :=
  noscale_indep raw isReal nfft twoPi twoPi fs1 fs2

theorem scaled_entry (raw : List K) (isReal : Bool) (nfft : ℕ) (twoPi fs : K) (k : ℕ) :
    nth (classPsd raw isReal nfft true twoPi fs) k
      = nth (classPsd raw isReal nfft false twoPi fs) k * twoPi * (nfft : K) / fs := by
  rw [scale_once_entry, div_div_eq_mul_div, mul_div_assoc', mul_assoc]

/-- with scaling on, two sampling frequencies give estimates that differ exactly by `fs1/fs2` -/
theorem fourier_scaled_ratio (raw : List K) (isReal : Bool) {nfft : ℕ} (twoPi fs1 fs2 : K)
    (h1 : fs1 ≠ 0) (h2 : fs2 ≠ 0) (hn : (nfft : K) ≠ 0) :
    classPsd raw isReal nfft true twoPi fs2
      = (classPsd raw isReal nfft true twoPi fs1).map (fun v => v * (fs1 / fs2)) := by
  rw [classPsd_true, classPsd_true, List.map_map]
  apply List.map_congr_left
  intro v _
  simp only [Function.comp_apply]
  field_simp

/-- the frequency axis of `Range(NFFT, sampling)`: the model's integer bin numbers (`rangeBins`) times
`df = sampling/NFFT`.  Trap: `b` is bound at type `K`, so Lean coerces the `Int` LIST
(`do let a ← rangeBins sd nfft; pure ↑a`) and maps over that; `C02.freqAxis_eq_map` restates the axis as
a plain `map` over `rangeBins`. -/
def freqAxis (sd : Side) (nfft : ℕ) (fs : K) : List K :=
  (rangeBins sd nfft).map (fun b => (b : K) * (fs / (nfft : K)))

/-- **axis clause**: changing the sampling frequency from `fs` to `c·fs` multiplies every frequency of the
axis (one-sided, two-sided or centre-DC) by `c`; the number of points does not change. -/
theorem freq_axis_scales (sd : Side) (nfft : ℕ) (fs c : K) :
    freqAxis sd nfft (c * fs) = (freqAxis sd nfft fs).map (fun f => c * f)
      ∧ (freqAxis sd nfft (c * fs)).length = (freqAxis sd nfft fs).length := by
  unfold freqAxis
  refine ⟨?_, by simp⟩
  rw [List.map_map]
  apply List.map_congr_left
  intro b _
  simp only [Function.comp_apply]
  ring

section ArFamily
variable [StarRing K]

/-- **parametric clause**: for `raw = arma2psd(A, B, rho, sampling, NFFT)` and `scale_by_freq=False`,
changing the sampling frequency from `fs` to `c·fs` divides every returned value by `c`. -/
theorem ar_family_div_by_fs (tw : List K) (A B : Option (List K)) (rho fs c : K) (hc : c ≠ 0)
    (hfs : fs ≠ 0) (isReal : Bool) (nfft : ℕ) (twoPi : K) :
    classPsd (arma2psd tw A B rho (c * fs) nfft) isReal nfft false twoPi (c * fs)
      = (classPsd (arma2psd tw A B rho fs nfft) isReal nfft false twoPi fs).map (fun v => v / c) := by
  rw [classPsd_false, classPsd_false, arma2psd_sampling tw A B rho fs c]
  cases isReal
  · simp
  · simp only [if_true]
    rw [foldReal_map _ (zero_div c) (fun v => mul_div_assoc 2 v c)]

theorem ar_family_div_by_fs_entry (tw : List K) (A B : Option (List K)) (rho fs c : K) (hc : c ≠ 0)
    (hfs : fs ≠ 0) (isReal : Bool) (nfft : ℕ) (twoPi : K) (k : ℕ) :
    nth (classPsd (arma2psd tw A B rho (c * fs) nfft) isReal nfft false twoPi (c * fs)) k
      = nth (classPsd (arma2psd tw A B rho fs nfft) isReal nfft false twoPi fs) k / c := by
  rw [ar_family_div_by_fs tw A B rho fs c hc hfs, nth_map_div]

/-- with `scale_by_freq=True` the factor `2π·NFFT/sampling` contributes a second `1/c`: the scaled
AR/MA/ARMA spectra are divided by `c²`. -/
theorem ar_family_scaled_div_by_fs_sq (tw : List K) (A B : Option (List K)) (rho fs c : K)
    (hc : c ≠ 0) (hfs : fs ≠ 0) (isReal : Bool) {nfft : ℕ} (hn : (nfft : K) ≠ 0) (twoPi : K) (k : ℕ) :
    nth (classPsd (arma2psd tw A B rho (c * fs) nfft) isReal nfft true twoPi (c * fs)) k
      = nth (classPsd (arma2psd tw A B rho fs nfft) isReal nfft true twoPi fs) k / (c * c) := by
  rw [scaled_entry, scaled_entry,
    ar_family_div_by_fs_entry tw A B rho fs c hc hfs]
  field_simp

/-- the ψ sequence has `NFFT` entries; the first `m = len a` are the lags
`ψ_j = Σ_{i<m-j} (m-j-2i)·conj(a_i)·a_{i+j}/P` -/
theorem minvarPsi_entry (a : List K) (P : K) {nfft j : ℕ} (hj : j < a.length) (hjn : j < nfft) :
    (minvarPsi a P nfft).length = nfft ∧ nth (minvarPsi a P nfft) j = minvarLag a P j :=
  ⟨minvarPsi_length a P nfft, nth_minvarPsi_low a P hj hjn⟩

/-- **Hermitian symmetry**: when the two halves of ψ do not overlap (`2m ≤ NFFT+1`, `m = len a`),
`ψ[NFFT-j] = conj ψ[j]` for every `0 < j < NFFT` (both are zero padding for `m ≤ j ≤ NFFT-m`). -/
theorem minvarPsi_hermitian (a : List K) (P : K) {nfft : ℕ} (hno : 2 * a.length ≤ nfft + 1) {j : ℕ}
    (h0 : 0 < j) (hj : j < nfft) :
    nth (minvarPsi a P nfft) (nfft - j) = star (nth (minvarPsi a P nfft) j) := by
  have hjj : nfft - (nfft - j) = j := Nat.sub_sub_self hj.le
  by_cases h1 : j < a.length
  · rw [nth_minvarPsi_high a P h0 h1 (by omega), nth_minvarPsi_low a P h1 hj]
  · have h1' : a.length ≤ nfft - (nfft - j) := hjj.symm ▸ Nat.not_lt.mp h1
    by_cases h2 : nfft - j < a.length
    · have hhigh := nth_minvarPsi_high a P (Nat.sub_pos_of_lt hj) h2 h1'
      rw [hjj] at hhigh
      rw [nth_minvarPsi_low a P h2 (Nat.sub_lt (h0.trans hj) h0), hhigh, star_star]
    · rw [nth_minvarPsi_mid a P (j := nfft - j) (Nat.not_lt.mp h2) h1',
        nth_minvarPsi_mid a P (j := j) (Nat.not_lt.mp h1) (Nat.not_lt.mp h2), star_zero]


theorem minvarPsi_zero_selfadjoint (a : List K) {P : K} (hP : star P = P) {nfft : ℕ}
    (ha : 0 < a.length) (hn : 0 < nfft) :
    star (nth (minvarPsi a P nfft) 0) = nth (minvarPsi a P nfft) 0 := by
  rw [nth_minvarPsi_low a P ha hn, star_minvarLag_zero a hP]

/-- hence every bin of `FFT(ψ)` is self-adjoint (real): taking `Re` in the code loses nothing -/
theorem minvarPsi_dft_selfadjoint {ω : K} {nfft : ℕ} (hn : 0 < nfft) (hω : ω ^ nfft = 1)
    (hstar : star ω = ω⁻¹) (a : List K) {P : K} (hP : star P = P) (ha : 0 < a.length)
    (hno : 2 * a.length ≤ nfft + 1) (k : ℕ) :
    star (dftBin (twiddles ω nfft) nfft (minvarPsi a P nfft) k)
      = dftBin (twiddles ω nfft) nfft (minvarPsi a P nfft) k := by
  rw [dftBin_eq_full hn hω]
  exact dft_selfadjoint_of_hermitian hω hstar (nth (minvarPsi a P nfft))
    (minvarPsi_zero_selfadjoint a hP ha hn) (fun j h0 hj => minvarPsi_hermitian a P hno h0 hj) k

/-- **`minvar` PSD**: bin `k` is `sampling / Σ_j ψ_j ω^{jk}` (the `Re` is the identity) -/
theorem minvarPsd_entry {ω : K} {nfft : ℕ} (h2 : (2 : K) ≠ 0) (hω : ω ^ nfft = 1)
    (hstar : star ω = ω⁻¹) (a : List K) {P : K} (hP : star P = P) (ha : 0 < a.length)
    (hno : 2 * a.length ≤ nfft + 1) (fs : K) (k : ℕ) (hk : k < nfft) :
    nth (minvarPsd (twiddles ω nfft) a P fs nfft) k
      = fs / ∑ j ∈ range nfft, nth (minvarPsi a P nfft) j * ω ^ (j * k) := by
  have hn : 0 < nfft := by omega
  rw [nth_minvarPsd _ _ _ _ _ hk,
    rePart_of_star_eq h2 (minvarPsi_dft_selfadjoint hn hω hstar a hP ha hno k),
    dftBin_eq_full hn hω]

/-- so pminvar is NOT among the classes `fourier_indep_sampling` speaks about -/
theorem minvarPsd_sampling (tw a : List K) (P fs c : K) (nfft : ℕ) :
    minvarPsd tw a P (c * fs) nfft = (minvarPsd tw a P fs nfft).map (fun v => c * v) := by
  unfold minvarPsd
  simp only [map_vec]
  apply vec_ext
  intro k _
  rw [mul_div_assoc]

/-- non-vacuity / the overlap bound: `K = ℚ`, `a = [1, 3]` (`m = 2`), `P = 1`: for `NFFT = 3 = 2m-1` the
sequence is `[ψ_0, ψ_1, conj ψ_1] = [2, 3, 3]`; for `NFFT = 2 < 2m-1` index `1` is claimed by both halves
(`ψ_1` wins, as in the code). -/
example : minvarPsi ([1, 3] : List ℚ) 1 3 = [2, 3, 3] ∧ minvarPsi ([1, 3] : List ℚ) 1 2 = [2, 3] := by
  decide +kernel

end ArFamily

end SpecVerif.C08
