import SpecVerif.Proofs.Lemmas.Grid
import SpecVerif.Proofs.Lemmas.Glue
import SpecVerif.Proofs.Lemmas.Burg
import SpecVerif.Proofs.Lemmas.Eigen
import SpecVerif.Model.Minvar
import Mathlib.Data.Complex.Basic
import Mathlib.Tactic.NormNum
/-
  C05 — NFFT only chooses the sampling grid.

  "With frequency scaling off, the estimate at a given physical frequency does not depend on NFFT: for any
  two admissible NFFT values the PSD values at frequencies common to both grids agree, for every estimator
  class, and the model parameters do not depend on NFFT at all.  Admissible: NFFT ≥ N (periodogram,
  multitaper), NFFT ≥ 2·lag+1 (correlogram), NFFT ≥ 2·order (minimum variance), NFFT > model order
  (parametric classes)."

  Notation.  `K` is any field with an involution.  Nested grids: the coarse grid has `n` points and root
  `ω`, the fine grid `c·n` points (`c ≥ 1`) and root `Ω`, with `Ω^(c·n) = 1` and `Ω^c = ω` (true for
  numpy's `Ω = e^{-2πi/(cn)}`, `ω = e^{-2πi/n}`); coarse bin `j` and fine bin `c·j` are the same physical
  frequency `j/n = cj/(cn)`.  The `*_grid` theorems are stated for nested grids; the `*_same_frequency`
  theorems are the general form: two arbitrary admissible grids `(ω₁, n₁)`, `(ω₂, n₂)` and two bins with
  `ω₁^k₁ = ω₂^k₂` (the same point of the unit circle), which covers two grids `c₁·g`, `c₂·g` with a common
  sub-grid (`dft_two_grids`).  Only the root-of-unity equations are assumed, not primitivity.
-/
namespace SpecVerif.C05
open Finset SpecVerif SpecVerif.ArmaL SpecVerif.GridL SpecVerif.MtmL SpecVerif.GlueL

variable {K : Type} [Field K]

/-! ### the DFT -/

/-- **same frequency, same DFT value**: for two grids and two bins at the same point of the unit circle
(`ω₁^k₁ = ω₂^k₂`), the DFTs of a sequence that neither grid truncates agree. -/
theorem dft_same_frequency {ω₁ ω₂ : K} {n₁ n₂ k₁ k₂ : ℕ} (hn₁ : 0 < n₁) (hn₂ : 0 < n₂)
    (h₁ : ω₁ ^ n₁ = 1) (h₂ : ω₂ ^ n₂ = 1) (hz : ω₁ ^ k₁ = ω₂ ^ k₂) (x : List K)
    (hx₁ : x.length ≤ n₁) (hx₂ : x.length ≤ n₂) :
    dftBin (twiddles ω₁ n₁) n₁ x k₁ = dftBin (twiddles ω₂ n₂) n₂ x k₂ :=
  dftBin_same_freq hn₁ hn₂ h₁ h₂ hz x hx₁ hx₂

/-- **nested grids**: both bins are `Σ_{t<len x} x_t ω^{tj}`, since `Ω^{t·c·j} = ω^{tj}`. -/
theorem dft_grid {Ω ω : K} {c n : ℕ} (hn : 0 < n) (hc : 0 < c) (hΩ : Ω ^ (c * n) = 1)
    (hΩω : Ω ^ c = ω) (x : List K) (hx : x.length ≤ n) (j : ℕ) (_hj : j < n) :
    dftBin (twiddles Ω (c * n)) (c * n) x (c * j) = dftBin (twiddles ω n) n x j :=
  dftBin_same_freq (Nat.mul_pos hc hn) hn hΩ (coarse_pow_eq_one hΩ hΩω) (fine_pow_eq hΩω j) x
    (le_trans hx (Nat.le_mul_of_pos_left _ hc)) hx

/-- **any two admissible grids**: grids of `c₁·g` and `c₂·g` points whose roots generate the same `g`-point
sub-grid (`Ω₁^c₁ = Ω₂^c₂`) give the same DFT values at the `g` common frequencies (bins `c₁·j` and `c₂·j`),
provided neither truncates the data.  The common sub-grid itself need not be admissible. -/
theorem dft_two_grids {Ω₁ Ω₂ : K} {c₁ c₂ g : ℕ} (hg : 0 < g) (hc₁ : 0 < c₁) (hc₂ : 0 < c₂)
    (h₁ : Ω₁ ^ (c₁ * g) = 1) (h₂ : Ω₂ ^ (c₂ * g) = 1) (h : Ω₁ ^ c₁ = Ω₂ ^ c₂) (x : List K)
    (hx₁ : x.length ≤ c₁ * g) (hx₂ : x.length ≤ c₂ * g) (j : ℕ) :
    dftBin (twiddles Ω₁ (c₁ * g)) (c₁ * g) x (c₁ * j)
      = dftBin (twiddles Ω₂ (c₂ * g)) (c₂ * g) x (c₂ * j) :=
  dftBin_same_freq (Nat.mul_pos hc₁ hg) (Nat.mul_pos hc₂ hg) h₁ h₂
    (by rw [pow_mul, pow_mul, h]) x hx₁ hx₂

/-- non-vacuity of the nested-grid hypotheses with a genuine refinement: `K = ℂ`, `Ω = i` (4 points),
`ω = -1` (2 points), `c = 2`. -/
example (x : List ℂ) (hx : x.length ≤ 2) :
    dftBin (twiddles Complex.I (2 * 2)) (2 * 2) x (2 * 1) = dftBin (twiddles (-1 : ℂ) 2) 2 x 1 :=
  dft_grid (by norm_num) (by norm_num) Complex.I_pow_four Complex.I_sq x hx 1 (by norm_num)

/-- and computed over `ℚ` (`Ω = ω = -1`, `c = 3`, `n = 2`, `x = [3, 5]`): both sides are `3 - 5`. -/
example : dftBin (twiddles (-1 : ℚ) (3 * 2)) (3 * 2) [3, 5] (3 * 1) = -2
    ∧ dftBin (twiddles (-1 : ℚ) 2) 2 [3, 5] 1 = -2 := by
  decide +kernel

/-- **aliasing**: the admissibility condition `len x ≤ n` is the no-truncation condition and cannot be
dropped.  `ω = Ω = -1`, `n = 2`, `c = 3`, `x = [1, 1, 1]` (`N = 3 > n`): the 2-point DFT sees `[1, 1]`, bin `0`
is `2`, whereas bin `0` of the 6-point DFT is `3`. -/
example : dftBin (twiddles (-1 : ℚ) (3 * 2)) (3 * 2) [1, 1, 1] (3 * 0)
    ≠ dftBin (twiddles (-1 : ℚ) 2) 2 [1, 1, 1] 0 := by
  decide +kernel

variable [StarRing K]

/-! ### periodogram -/

theorem periodogram_index_grid {c n j : ℕ} (hc : 0 < c) (isReal : Bool)
    (hj : j < (if isReal then n / 2 + 1 else n)) :
    c * j < (if isReal then (c * n) / 2 + 1 else c * n) := by
  cases isReal
  · exact Nat.mul_lt_mul_of_pos_left hj hc
  · exact half_index_fine hj

theorem periodogram_same_frequency {ω₁ ω₂ : K} {n₁ n₂ k₁ k₂ : ℕ} (hn₁ : 0 < n₁) (hn₂ : 0 < n₂)
    (h₁ : ω₁ ^ n₁ = 1) (h₂ : ω₂ ^ n₂ = 1) (hz : ω₁ ^ k₁ = ω₂ ^ k₂) (x w : List K)
    (hx₁ : x.length ≤ n₁) (hx₂ : x.length ≤ n₂) (isReal : Bool)
    (hk₁ : k₁ < (if isReal then n₁ / 2 + 1 else n₁))
    (hk₂ : k₂ < (if isReal then n₂ / 2 + 1 else n₂)) :
    nth (speriodogram (twiddles ω₁ n₁) x w n₁ isReal) k₁
      = nth (speriodogram (twiddles ω₂ n₂) x w n₂ isReal) k₂ := by
  rw [nth_speriodogram _ x w n₁ isReal hk₁, nth_speriodogram _ x w n₂ isReal hk₂,
    dftBin_same_freq hn₁ hn₂ h₁ h₂ hz _ ((vec_length _ _).trans_le hx₁) ((vec_length _ _).trans_le hx₂)]

/-- **periodogram, nested grids**: every returned coarse bin (`j ≤ n/2` for real data, `j < n` otherwise). -/
theorem periodogram_grid {Ω ω : K} {c n : ℕ} (hn : 0 < n) (hc : 0 < c) (hΩ : Ω ^ (c * n) = 1)
    (hΩω : Ω ^ c = ω) (x w : List K) (hx : x.length ≤ n) (isReal : Bool) (j : ℕ)
    (hj : j < (if isReal then n / 2 + 1 else n)) :
    nth (speriodogram (twiddles Ω (c * n)) x w (c * n) isReal) (c * j)
      = nth (speriodogram (twiddles ω n) x w n isReal) j :=
  periodogram_same_frequency (Nat.mul_pos hc hn) hn hΩ (coarse_pow_eq_one hΩ hΩω) (fine_pow_eq hΩω j) x w
    (le_trans hx (Nat.le_mul_of_pos_left _ hc)) hx isReal (periodogram_index_grid hc isReal hj) hj

/-- non-vacuity (`ℚ`, `Ω = ω = -1`, `c = 3`, `n = 2`, real data `[3, 5]`, window `[1, 2]`, Nyquist bin):
`|3 - 10|²/2`. -/
example : nth (speriodogram (twiddles (-1 : ℚ) (3 * 2)) [3, 5] [1, 2] (3 * 2) true) (3 * 1) = 49 / 2
    ∧ nth (speriodogram (twiddles (-1 : ℚ) 2) [3, 5] [1, 2] 2 true) 1 = 49 / 2 := by
  decide +kernel

/-! ### AR / MA / ARMA spectra -/

omit [StarRing K] in
/-- the zero-padded coefficient sequences handed to the FFT differ between the grids (by the padding) but
their DFTs agree at the common frequencies when no coefficient is cut off -/
theorem polyseq_dft_grid {Ω ω : K} {c n : ℕ} (hc : 0 < c) (hΩ : Ω ^ (c * n) = 1)
    (hΩω : Ω ^ c = ω) (A : List K) (hA : A.length < n) (j : ℕ) :
    dftBin (twiddles Ω (c * n)) (c * n) (polySeq A (c * n)) (c * j)
      = dftBin (twiddles ω n) n (polySeq A n) j :=
  dftBin_polySeq_same_freq hΩ (coarse_pow_eq_one hΩ hΩω) (fine_pow_eq hΩω j) A
    (lt_of_lt_of_le hA (Nat.le_mul_of_pos_left _ hc)) hA

/-- **`arma2psd`, same frequency** (all variants: `A`, `B` = `some`/`none`) -/
theorem arma2psd_same_frequency {ω₁ ω₂ : K} {n₁ n₂ k₁ k₂ : ℕ} (h₁ : ω₁ ^ n₁ = 1)
    (h₂ : ω₂ ^ n₂ = 1) (hz : ω₁ ^ k₁ = ω₂ ^ k₂) (A B : Option (List K))
    (hA₁ : ∀ a, A = some a → a.length < n₁) (hA₂ : ∀ a, A = some a → a.length < n₂)
    (hB₁ : ∀ b, B = some b → b.length < n₁) (hB₂ : ∀ b, B = some b → b.length < n₂)
    (rho T : K) (hk₁ : k₁ < n₁) (hk₂ : k₂ < n₂) :
    nth (arma2psd (twiddles ω₁ n₁) A B rho T n₁) k₁
      = nth (arma2psd (twiddles ω₂ n₂) A B rho T n₂) k₂ := by
  rw [nth_arma2psd _ A B rho T n₁ hk₁, nth_arma2psd _ A B rho T n₂ hk₂,
    armaFactor_same_freq h₁ h₂ hz A hA₁ hA₂, armaFactor_same_freq h₁ h₂ hz B hB₁ hB₂]

/-- ARMA, pure AR (`B = none`), pure MA (`A = none`) -/
theorem arma2psd_grid {Ω ω : K} {c n : ℕ} (hc : 0 < c) (hΩ : Ω ^ (c * n) = 1) (hΩω : Ω ^ c = ω)
    (A B : Option (List K)) (hA : ∀ a, A = some a → a.length < n)
    (hB : ∀ b, B = some b → b.length < n) (rho T : K) (j : ℕ) (hj : j < n) :
    nth (arma2psd (twiddles Ω (c * n)) A B rho T (c * n)) (c * j)
      = nth (arma2psd (twiddles ω n) A B rho T n) j :=
  arma2psd_same_frequency hΩ (coarse_pow_eq_one hΩ hΩω) (fine_pow_eq hΩω j) A B
    (fun a h => lt_of_lt_of_le (hA a h) (Nat.le_mul_of_pos_left _ hc)) hA
    (fun b h => lt_of_lt_of_le (hB b h) (Nat.le_mul_of_pos_left _ hc)) hB rho T (Nat.mul_lt_mul_of_pos_left hj hc) hj

theorem arma2psd_grid_variants {Ω ω : K} {c n : ℕ} (hc : 0 < c) (hΩ : Ω ^ (c * n) = 1)
    (hΩω : Ω ^ c = ω) (A B : List K) (hA : A.length < n) (hB : B.length < n) (rho T : K) (j : ℕ)
    (hj : j < n) :
    nth (arma2psd (twiddles Ω (c * n)) (some A) (some B) rho T (c * n)) (c * j)
        = nth (arma2psd (twiddles ω n) (some A) (some B) rho T n) j ∧
    nth (arma2psd (twiddles Ω (c * n)) (some A) none rho T (c * n)) (c * j)
        = nth (arma2psd (twiddles ω n) (some A) none rho T n) j ∧
    nth (arma2psd (twiddles Ω (c * n)) none (some B) rho T (c * n)) (c * j)
        = nth (arma2psd (twiddles ω n) none (some B) rho T n) j := by
  have hA' : ∀ a, some A = some a → a.length < n := fun a h => Option.some.inj h ▸ hA
  have hB' : ∀ b, some B = some b → b.length < n := fun b h => Option.some.inj h ▸ hB
  have hnone : ∀ a, (none : Option (List K)) = some a → a.length < n := fun _ h => nomatch h
  exact ⟨arma2psd_grid hc hΩ hΩω _ _ hA' hB' rho T j hj, arma2psd_grid hc hΩ hΩω _ _ hA' hnone rho T j hj,
    arma2psd_grid hc hΩ hΩω _ _ hnone hB' rho T j hj⟩

/-- non-vacuity (`ℚ`, `Ω = ω = -1`, `c = 3`, `n = 2`, `A = [3]`, `B = [2]`, `rho = 5`, `T = 2`, bin `1`):
`(5/2)·|1-2|²/|1-3|²`. -/
example : nth (arma2psd (twiddles (-1 : ℚ) (3 * 2)) (some [3]) (some [2]) 5 2 (3 * 2)) (3 * 1) = 5 / 8
    ∧ nth (arma2psd (twiddles (-1 : ℚ) 2) (some [3]) (some [2]) 5 2 2) 1 = 5 / 8 := by
  decide +kernel

/-! ### correlogram -/

/-- the DFTs of the two lag sequences (which place the negative lags at different indices `NFFT-m`) agree
at the common frequencies when the two halves do not wrap around -/
theorem correlogram_seq_grid {Ω ω : K} {c n L : ℕ} (hc : 0 < c) (hΩ : Ω ^ (c * n) = 1)
    (hΩω : Ω ^ c = ω) (hL : 2 * L + 1 ≤ n) (rxy ryx w : List K) (j : ℕ) :
    dftBin (twiddles Ω (c * n)) (c * n) (correlogramSeq rxy ryx w L (c * n)) (c * j)
      = dftBin (twiddles ω n) n (correlogramSeq rxy ryx w L n) j :=
  dftBin_correlogramSeq_same_freq (le_trans hL (Nat.le_mul_of_pos_left _ hc)) hL hΩ (coarse_pow_eq_one hΩ hΩω)
    (fine_pow_eq hΩω j) rxy ryx w

theorem correlogram_same_frequency {ω₁ ω₂ : K} {n₁ n₂ k₁ k₂ L : ℕ} (hL₁ : 2 * L + 1 ≤ n₁)
    (hL₂ : 2 * L + 1 ≤ n₂) (h₁ : ω₁ ^ n₁ = 1) (h₂ : ω₂ ^ n₂ = 1) (hz : ω₁ ^ k₁ = ω₂ ^ k₂)
    (rxy ryx w : List K) (hk₁ : k₁ < n₁) (hk₂ : k₂ < n₂) :
    nth (correlogramPsd (twiddles ω₁ n₁) rxy ryx w L n₁) k₁
      = nth (correlogramPsd (twiddles ω₂ n₂) rxy ryx w L n₂) k₂ := by
  rw [nth_correlogramPsd _ rxy ryx w L n₁ hk₁, nth_correlogramPsd _ rxy ryx w L n₂ hk₂,
    dftBin_correlogramSeq_same_freq hL₁ hL₂ h₁ h₂ hz]

theorem correlogram_psd_grid {Ω ω : K} {c n L : ℕ} (hc : 0 < c) (hΩ : Ω ^ (c * n) = 1)
    (hΩω : Ω ^ c = ω) (hL : 2 * L + 1 ≤ n) (rxy ryx w : List K) (j : ℕ) (hj : j < n) :
    nth (correlogramPsd (twiddles Ω (c * n)) rxy ryx w L (c * n)) (c * j)
      = nth (correlogramPsd (twiddles ω n) rxy ryx w L n) j :=
  correlogram_same_frequency (le_trans hL (Nat.le_mul_of_pos_left _ hc)) hL hΩ (coarse_pow_eq_one hΩ hΩω)
    (fine_pow_eq hΩω j) rxy ryx w (Nat.mul_lt_mul_of_pos_left hj hc) hj

/-- **`CORRELOGRAMPSD(X, Y, lag, window, norm, NFFT)` from the data, nested grids**: the correlation lags do
not involve NFFT, the spectrum values agree at the common frequencies. -/
theorem correlogram_grid {Ω ω : K} {c n L : ℕ} (hc : 0 < c) (hΩ : Ω ^ (c * n) = 1)
    (hΩω : Ω ^ c = ω) (hL : 2 * L + 1 ≤ n) (x y w : List K) (norm : Norm) (rms2 : K) (j : ℕ)
    (hj : j < n) :
    nth (correlogram (twiddles Ω (c * n)) x y w L (c * n) norm rms2) (c * j)
      = nth (correlogram (twiddles ω n) x y w L n norm rms2) j := by
  rw [correlogram_eq, correlogram_eq]
  exact correlogram_psd_grid hc hΩ hΩω hL _ _ w j hj

/-- non-vacuity (`ℚ`, `Ω = ω = -1`, `c = 3`, `n = 4 ≥ 2·lag+1 = 3`, `lag = 1`, bin `1`): the same value on
both grids. -/
example : nth (correlogram (twiddles (-1 : ℚ) (3 * 4)) [1, 2] [1, 2] [1] 1 (3 * 4) .biased 0) (3 * 1)
    = nth (correlogram (twiddles (-1 : ℚ) 4) [1, 2] [1, 2] [1] 1 4 .biased 0) 1 := by
  decide +kernel

/-- the bound cannot be dropped: with `n = 2 < 2·lag+1` the negative lag overwrites the positive one on the
coarse grid and bin `0` differs from bin `0` of the 6-point grid. -/
example : nth (correlogram (twiddles (-1 : ℚ) (3 * 2)) [1, 2] [1, 2] [1] 1 (3 * 2) .biased 0) (3 * 0)
    ≠ nth (correlogram (twiddles (-1 : ℚ) 2) [1, 2] [1, 2] [1] 1 2 .biased 0) 0 := by
  decide +kernel

/-! ### minimum variance (`NFFT ≥ 2·order` reads `2m ≤ NFFT+1` with `m = len a`) -/

theorem minvar_same_frequency {ω₁ ω₂ : K} {n₁ n₂ k₁ k₂ : ℕ} (h₁ : ω₁ ^ n₁ = 1)
    (h₂ : ω₂ ^ n₂ = 1) (hz : ω₁ ^ k₁ = ω₂ ^ k₂) (a : List K) (P fs : K) (ha : 0 < a.length)
    (hno₁ : 2 * a.length ≤ n₁ + 1) (hno₂ : 2 * a.length ≤ n₂ + 1) (hk₁ : k₁ < n₁) (hk₂ : k₂ < n₂) :
    nth (minvarPsd (twiddles ω₁ n₁) a P fs n₁) k₁ = nth (minvarPsd (twiddles ω₂ n₂) a P fs n₂) k₂ := by
  rw [nth_minvarPsd _ a P fs n₁ hk₁, nth_minvarPsd _ a P fs n₂ hk₂,
    dftBin_minvarPsi_same_freq h₁ h₂ hz a P ha hno₁ hno₂]

/-- **`minvar` PSD, nested grids**: the ψ sequences differ (the conjugate lags sit at `NFFT-K`), their DFTs
agree at the common frequencies: both are `ψ_0 + Σ_{K=1}^{m-1} (ψ_K z^K + conj ψ_K z^{-K})` at `z = ω^j`. -/
theorem minvar_grid {Ω ω : K} {c n : ℕ} (hc : 0 < c) (hΩ : Ω ^ (c * n) = 1) (hΩω : Ω ^ c = ω)
    (a : List K) (P fs : K) (ha : 0 < a.length) (hno : 2 * a.length ≤ n + 1) (j : ℕ) (hj : j < n) :
    nth (minvarPsd (twiddles Ω (c * n)) a P fs (c * n)) (c * j)
      = nth (minvarPsd (twiddles ω n) a P fs n) j :=
  minvar_same_frequency hΩ (coarse_pow_eq_one hΩ hΩω) (fine_pow_eq hΩω j) a P fs ha
    (le_trans hno (Nat.add_le_add_right (Nat.le_mul_of_pos_left _ hc) 1)) hno (Nat.mul_lt_mul_of_pos_left hj hc) hj

/-- **`minvar(X, m, sampling, NFFT)` from the data, nested grids**, `m ≥ 1`, `2m ≤ n+1` -/
theorem minvar_data_grid {Ω ω : K} {c n : ℕ} (hc : 0 < c) (hΩ : Ω ^ (c * n) = 1) (hΩω : Ω ^ c = ω)
    (x : List K) (m : ℕ) (fs : K) (hm : 1 ≤ m) (hno : 2 * m ≤ n + 1) (j : ℕ) (hj : j < n) :
    nth (minvar (twiddles Ω (c * n)) x m fs (c * n)).psd (c * j)
      = nth (minvar (twiddles ω n) x m fs n).psd j := by
  have hl := BurgL.one_cons_length_burg x m hm
  exact minvar_grid hc hΩ hΩω _ _ fs (by rw [hl]; exact hm) (by rw [hl]; exact hno) j hj

/-- non-vacuity (`ℚ`, `Ω = ω = -1`, `c = 3`, `n = 4 ≥ 2m-1 = 3`, `a = [1, 3]`, `P = 1`, `fs = 1`, bin `1`):
`ψ = [2, 3, 0, 3]` resp. `[2, 3, 0, …, 0, 3]` (12 entries), `DFT = 2 - 3 - 3 = -4` at `z = -1` on both. -/
example : nth (minvarPsd (twiddles (-1 : ℚ) (3 * 4)) [1, 3] 1 1 (3 * 4)) (3 * 1) = -1 / 4
    ∧ nth (minvarPsd (twiddles (-1 : ℚ) 4) [1, 3] 1 1 4) 1 = -1 / 4 := by
  decide +kernel

/-! ### MUSIC / eigenvector (admissible: `NFFT ≥ P`, the length of the singular vectors) -/

/-- **noise-subspace denominator, same frequency** -/
theorem eigen_same_frequency {ω₁ ω₂ : K} {n₁ n₂ k₁ k₂ : ℕ} (hn₁ : 0 < n₁) (hn₂ : 0 < n₂)
    (h₁ : ω₁ ^ n₁ = 1) (h₂ : ω₂ ^ n₂ = 1) (hz : ω₁ ^ k₁ = ω₂ ^ k₂) (cols : List (List K))
    (S : List K) (nsig P : ℕ) (ev : Bool)
    (hc₁ : ∀ i, nsig ≤ i → i < P → (cols.getD i []).length ≤ n₁)
    (hc₂ : ∀ i, nsig ≤ i → i < P → (cols.getD i []).length ≤ n₂) :
    eigenDenom (twiddles ω₁ n₁) cols S nsig P n₁ ev k₁
      = eigenDenom (twiddles ω₂ n₂) cols S nsig P n₂ ev k₂ := by
  unfold eigenDenom
  rw [sumR_eq_sum, sumR_eq_sum]
  apply Finset.sum_congr rfl
  intro j hj
  have hj' := mem_range.mp hj
  simp only []
  rw [dftBin_same_freq hn₁ hn₂ h₁ h₂ hz _
    (hc₁ (j + nsig) (Nat.le_add_left nsig j) (Nat.add_lt_of_lt_sub hj'))
    (hc₂ (j + nsig) (Nat.le_add_left nsig j) (Nat.add_lt_of_lt_sub hj'))]

/-- **noise-subspace denominator, nested grids**: columns of length `P ≤ n` (singular vectors; the SVD and
hence `cols`, `S`, `nsig` do not involve NFFT) -/
theorem eigen_grid {Ω ω : K} {c n : ℕ} (hn : 0 < n) (hc : 0 < c) (hΩ : Ω ^ (c * n) = 1)
    (hΩω : Ω ^ c = ω) (cols : List (List K)) (S : List K) (nsig P : ℕ) (ev : Bool) (hP : P ≤ n)
    (hcols : ∀ i, nsig ≤ i → i < P → (cols.getD i []).length = P) (j : ℕ) :
    eigenDenom (twiddles Ω (c * n)) cols S nsig P (c * n) ev (c * j)
      = eigenDenom (twiddles ω n) cols S nsig P n ev j :=
  eigen_same_frequency (Nat.mul_pos hc hn) hn hΩ (coarse_pow_eq_one hΩ hΩω) (fine_pow_eq hΩω j) cols S
    nsig P ev (fun i h1 h2 => by rw [hcols i h1 h2]; exact le_trans hP (Nat.le_mul_of_pos_left _ hc))
    (fun i h1 h2 => by rw [hcols i h1 h2]; exact hP)

/-- non-vacuity (`ℚ`, `Ω = ω = -1`, `c = 3`, `n = 2 = P`, one noise column `[3, -1]`, `S = [2, 5]`, EV
weighting, bin `1`): `|3 + 1|²/5` on both grids. -/
example : eigenDenom (twiddles (-1 : ℚ) (3 * 2)) [[1, 2], [3, -1]] [2, 5] 1 2 (3 * 2) true (3 * 1) = 16 / 5
    ∧ eigenDenom (twiddles (-1 : ℚ) 2) [[1, 2], [3, -1]] [2, 5] 1 2 2 true 1 = 16 / 5 := by
  decide +kernel

/-- **`pmusic` / `pev` class output on real data, nested grids**: one-sided entry `j ≤ n/2` is twice
`1/denominator` at FFT bin `j`. -/
theorem eigen_class_real_grid {Ω ω : K} {c n : ℕ} (hn : 0 < n) (hc : 0 < c)
    (hΩ : Ω ^ (c * n) = 1) (hΩω : Ω ^ c = ω) (cols : List (List K)) (S : List K) (nsig P : ℕ)
    (ev : Bool) (hP : P ≤ n) (hcols : ∀ i, nsig ≤ i → i < P → (cols.getD i []).length = P) (j : ℕ)
    (hj : j ≤ n / 2) :
    c * j ≤ (c * n) / 2 ∧
    nth (eigenClassFold (eigenPsd (twiddles Ω (c * n)) cols S nsig P (c * n) ev) true (c * n)) (c * j)
      = nth (eigenClassFold (eigenPsd (twiddles ω n) cols S nsig P n ev) true n) j := by
  have hj' : c * j ≤ (c * n) / 2 := Nat.le_of_lt_succ (half_index_fine (Nat.lt_succ_of_le hj))
  refine ⟨hj', ?_⟩
  rw [EigenL.nth_classFold_eigenPsd_real _ cols S nsig P (Nat.mul_pos hc hn) ev hj',
    EigenL.nth_classFold_eigenPsd_real _ cols S nsig P hn ev hj,
    eigen_grid hn hc hΩ hΩω cols S nsig P ev hP hcols j]

/-- **`pmusic` / `pev` class output on complex data, nested grids**: two-sided entry `i` is `1/denominator`
at FFT bin `(NFFT - i) mod NFFT`. -/
theorem eigen_class_complex_grid {Ω ω : K} {c n : ℕ} (hn : 0 < n) (hc : 0 < c)
    (hΩ : Ω ^ (c * n) = 1) (hΩω : Ω ^ c = ω) (cols : List (List K)) (S : List K) (nsig P : ℕ)
    (ev : Bool) (hP : P ≤ n) (hcols : ∀ i, nsig ≤ i → i < P → (cols.getD i []).length = P) (j : ℕ)
    (hj : j < n) :
    nth (eigenClassFold (eigenPsd (twiddles Ω (c * n)) cols S nsig P (c * n) ev) false (c * n)) (c * j)
      = nth (eigenClassFold (eigenPsd (twiddles ω n) cols S nsig P n ev) false n) j := by
  have hcn : 0 < c * n := Nat.mul_pos hc hn
  have hω := coarse_pow_eq_one hΩ hΩω
  rw [EigenL.nth_classFold_eigenPsd_complex _ cols S nsig P ev (Nat.mul_lt_mul_of_pos_left hj hc),
    EigenL.nth_classFold_eigenPsd_complex _ cols S nsig P ev hj]
  congr 1
  refine eigen_same_frequency hcn hn hΩ hω ?_ cols S nsig P ev
    (fun i h1 h2 => by rw [hcols i h1 h2]; exact le_trans hP (Nat.le_mul_of_pos_left _ hc))
    (fun i h1 h2 => by rw [hcols i h1 h2]; exact hP)
  rw [← pow_eq_pow_mod _ hΩ, ← pow_eq_pow_mod _ hω, ← Nat.mul_sub, fine_pow_eq hΩω]

/-! ### multitaper -/

omit [StarRing K] in
theorem mt_grid {Ω ω : K} {c n : ℕ} (hn : 0 < n) (hc : 0 < c) (hΩ : Ω ^ (c * n) = 1)
    (hΩω : Ω ^ c = ω) (x taper : List K) (hx : x.length ≤ n) (j : ℕ) (hj : j < n) :
    nth (eigenspectrum (twiddles Ω (c * n)) x taper (c * n)) (c * j)
      = nth (eigenspectrum (twiddles ω n) x taper n) j :=
  eigenspectrum_same_freq (Nat.mul_pos hc hn) hn hΩ (coarse_pow_eq_one hΩ hΩω) (fine_pow_eq hΩω j) x
    taper (le_trans hx (Nat.le_mul_of_pos_left _ hc)) hx (Nat.mul_lt_mul_of_pos_left hj hc) hj

/-- the table `SkA[t][f] = |Sk_t[f]|²`, for every row index `t` (rows past the last taper are empty on both
grids) -/
theorem mt_table_grid {Ω ω : K} {c n : ℕ} (hn : 0 < n) (hc : 0 < c) (hΩ : Ω ^ (c * n) = 1)
    (hΩω : Ω ^ c = ω) (x : List K) (tapers : List (List K)) (hx : x.length ≤ n) (t j : ℕ)
    (hj : j < n) :
    nth ((mtSkA (twiddles Ω (c * n)) x tapers (c * n)).getD t []) (c * j)
      = nth ((mtSkA (twiddles ω n) x tapers n).getD t []) j :=
  mtSkA_same_freq (Nat.mul_pos hc hn) hn hΩ (coarse_pow_eq_one hΩ hΩω) (fine_pow_eq hΩω j) x tapers
    (le_trans hx (Nat.le_mul_of_pos_left _ hc)) hx (Nat.mul_lt_mul_of_pos_left hj hc) hj t

section MtWeights
variable [ReOrd K]

/-- the 'unity' and 'eigen' weights of `pmtm` do not depend on NFFT (nor on the eigenspectra) -/
theorem mt_weights_indep_nfft (m : MtMethod) (hm : m ≠ .adapt) (x lams : List K)
    (SkA₁ SkA₂ : List (List K)) (n₁ n₂ : ℕ) (tolc : K) :
    pmtmWeights m x lams SkA₁ n₁ tolc = pmtmWeights m x lams SkA₂ n₂ tolc := by
  cases m with
  | adapt => exact absurd rfl hm
  | unity => rfl
  | eigen => rfl

/-- **multitaper mean, unity / eigen weighting, nested grids**: with the weights `pmtm` computes on each
grid and the squared eigenspectra of the same data and tapers. -/
theorem mt_mean_grid {Ω ω : K} {c n : ℕ} (hn : 0 < n) (hc : 0 < c) (hΩ : Ω ^ (c * n) = 1)
    (hΩω : Ω ^ c = ω) (m : MtMethod) (hm : m ≠ .adapt) (x lams : List K) (tapers : List (List K))
    (tolc : K) (hx : x.length ≤ n) (j : ℕ) (hj : j < n) :
    nth (mtMean m (mtSkA (twiddles Ω (c * n)) x tapers (c * n))
          (pmtmWeights m x lams (mtSkA (twiddles Ω (c * n)) x tapers (c * n)) (c * n) tolc)
          (c * n) lams.length) (c * j)
      = nth (mtMean m (mtSkA (twiddles ω n) x tapers n)
          (pmtmWeights m x lams (mtSkA (twiddles ω n) x tapers n) n tolc) n lams.length) j := by
  rw [nth_mtMean_taper m hm _ _ lams.length (Nat.mul_lt_mul_of_pos_left hj hc),
    nth_mtMean_taper m hm _ _ lams.length hj,
    mt_weights_indep_nfft m hm x lams (mtSkA (twiddles Ω (c * n)) x tapers (c * n))
      (mtSkA (twiddles ω n) x tapers n) (c * n) n tolc]
  refine congrArg (· / (lams.length : K)) (Finset.sum_congr rfl ?_)
  intro t _
  rw [mt_table_grid hn hc hΩ hΩω x tapers hx t j hj]

end MtWeights

/-- non-vacuity (`ℚ`, `Ω = ω = -1`, `c = 3`, `n = 2`, data `[3, 5]`, tapers `[2, 7]`, `[1, 1]`, eigenvalues
`[1/2, 1/4]`, eigen weighting, bin `1`): `((1/2)·29² + (1/8)·2²)/2` on both grids. -/
example :
    letI : ReOrd ℚ := ⟨fun a => a ≤ 0, fun a b => a > b⟩
    nth (mtMean .eigen (mtSkA (twiddles (-1 : ℚ) (3 * 2)) [3, 5] [[2, 7], [1, 1]] (3 * 2))
        (pmtmWeights .eigen [3, 5] [1 / 2, 1 / 4]
          (mtSkA (twiddles (-1 : ℚ) (3 * 2)) [3, 5] [[2, 7], [1, 1]] (3 * 2)) (3 * 2) 0) (3 * 2) 2) (3 * 1)
      = 841 / 4 + 1 / 4
    ∧ nth (mtMean .eigen (mtSkA (twiddles (-1 : ℚ) 2) [3, 5] [[2, 7], [1, 1]] 2)
        (pmtmWeights .eigen [3, 5] [1 / 2, 1 / 4]
          (mtSkA (twiddles (-1 : ℚ) 2) [3, 5] [[2, 7], [1, 1]] 2) 2 0) 2 2) 1
      = 841 / 4 + 1 / 4 := by
  decide +kernel

omit [StarRing K] in
/-- **adaptive weighting is pointwise in frequency**: the weights one pass writes at frequency `f` depend
only on the current spectrum value at `f` (Thomson's formula), and the new estimate at `f` only on those
weights and the squared eigenspectra at `f`.  Hence one pass on the fine grid and one pass on the coarse
grid, started from estimates that agree at the common frequencies, end in estimates and weights that agree
at the common frequencies. -/
theorem adapt_weight_pointwise {c n nwin : ℕ} (hc : 0 < c) (SkF SkC : List (List K)) (lams : List K)
    (sig2 : K) (hSk : ∀ t j, j < n → nth (SkF.getD t []) (c * j) = nth (SkC.getD t []) j)
    (stF stC : AdaptState K) (h : ∀ j, j < n → nth stF.S (c * j) = nth stC.S j) (j : ℕ) (hj : j < n) :
    (∀ t, t < nwin →
      nth ((adaptStep SkF lams sig2 (c * n) nwin stF).wk.getD (c * j) []) t
          = adaptWeight (nth lams t) sig2 (nth stF.S (c * j)) ∧
      nth ((adaptStep SkF lams sig2 (c * n) nwin stF).wk.getD (c * j) []) t
          = nth ((adaptStep SkC lams sig2 n nwin stC).wk.getD j []) t) ∧
    nth (adaptStep SkF lams sig2 (c * n) nwin stF).S (c * j)
      = nth (adaptStep SkC lams sig2 n nwin stC).S j := by
  have hA := adaptStep_pointwise (nwin := nwin) one_ne_zero (Nat.mul_lt_mul_of_pos_left hj hc) hj SkF SkC lams sig2
    (fun t => (hSk t j hj).trans (one_mul _).symm) stF stC ((h j hj).trans (one_mul _).symm)
  rw [one_mul, one_mul] at hA
  exact ⟨fun t ht => ⟨adaptStep_wk_entry SkF lams sig2 (c * n) nwin stF (Nat.mul_lt_mul_of_pos_left hj hc) ht,
    congrArg (nth · t) hA.1⟩, hA.2⟩

/-
  Full informal claim for the adaptive weighting (NOT provable exactly, and not exactly true of the code):
  "the 'adapt' multitaper estimate at a common frequency does not depend on NFFT".
  The weights are the result of an iteration whose stopping rule is GLOBAL: after the first pass (always made) the
  loop runs while `Σ_f |S[f] - S1[f]| / NFFT > tol` with `tol = 0.0005·σ²/NFFT` (at most 100 passes); the mean runs
  over all NFFT frequencies and `tol` itself contains NFFT, so the number of passes may differ between the grids and
  the property then holds only to the iteration tolerance.
  Proved below: the loop on either grid is some number of passes (`1 ≤ kF, kC ≤ 100`) of the pointwise step
  from start states that agree at the common frequencies, and WHENEVER the two numbers of passes coincide
  the weights and the class mean agree exactly at the common frequencies.  Missing: a contraction bound on
  the pass map that would turn `kF ≠ kC` into "agreement within the tolerance" (needs `ℝ`, analysis).
-/
/-- adaptive weighting: equal numbers of passes give equal weights and class means at common frequencies -/
theorem mt_adapt_grid_partial [ReOrd K] {Ω ω : K} {c n : ℕ} (hn : 0 < n) (hc : 0 < c)
    (hΩ : Ω ^ (c * n) = 1) (hΩω : Ω ^ c = ω) (x lams : List K) (tapers : List (List K)) (tolc : K)
    (hx : x.length ≤ n) :
    ∃ kF kC : ℕ, 1 ≤ kF ∧ kF ≤ 100 ∧ 1 ≤ kC ∧ kC ≤ 100 ∧
      pmtmWeights .adapt x lams (mtSkA (twiddles Ω (c * n)) x tapers (c * n)) (c * n) tolc
        = ((adaptStep (mtSkA (twiddles Ω (c * n)) x tapers (c * n)) lams (adaptSig2 x) (c * n)
              lams.length)^[kF]
            (adaptInit lams (mtSkA (twiddles Ω (c * n)) x tapers (c * n)) (c * n))).wk ∧
      pmtmWeights .adapt x lams (mtSkA (twiddles ω n) x tapers n) n tolc
        = ((adaptStep (mtSkA (twiddles ω n) x tapers n) lams (adaptSig2 x) n lams.length)^[kC]
            (adaptInit lams (mtSkA (twiddles ω n) x tapers n) n)).wk ∧
      (kF = kC → ∀ j, j < n →
        (∀ t, t < lams.length →
          nth ((pmtmWeights .adapt x lams (mtSkA (twiddles Ω (c * n)) x tapers (c * n)) (c * n)
                tolc).getD (c * j) []) t
            = nth ((pmtmWeights .adapt x lams (mtSkA (twiddles ω n) x tapers n) n tolc).getD j []) t) ∧
        nth (mtMean .adapt (mtSkA (twiddles Ω (c * n)) x tapers (c * n))
              (pmtmWeights .adapt x lams (mtSkA (twiddles Ω (c * n)) x tapers (c * n)) (c * n) tolc)
              (c * n) lams.length) (c * j)
          = nth (mtMean .adapt (mtSkA (twiddles ω n) x tapers n)
              (pmtmWeights .adapt x lams (mtSkA (twiddles ω n) x tapers n) n tolc) n lams.length) j) := by
  have hSk : ∀ t j, j < n → nth ((mtSkA (twiddles Ω (c * n)) x tapers (c * n)).getD t []) (c * j)
      = nth ((mtSkA (twiddles ω n) x tapers n).getD t []) j :=
    fun t j hj => mt_table_grid hn hc hΩ hΩω x tapers hx t j hj
  -- from here on only the agreement `hSk` of the two tables is used
  generalize mtSkA (twiddles Ω (c * n)) x tapers (c * n) = SkF at hSk ⊢
  generalize mtSkA (twiddles ω n) x tapers n = SkC at hSk ⊢
  obtain ⟨kF, hF1, hF100, heF, -, -⟩ := adaptLoop_step_iterate SkF lams (adaptSig2 x)
    (tolc * adaptSig2 x / ((c * n : ℕ) : K)) (c * n) lams.length 99 (adaptInit lams SkF (c * n))
  obtain ⟨kC, hC1, hC100, heC, -, -⟩ := adaptLoop_step_iterate SkC lams (adaptSig2 x)
    (tolc * adaptSig2 x / (n : K)) n lams.length 99 (adaptInit lams SkC n)
  have hwF := (pmtmWeights_adapt x lams SkF (c * n) tolc).trans (congrArg AdaptState.wk heF)
  have hwC := (pmtmWeights_adapt x lams SkC n tolc).trans (congrArg AdaptState.wk heC)
  refine ⟨kF, kC, hF1, hF100, hC1, hC100, hwF, hwC, ?_⟩
  rintro rfl j hj
  -- bin `j` of the coarse loop state after `kF` passes is bin `c·j` of the fine one
  have hπ : ∀ j, j < n → c * j < c * n := fun j hj => Nat.mul_lt_mul_of_pos_left hj hc
  have hSk1 : ∀ t j, j < n → nth (SkC.getD t []) j = 1 * nth (SkF.getD t []) (c * j) :=
    fun t j hj => by rw [one_mul, hSk t j hj]
  have hA := binRel_iterate hπ hSk1 one_ne_zero lams (adaptSig2 x) lams.length _ _
    (binRel_init hπ hSk1 lams) kF
  rw [one_mul] at hA
  have hW : ∀ t, t < lams.length →
      nth ((pmtmWeights .adapt x lams SkF (c * n) tolc).getD (c * j) []) t
        = nth ((pmtmWeights .adapt x lams SkC n tolc).getD j []) t := by
    intro t _
    rw [hwF, hwC, hA.wk_eq hj]
  refine ⟨hW, ?_⟩
  rw [nth_mtMean_adapt SkF _ lams.length (hπ j hj), nth_mtMean_adapt SkC _ lams.length hj]
  refine congrArg (· / (lams.length : K)) (Finset.sum_congr rfl ?_)
  intro t ht
  rw [hW t (mem_range.mp ht), hSk t j hj]

/-! ### the class glue (`__call__`): one-sided fold for real data, `scale_by_freq = False` -/

/-- a kept coarse index of the one-sided fold maps to a kept fine index, whatever the parities of `n` and `c·n` -/
theorem class_index_grid {c n j : ℕ}
    (hj : j < (if n % 2 = 0 then n / 2 + 1 else (n + 1) / 2)) :
    c * j < (if (c * n) % 2 = 0 then (c * n) / 2 + 1 else (c * n + 1) / 2) := by
  rw [oneSided_len] at hj ⊢
  exact half_index_fine hj

omit [StarRing K] in
/-- **class output, real data**: raw two-sided estimates that agree at the common frequency give unscaled class
outputs that agree there: both are twice the raw value. -/
theorem class_grid {c n : ℕ} (rawF rawC : List K) (twoPi fsF fsC : K) (j : ℕ)
    (hj : j < (if n % 2 = 0 then n / 2 + 1 else (n + 1) / 2))
    (hraw : nth rawF (c * j) = nth rawC j) :
    nth (classPsd rawF true (c * n) false twoPi fsF) (c * j) = 2 * nth rawF (c * j) ∧
    nth (classPsd rawC true n false twoPi fsC) j = 2 * nth rawC j ∧
    nth (classPsd rawF true (c * n) false twoPi fsF) (c * j)
      = nth (classPsd rawC true n false twoPi fsC) j := by
  rw [oneSided_len] at hj
  have e1 : nth (classPsd rawF true (c * n) false twoPi fsF) (c * j) = 2 * nth rawF (c * j) :=
    nth_classCall_fold2 rawF true (c * n) twoPi fsF (half_index_fine hj)
  have e2 : nth (classPsd rawC true n false twoPi fsC) j = 2 * nth rawC j :=
    nth_classCall_fold2 rawC true n twoPi fsC hj
  exact ⟨e1, e2, by rw [e1, e2, hraw]⟩

omit [StarRing K] in
/-- **class output, complex data** (the two-sided estimate is stored as it is) -/
theorem class_grid_complex {c n : ℕ} (rawF rawC : List K) (twoPi fsF fsC : K) (j : ℕ)
    (hraw : nth rawF (c * j) = nth rawC j) :
    nth (classPsd rawF false (c * n) false twoPi fsF) (c * j)
      = nth (classPsd rawC false n false twoPi fsC) j := by
  rw [classPsd_false, classPsd_false, if_neg Bool.false_ne_true, if_neg Bool.false_ne_true]
  exact hraw

omit [StarRing K] in
/-- the three kinds of class glue (`fold2`: the nine classes of `Model/ClassGlue`; `take`: Periodogram, whose function
output is already one-sided; `eigen` is `eigen_class_real_grid` / `eigen_class_complex_grid`) with
`scale_by_freq = False`, real data -/
theorem class_call_grid {c n : ℕ} (rawF rawC : List K) (twoPi fsF fsC : K) (j : ℕ)
    (hraw : nth rawF (c * j) = nth rawC j) :
    (j < (if n % 2 = 0 then n / 2 + 1 else (n + 1) / 2) →
      nth (classCall .fold2 rawF true (c * n) false twoPi fsF) (c * j)
        = nth (classCall .fold2 rawC true n false twoPi fsC) j) ∧
    (j < n / 2 + 1 →
      nth (classCall .take rawF true (c * n) false twoPi fsF) (c * j)
        = nth (classCall .take rawC true n false twoPi fsC) j) := by
  constructor
  · intro hj
    exact (class_grid rawF rawC twoPi fsF fsC j hj hraw).2.2
  · intro hj
    exact classCall_congr .take (by decide) rawF rawC true (c * n) n twoPi fsF twoPi fsC
      (half_index_fine hj) hj hraw

/-- **AR / MA / ARMA classes** (`pburg`, `pyule`, `pcovar`, `pmodcovar`, `pma`, `parma`) on real data -/
theorem class_arma_grid {Ω ω : K} {c n : ℕ} (hn : 0 < n) (hc : 0 < c) (hΩ : Ω ^ (c * n) = 1)
    (hΩω : Ω ^ c = ω)
    (A B : Option (List K)) (hA : ∀ a, A = some a → a.length < n)
    (hB : ∀ b, B = some b → b.length < n) (rho fs twoPi : K) (j : ℕ)
    (hj : j < (if n % 2 = 0 then n / 2 + 1 else (n + 1) / 2)) :
    nth (classPsd (arma2psd (twiddles Ω (c * n)) A B rho fs (c * n)) true (c * n) false twoPi fs)
        (c * j)
      = nth (classPsd (arma2psd (twiddles ω n) A B rho fs n) true n false twoPi fs) j :=
  (class_grid _ _ twoPi fs fs j hj
    (arma2psd_grid hc hΩ hΩω A B hA hB rho fs j (oneSided_lt hn hj))).2.2

/-- **`pcorrelogram` class** on real data -/
theorem class_correlogram_grid {Ω ω : K} {c n L : ℕ} (hn : 0 < n) (hc : 0 < c) (hΩ : Ω ^ (c * n) = 1)
    (hΩω : Ω ^ c = ω) (hL : 2 * L + 1 ≤ n) (x y w : List K) (norm : Norm) (rms2 twoPi fs : K) (j : ℕ)
    (hj : j < (if n % 2 = 0 then n / 2 + 1 else (n + 1) / 2)) :
    nth (classPsd (correlogram (twiddles Ω (c * n)) x y w L (c * n) norm rms2) true (c * n) false
        twoPi fs) (c * j)
      = nth (classPsd (correlogram (twiddles ω n) x y w L n norm rms2) true n false twoPi fs) j :=
  (class_grid _ _ twoPi fs fs j hj
    (correlogram_grid hc hΩ hΩω hL x y w norm rms2 j (oneSided_lt hn hj))).2.2

/-- **`pminvar` class** on real data -/
theorem class_minvar_grid {Ω ω : K} {c n : ℕ} (hn : 0 < n) (hc : 0 < c) (hΩ : Ω ^ (c * n) = 1) (hΩω : Ω ^ c = ω)
    (x : List K) (m : ℕ) (fs twoPi : K) (hm : 1 ≤ m) (hno : 2 * m ≤ n + 1) (j : ℕ)
    (hj : j < (if n % 2 = 0 then n / 2 + 1 else (n + 1) / 2)) :
    nth (classPsd (minvar (twiddles Ω (c * n)) x m fs (c * n)).psd true (c * n) false twoPi fs) (c * j)
      = nth (classPsd (minvar (twiddles ω n) x m fs n).psd true n false twoPi fs) j :=
  (class_grid _ _ twoPi fs fs j hj
    (minvar_data_grid hc hΩ hΩω x m fs hm hno j (oneSided_lt hn hj))).2.2

/-- **`Periodogram` class** on real data (`take` glue on the one-sided function output) -/
theorem class_periodogram_grid {Ω ω : K} {c n : ℕ} (hn : 0 < n) (hc : 0 < c) (hΩ : Ω ^ (c * n) = 1)
    (hΩω : Ω ^ c = ω) (x w : List K) (hx : x.length ≤ n) (twoPi fs : K) (j : ℕ)
    (hj : j < n / 2 + 1) :
    nth (classCall .take (speriodogram (twiddles Ω (c * n)) x w (c * n) true) true (c * n) false
        twoPi fs) (c * j)
      = nth (classCall .take (speriodogram (twiddles ω n) x w n true) true n false twoPi fs) j :=
  (class_call_grid _ _ twoPi fs fs j
    (periodogram_grid hn hc hΩ hΩω x w hx true j (by simpa using hj))).2 hj

/-- **`MultiTapering` class**, unity / eigen weighting, real data -/
theorem class_mt_grid [ReOrd K] {Ω ω : K} {c n : ℕ} (hn : 0 < n) (hc : 0 < c)
    (hΩ : Ω ^ (c * n) = 1) (hΩω : Ω ^ c = ω) (m : MtMethod) (hm : m ≠ .adapt) (x lams : List K)
    (tapers : List (List K)) (tolc twoPi fs : K) (hx : x.length ≤ n) (j : ℕ)
    (hj : j < (if n % 2 = 0 then n / 2 + 1 else (n + 1) / 2)) :
    nth (classPsd (mtMean m (mtSkA (twiddles Ω (c * n)) x tapers (c * n))
          (pmtmWeights m x lams (mtSkA (twiddles Ω (c * n)) x tapers (c * n)) (c * n) tolc)
          (c * n) lams.length) true (c * n) false twoPi fs) (c * j)
      = nth (classPsd (mtMean m (mtSkA (twiddles ω n) x tapers n)
          (pmtmWeights m x lams (mtSkA (twiddles ω n) x tapers n) n tolc) n lams.length)
          true n false twoPi fs) j :=
  (class_grid _ _ twoPi fs fs j hj
    (mt_mean_grid hn hc hΩ hΩω m hm x lams tapers tolc hx j (oneSided_lt hn hj))).2.2

/-- non-vacuity of the fold indices with mixed parities (`n = 3` odd keeps `j < 2`; `c = 2`, `c·n = 6` even
keeps `k < 4`): `j = 1 ↦ 2`. -/
example : (1 : ℕ) < (if 3 % 2 = 0 then 3 / 2 + 1 else (3 + 1) / 2)
    ∧ 2 * 1 < (if (2 * 3) % 2 = 0 then (2 * 3) / 2 + 1 else (2 * 3 + 1) / 2) := by decide

/-! ### the model parameters -/

/-- **parameters**.  In the model the parameter estimators `burgRun`, `aryule`, `maEstimate`,
`armaEstimate`, `arcovar`, `modcovar`, `levRun`, `correlation`, `fbMatrix` (and the SVD inputs `S`, `cols`,
`nsig` of `eigen`, the Slepian tapers and eigenvalues of `pmtm`) do not take NFFT as an argument at all, so
their independence of NFFT holds by construction.  The functions that DO take NFFT and also return
parameters are `minvar` (AR vector, reflection coefficients) and `pmtmWeights` (unity / eigen weights):
for any two twiddle tables and NFFT values they return the same parameters. -/
theorem params_indep_nfft [ReOrd K] (tw₁ tw₂ : List K) (n₁ n₂ : ℕ) (x : List K) (m : ℕ) (fs : K)
    (lams : List K) (SkA₁ SkA₂ : List (List K)) (tolc : K) :
    (minvar tw₁ x m fs n₁).ar = (minvar tw₂ x m fs n₂).ar ∧
    (minvar tw₁ x m fs n₁).ref = (minvar tw₂ x m fs n₂).ref ∧
    (minvar tw₁ x m fs n₁).ar = (1 : K) :: (burgRun x (m - 1)).a ∧
    (minvar tw₁ x m fs n₁).ref = (burgRun x (m - 1)).ref ∧
    pmtmWeights .unity x lams SkA₁ n₁ tolc = pmtmWeights .unity x lams SkA₂ n₂ tolc ∧
    pmtmWeights .eigen x lams SkA₁ n₁ tolc = pmtmWeights .eigen x lams SkA₂ n₂ tolc :=
  ⟨rfl, rfl, rfl, rfl, rfl, rfl⟩

/-- the correlation lags used by the correlogram do not depend on NFFT: `correlogram` at any NFFT is
`correlogramPsd` of the same lag vectors -/
theorem correlogram_lags_indep_nfft (tw : List K) (x y w : List K) (L n : ℕ) (norm : Norm) (rms2 : K) :
    correlogram tw x y w L n norm rms2
      = correlogramPsd tw (correlation x y L norm rms2) (correlation y x L norm rms2) w L n := rfl

end SpecVerif.C05
