import SpecVerif.Proofs.Lemmas.Burg
import SpecVerif.Proofs.Lemmas.SchurCohn
import SpecVerif.Proofs.Lemmas.CRatField
import SpecVerif.Proofs.Lemmas.RealFn
import SpecVerif.Model.Criteria
import SpecVerif.Generated.CriteriaSrc
import Mathlib.Algebra.Star.Rat
/-
  C13 — `arburg`: reflection coefficients of modulus ≤ 1 whose step-up polynomial is the returned AR vector (roots
  in the closed disc), `rho = mean|x|²·∏(1 − |k_i|²)` non-increasing in the order, nested orders, each `k_i` the
  minimiser of the forward+backward energy of its stage; with a criterion the result is the Burg model of some
  `q ≤ p`; `critValue` = the translated source of `criteria.py`.

  Conventions of the model: `N = x.length`; `burgRun x k` is the state after `k` stages: `.a` the AR
  coefficients `a_1..a_k` (no leading 1), `.ref` the reflection coefficients, `.rho` the prediction
  error power, `.ef`/`.eb` the forward/backward error arrays (length `N`).  Stage `k` (0-based)
  computes `burgK (burgRun x k) N k = (k_k, den_k)`: the live forward errors are `ef[j]`,
  `j = k+1..N-1`, each paired with the delayed backward error `eb[j-1]`, and `den_k` is Marple's
  recursive update `temp·den − |ef[k]|² − |eb[N-1]|²` of the energy sum over the live range.
  "Non-degenerate prediction error" is the hypothesis `den_i ≠ 0` for the stages involved (`k_i` is a
  quotient by `den_i`).

  `bK x k`, `bD x k` of `Proofs/Lemmas/Burg.lean` (namespace `BurgL`) are the two components of
  `burgK (burgRun x k) N k`, by `rfl` (`burgK_fst`, `burgK_snd`).
-/
namespace SpecVerif.C13
open Finset SpecVerif SpecVerif.BurgL

variable {K : Type} [Field K] [StarRing K]

theorem burgRun_lengths (x : List K) (k : ℕ) :
    (burgRun x k).a.length = k ∧ (burgRun x k).ref.length = k ∧
    (burgRun x k).ef.length = x.length ∧ (burgRun x k).eb.length = x.length ∧
    (burgRun x 0).ef = x ∧ (burgRun x 0).eb = x :=
  ⟨burgRun_a_length x k, burgRun_ref_length x k, burgRun_ef_length x k, burgRun_eb_length x k,
    rfl, rfl⟩

/-- **AR vector = step-up of the reflection coefficients** (no hypothesis): the returned `a` is the
polynomial produced by `rc2poly` (repeated `levup`) from the returned reflection coefficients. -/
theorem burg_ar_eq_stepup (x : List K) (k : ℕ) (r0 : K) :
    (burgRun x k).a = (rc2poly (burgRun x k).ref r0).1 := by
  rw [rc2poly_fst_eq _ r0 (burgInit x).rho, rc2poly_burgRun_ref]

theorem burg_ref_eq_stage (x : List K) (p i : ℕ) (hi : i < p) :
    nth (burgRun x p).ref i = (burgK (burgRun x i) x.length i).1 :=
  nth_burgRun_ref x p i hi

/-- **variance product**: `rho_k = rho_0 · ∏ (1 - k_i conj k_i)` over the returned reflection
coefficients, with `rho_0 = (Σ_{j<N} x_j conj x_j) / N` the mean squared modulus of the data; this is
also the error output of `rc2poly` started from `rho_0`. -/
theorem burg_rho_product (x : List K) (k : ℕ) :
    (burgRun x k).rho
        = (burgInit x).rho * ((burgRun x k).ref.map (fun κ => 1 - κ * star κ)).prod ∧
    (burgRun x k).rho
        = (burgInit x).rho * ∏ i ∈ range k,
            (1 - nth (burgRun x k).ref i * star (nth (burgRun x k).ref i)) ∧
    (burgInit x).rho = (∑ j ∈ range x.length, nth x j * star (nth x j)) / (x.length : K) ∧
    (burgRun x k).rho = (rc2poly (burgRun x k).ref (burgInit x).rho).2 := by
  refine ⟨burgRun_rho_prod x k, ?_, burgInit_rho x, (congrArg Prod.snd (rc2poly_burgRun_ref x k)).symm⟩
  rw [burgRun_rho_prod_range]
  refine congrArg ((burgInit x).rho * ·) (Finset.prod_congr rfl ?_)
  intro i hi
  rw [nth_burgRun_ref x k i (mem_range.mp hi)]

/-- **nesting** -/
theorem burg_nested (x : List K) (q p : ℕ) (h : q ≤ p) :
    (burgRun x q).ref = (burgRun x p).ref.take q := by
  rw [burgRun_ref, burgRun_ref, vec_take _ h]

theorem arburg_order_zero [ReOrd K] (x : List K) (useCrit : Bool) (stop : ℕ → K → Bool) :
    arburg x 0 useCrit stop = .error "value" := by
  unfold arburg
  rw [if_pos rfl]

theorem arburg_order_gt [ReOrd K] (x : List K) (order : ℕ) (useCrit : Bool) (stop : ℕ → K → Bool)
    (h : order > x.length) : arburg x order useCrit stop = .error "value" := by
  unfold arburg
  by_cases h0 : order = 0
  · rw [if_pos h0]
  · rw [if_neg h0, if_pos h]

/-- the order kept by the selection loop is `≤ order`; it is the first `q` such that the criterion
at stage `q+1` exceeds the previous one (`stop (q+1) rho_{q+1}`), or `order` if there is none. -/
theorem burg_order_spec (stop : ℕ → K → Bool) (x : List K) (order : ℕ) :
    burgOrder stop x order ≤ order ∧
    (∀ j, j < burgOrder stop x order → stop (j + 1) (burgRun x (j + 1)).rho = false) ∧
    (burgOrder stop x order < order →
      stop (burgOrder stop x order + 1) (burgRun x (burgOrder stop x order + 1)).rho = true) := by
  unfold burgOrder
  cases h : (List.range order).find? (fun k => stop (k + 1) (burgRun x (k + 1)).rho) with
  | none =>
    rw [List.find?_range_eq_none] at h
    refine ⟨le_refl _, ?_, fun hlt => absurd hlt (lt_irrefl _)⟩
    intro j hj
    simpa using h j hj
  | some q =>
    rw [List.find?_range_eq_some] at h
    obtain ⟨h1, h2, h3⟩ := h
    refine ⟨le_of_lt (List.mem_range.mp h2), ?_, fun _ => h1⟩
    intro j hj
    simpa using h3 j hj

/-- **success, exactly**: `arburg` returns `s` iff the order is admissible, no stage `1..q` has error
power with real part `≤ 0`, and `s` is the plain Burg state of order `q`, where `q = order` without a
criterion and `q = burgOrder stop x order` with one. -/
theorem arburg_ok_iff [ReOrd K] (x : List K) (order : ℕ) (useCrit : Bool) (stop : ℕ → K → Bool)
    (s : BurgState K) :
    arburg x order useCrit stop = .ok s ↔
      order ≠ 0 ∧ order ≤ x.length ∧
      (∀ j, 1 ≤ j → j ≤ (if useCrit then burgOrder stop x order else order) →
        reLe0 (burgRun x j).rho = false) ∧
      s = burgRun x (if useCrit then burgOrder stop x order else order) := by
  unfold arburg
  rw [ite_error_eq_ok, ite_error_eq_ok]
  dsimp only
  rw [ite_error_eq_ok, Except.ok.injEq, ← any_range_succ_false_iff (fun j => reLe0 (burgRun x j).rho),
    Bool.not_eq_true, not_lt, eq_comm (b := s)]

/-- **with an order-selection criterion** (ANY `stop`), a successful result is exactly the Burg
model of some order `q ≤ order`, namely `q = burgOrder stop x order`. -/
theorem burg_criteria_is_burg [ReOrd K] (x : List K) (order : ℕ) (stop : ℕ → K → Bool)
    (s : BurgState K) (h : arburg x order true stop = .ok s) :
    ∃ q, q ≤ order ∧ q = burgOrder stop x order ∧ s = burgRun x q := by
  obtain ⟨_, _, _, hs⟩ := (arburg_ok_iff x order true stop s).mp h
  rw [if_pos rfl] at hs
  exact ⟨burgOrder stop x order, (burg_order_spec stop x order).1, rfl, hs⟩

/-- non-vacuity of the wrapper theorems: for any guard that tests `a ≤ 0` on `ℚ`, `arburg [1,2,1]`
with order 1 and a criterion that never stops succeeds with the order-1 Burg model (`rho_1 = 18/25`). -/
example [ReOrd ℚ] (hre : ∀ a : ℚ, reLe0 a = decide (a ≤ 0)) :
    arburg ([1, 2, 1] : List ℚ) 1 true (fun _ _ => false) = .ok (burgRun [1, 2, 1] 1) := by
  rw [arburg_ok_iff]
  have hq : burgOrder (fun _ _ => false) ([1, 2, 1] : List ℚ) 1 = 1 := by
    decide +kernel
  simp only [if_true, hq]
  refine ⟨by decide, by decide, ?_, trivial⟩
  intro j h1 h2
  have : j = 1 := by omega
  subst this
  rw [hre]
  decide +kernel

/-- **without a criterion** a successful result is the Burg model of the requested order. -/
theorem burg_nocriteria_is_burg [ReOrd K] (x : List K) (order : ℕ) (stop : ℕ → K → Bool)
    (s : BurgState K) (h : arburg x order false stop = .ok s) :
    s = burgRun x order ∧ 1 ≤ order ∧ order ≤ x.length := by
  obtain ⟨h0, hle, _, hs⟩ := (arburg_ok_iff x order false stop s).mp h
  rw [if_neg Bool.false_ne_true] at hs
  exact ⟨hs, Nat.one_le_iff_ne_zero.mpr h0, hle⟩

/-- **denominator invariant**: if the data is non-empty in `K` (`(N : K) ≠ 0`), stage `k` exists
(`k + 1 ≤ N`) and the denominators of the earlier stages do not vanish, the recursively updated
denominator of stage `k` is the forward+backward error energy over the live range:
`den_k = Σ_{j=k+1}^{N-1} (|ef_k[j]|² + |eb_k[j-1]|²)`. -/
theorem burg_den_invariant (x : List K) (k : ℕ) (hN : (x.length : K) ≠ 0) (hk : k + 1 ≤ x.length)
    (hprev : ∀ i, i < k → (burgK (burgRun x i) x.length i).2 ≠ 0) :
    (burgK (burgRun x k) x.length k).2
      = ∑ j ∈ Ico (k + 1) x.length,
          (nth (burgRun x k).ef j * star (nth (burgRun x k).ef j)
            + nth (burgRun x k).eb (j - 1) * star (nth (burgRun x k).eb (j - 1))) := by
  have h := bD_eq_liveDen x hN k hk hprev
  unfold liveDen stageDen at h
  rw [burgK_snd]
  exact h

/-- non-vacuity of `burg_den_invariant` (and of the theorems below): `x = [1, 2, 1]` over `ℚ`,
stage `k = 1`, with `den_0 = 10`. -/
example : (([1, 2, 1] : List ℚ).length : ℚ) ≠ 0 ∧ 1 + 1 ≤ ([1, 2, 1] : List ℚ).length ∧
    ∀ i, i < 1 → (burgK (burgRun ([1, 2, 1] : List ℚ) i) ([1, 2, 1] : List ℚ).length i).2 ≠ 0 := by
  decide +kernel

/-- **the reflection coefficient in closed form**: under the same hypotheses,
`k_k = -2 Σ_{j=k+1}^{N-1} ef_k[j] conj(eb_k[j-1]) / Σ_{j=k+1}^{N-1} (|ef_k[j]|² + |eb_k[j-1]|²)`
(Burg's formula — the harmonic-mean estimate of the partial correlation). -/
theorem burg_k_formula (x : List K) (k : ℕ) (hN : (x.length : K) ≠ 0) (hk : k + 1 ≤ x.length)
    (hprev : ∀ i, i < k → (burgK (burgRun x i) x.length i).2 ≠ 0) :
    (burgK (burgRun x k) x.length k).1
      = -2 * (∑ j ∈ Ico (k + 1) x.length,
            nth (burgRun x k).ef j * star (nth (burgRun x k).eb (j - 1)))
          / ∑ j ∈ Ico (k + 1) x.length,
              (nth (burgRun x k).ef j * star (nth (burgRun x k).ef j)
                + nth (burgRun x k).eb (j - 1) * star (nth (burgRun x k).eb (j - 1))) := by
  have h := bK_eq_stageK x hN k hk hprev
  unfold stageK stageNum stageDen at h
  rw [burgK_fst]
  exact h

/-- **error update**: for live indices `k < j < N` the arrays of the next state are the lattice
update `ef'[j] = ef[j] + k_k·eb[j-1]`, `eb'[j] = eb[j-1] + conj(k_k)·ef[j]` — i.e. the summand of the
stage energy in `burg_k_minimises` at `κ = k_k` is the energy of the stored errors. -/
theorem burg_error_update (x : List K) (k j : ℕ) (hkj : k < j) (hj : j < x.length) :
    nth (burgRun x (k + 1)).ef j
      = nth (burgRun x k).ef j + (burgK (burgRun x k) x.length k).1 * nth (burgRun x k).eb (j - 1) ∧
    nth (burgRun x (k + 1)).eb j
      = nth (burgRun x k).eb (j - 1)
          + star (burgK (burgRun x k) x.length k).1 * nth (burgRun x k).ef j :=
  ⟨nth_ef_succ x k j hkj hj, nth_eb_succ x k j hkj hj⟩

/-- **each `k_k` minimises the stage energy** (exact excess): for every `κ`, the summed forward and
backward prediction-error energy of stage `k` with coefficient `κ`, minus the same energy with the
returned `k_k`, equals `den_k · |κ - k_k|²`.  Hypotheses: those of the invariant for the stages
`0..k` (so `den_k` is the recursive denominator of the code, and it is non-zero). -/
theorem burg_k_minimises (x : List K) (k : ℕ) (κ : K) (hN : (x.length : K) ≠ 0)
    (hk : k + 1 ≤ x.length) (hD : ∀ i, i ≤ k → (burgK (burgRun x i) x.length i).2 ≠ 0) :
    (∑ j ∈ Ico (k + 1) x.length,
        ((nth (burgRun x k).ef j + κ * nth (burgRun x k).eb (j - 1))
            * star (nth (burgRun x k).ef j + κ * nth (burgRun x k).eb (j - 1))
          + (nth (burgRun x k).eb (j - 1) + star κ * nth (burgRun x k).ef j)
            * star (nth (burgRun x k).eb (j - 1) + star κ * nth (burgRun x k).ef j)))
      - (∑ j ∈ Ico (k + 1) x.length,
        ((nth (burgRun x k).ef j
              + (burgK (burgRun x k) x.length k).1 * nth (burgRun x k).eb (j - 1))
            * star (nth (burgRun x k).ef j
              + (burgK (burgRun x k) x.length k).1 * nth (burgRun x k).eb (j - 1))
          + (nth (burgRun x k).eb (j - 1)
              + star (burgK (burgRun x k) x.length k).1 * nth (burgRun x k).ef j)
            * star (nth (burgRun x k).eb (j - 1)
              + star (burgK (burgRun x k) x.length k).1 * nth (burgRun x k).ef j)))
      = (burgK (burgRun x k) x.length k).2
          * ((κ - (burgK (burgRun x k) x.length k).1)
              * star (κ - (burgK (burgRun x k) x.length k).1)) := by
  obtain ⟨hden, hK, hne⟩ := stage_live x hN k hk hD
  have := stageEnergy_sub_stageK (Ico (k + 1) x.length) (nth (burgRun x k).ef)
    (fun j => nth (burgRun x k).eb (j - 1)) κ hne
  rw [← hK] at this
  rw [burgK_snd, hden]
  exact this

/-- **residual energy / Marple's recursion**: the energy left after the optimal stage is
`(1 - |k_k|²)·den_k` (same hypotheses). -/
theorem burg_energy_after (x : List K) (k : ℕ) (hN : (x.length : K) ≠ 0)
    (hk : k + 1 ≤ x.length) (hD : ∀ i, i ≤ k → (burgK (burgRun x i) x.length i).2 ≠ 0) :
    ∑ j ∈ Ico (k + 1) x.length,
        (nth (burgRun x (k + 1)).ef j * star (nth (burgRun x (k + 1)).ef j)
          + nth (burgRun x (k + 1)).eb j * star (nth (burgRun x (k + 1)).eb j))
      = (1 - (burgK (burgRun x k) x.length k).1 * star (burgK (burgRun x k) x.length k).1)
          * (burgK (burgRun x k) x.length k).2 := by
  obtain ⟨hden, hK, hne⟩ := stage_live x hN k hk hD
  have := stageEnergy_stageK (Ico (k + 1) x.length) (nth (burgRun x k).ef)
    (fun j => nth (burgRun x k).eb (j - 1)) hne
  rw [← hK] at this
  rw [← liveEnergy_bK, burgK_snd, hden]
  exact this

section OverRCLike
variable {𝕜 : Type} [RCLike 𝕜]

/-- over `ℝ`/`ℂ`, non-degeneracy `den_i ≠ 0` (stages `0..k`) is the same as `den_k > 0`: the
denominators are real and positive. -/
theorem burg_den_pos (x : List 𝕜) (k : ℕ) (hk : k + 1 ≤ x.length)
    (hD : ∀ i, i ≤ k → (burgK (burgRun x i) x.length i).2 ≠ 0) :
    0 < RCLike.re (burgK (burgRun x k) x.length k).2 ∧
    RCLike.im (burgK (burgRun x k) x.length k).2 = 0 := by
  obtain ⟨hden, _, hne⟩ := stage_live x (natCast_length_ne_zero x (by omega)) k hk hD
  rw [burgK_snd, hden]
  refine ⟨stageDen_re_pos _ _ _ hne, ?_⟩
  unfold liveDen
  rw [stageDen_ofReal, RCLike.ofReal_im]

/-- **`|k_k| ≤ 1`** for non-degenerate stages `0..k` -/
theorem burg_k_le_one (x : List 𝕜) (k : ℕ) (hk : k + 1 ≤ x.length)
    (hD : ∀ i, i ≤ k → (burgK (burgRun x i) x.length i).2 ≠ 0) :
    ‖(burgK (burgRun x k) x.length k).1‖ ≤ 1 :=
  bK_norm_le_one x k hk hD

theorem burg_ref_le_one (x : List 𝕜) (p : ℕ) (hp : p ≤ x.length)
    (hD : ∀ i, i < p → (burgK (burgRun x i) x.length i).2 ≠ 0) :
    ∀ i, i < p → ‖nth (burgRun x p).ref i‖ ≤ 1 := by
  intro i hi
  rw [nth_burgRun_ref x p i hi]
  exact bK_norm_le_one x i (by omega) (fun j hj => hD j (by omega))

/-- non-vacuity of the `RCLike` theorems: `x = [1, 2, 1]` over `ℝ`, `den_0 = 10`, `den_1 = 18/25`. -/
example : 1 + 1 ≤ ([1, 2, 1] : List ℝ).length ∧
    ∀ i, i ≤ 1 → (burgK (burgRun ([1, 2, 1] : List ℝ) i) ([1, 2, 1] : List ℝ).length i).2 ≠ 0 :=
  ⟨by decide, fun i hi => burg_example_den i (by omega)⟩

/-- **real optimality**: the (real) stage energy with any `κ` is at least the energy with the
returned `k_k`. -/
theorem burg_k_minimises_real (x : List 𝕜) (k : ℕ) (κ : 𝕜) (hk : k + 1 ≤ x.length)
    (hD : ∀ i, i ≤ k → (burgK (burgRun x i) x.length i).2 ≠ 0) :
    ∑ j ∈ Ico (k + 1) x.length,
        (‖nth (burgRun x k).ef j
              + (burgK (burgRun x k) x.length k).1 * nth (burgRun x k).eb (j - 1)‖ ^ 2
          + ‖nth (burgRun x k).eb (j - 1)
              + star (burgK (burgRun x k) x.length k).1 * nth (burgRun x k).ef j‖ ^ 2)
      ≤ ∑ j ∈ Ico (k + 1) x.length,
        (‖nth (burgRun x k).ef j + κ * nth (burgRun x k).eb (j - 1)‖ ^ 2
          + ‖nth (burgRun x k).eb (j - 1) + star κ * nth (burgRun x k).ef j‖ ^ 2) := by
  obtain ⟨_, hK, hne⟩ := stage_live x (natCast_length_ne_zero x (by omega)) k hk hD
  have := stageEnergy_re_ge (Ico (k + 1) x.length) (nth (burgRun x k).ef)
    (fun j => nth (burgRun x k).eb (j - 1)) κ hne
  rw [← hK, stageEnergy_ofReal, stageEnergy_ofReal, RCLike.ofReal_re, RCLike.ofReal_re] at this
  exact this

/-- **the error power does not increase with the order** and stays non-negative:
`0 ≤ rho_{k+1} ≤ rho_k` (real parts; `rho` is self-adjoint, second part), with
`rho_{k+1} = (1 - |k_k|²) rho_k`. -/
theorem burg_rho_antitone (x : List 𝕜) (k : ℕ) (hk : k + 1 ≤ x.length)
    (hD : ∀ i, i ≤ k → (burgK (burgRun x i) x.length i).2 ≠ 0) :
    0 ≤ RCLike.re (burgRun x (k + 1)).rho ∧
    RCLike.re (burgRun x (k + 1)).rho ≤ RCLike.re (burgRun x k).rho ∧
    RCLike.re (burgRun x (k + 1)).rho
      = (1 - ‖(burgK (burgRun x k) x.length k).1‖ ^ 2) * RCLike.re (burgRun x k).rho := by
  exact ⟨re_rho_nonneg x (k + 1) hk (fun i hi => hD i (by omega)), re_rho_succ_le x k hk hD,
    re_rho_succ x k⟩

theorem burg_rho_real (x : List 𝕜) (k : ℕ) : RCLike.im (burgRun x k).rho = 0 := by
  have h := burgRun_rho_star x k
  rw [RCLike.star_def, RCLike.conj_eq_iff_im] at h
  exact h

/-- **C13, assembled**: if `arburg x p` succeeds (with or without an order-selection criterion) and
the stages `0..p-1` are non-degenerate, the result is the Burg model of some order `q ≤ p` (`q = p`
without criterion): it has `q` reflection coefficients of modulus `≤ 1`, its AR vector is their
step-up polynomial, its error power is `mean|x|² ∏ (1 - |k_i|²)`, real, non-negative and not larger
than the error power of any lower order `m ≤ q`, whose reflection coefficients are a prefix of the
returned ones. -/
theorem burg_main [ReOrd 𝕜] (x : List 𝕜) (p : ℕ) (useCrit : Bool) (stop : ℕ → 𝕜 → Bool)
    (s : BurgState 𝕜) (h : arburg x p useCrit stop = .ok s)
    (hD : ∀ i, i < p → (burgK (burgRun x i) x.length i).2 ≠ 0) :
    ∃ q, q ≤ p ∧ (useCrit = false → q = p) ∧ s = burgRun x q ∧
      s.ref.length = q ∧ (∀ i, i < q → ‖nth s.ref i‖ ≤ 1) ∧
      (∀ r0, s.a = (rc2poly s.ref r0).1) ∧
      s.rho = (∑ j ∈ range x.length, nth x j * star (nth x j)) / (x.length : 𝕜)
          * ∏ i ∈ range q, (1 - nth s.ref i * star (nth s.ref i)) ∧
      RCLike.im s.rho = 0 ∧ 0 ≤ RCLike.re s.rho ∧
      ∀ m, m ≤ q → RCLike.re s.rho ≤ RCLike.re (burgRun x m).rho ∧
        (burgRun x m).ref = s.ref.take m := by
  obtain ⟨_, hp, _, hs⟩ := (arburg_ok_iff x p useCrit stop s).mp h
  obtain ⟨q, hqdef⟩ : ∃ q, q = (if useCrit = true then burgOrder stop x p else p) := ⟨_, rfl⟩
  rw [← hqdef] at hs
  have hq : q ≤ p := by
    rw [hqdef]
    cases useCrit
    · simp
    · simpa using (burg_order_spec stop x p).1
  have hcrit : useCrit = false → q = p := by
    intro hc; rw [hqdef]; simp [hc]
  subst hs
  have hDq : ∀ i, i < q → bD x i ≠ 0 := by
    intro i hi
    rw [← burgK_snd]
    exact hD i (by omega)
  refine ⟨q, hq, hcrit, rfl, burgRun_ref_length x q, burg_ref_le_one x q (by omega) hDq,
    burg_ar_eq_stepup x q, ?_, burg_rho_real x q, re_rho_nonneg x q (by omega) hDq, ?_⟩
  · obtain ⟨_, hprod, _, _⟩ := burg_rho_product x q
    rw [hprod, burgInit_rho]
  · intro m hm
    exact ⟨re_rho_antitone x m q hm (by omega) hDq, burg_nested x m q hm⟩

end OverRCLike

section Stability
variable {𝕜 : Type} [RCLike 𝕜]

/-- **Burg is stable, every order**: under the hypotheses of `burg_ref_le_one` (order `p ≤ N`,
non-degenerate stages `den_i ≠ 0`, `i < p`) every root `z` of the Burg prediction polynomial
`A(z) = z^p + a_1 z^{p-1} + … + a_p` (`SchurL.polyA (burgRun x p).a z`) satisfies `|z| ≤ 1`; and if
in addition every returned reflection coefficient has modulus `< 1`, then `|z| < 1`. -/
theorem burg_stable (x : List 𝕜) (p : ℕ) (hp : p ≤ x.length)
    (hD : ∀ i, i < p → (burgK (burgRun x i) x.length i).2 ≠ 0) (z : 𝕜)
    (hz : z ^ p + ∑ j ∈ range p, nth (burgRun x p).a j * z ^ (p - 1 - j) = 0) :
    ‖z‖ ≤ 1 ∧ ((∀ i, i < p → ‖nth (burgRun x p).ref i‖ < 1) → ‖z‖ < 1) := by
  have hz' : z ^ p + ∑ j ∈ range p, nth (rc2poly (burgRun x p).ref 1).1 j * z ^ (p - 1 - j) = 0 := by
    rw [← burg_ar_eq_stepup x p 1]
    exact hz
  exact ⟨SchurL.rc2poly_root_le_one _ 1 p (burgRun_ref_length x p) (burg_ref_le_one x p hp hD) z hz',
    fun hk => SchurL.rc2poly_root_lt_one _ 1 p (burgRun_ref_length x p) hk z hz'⟩

/-- the strict statement needs no non-degeneracy hypothesis: whenever all returned reflection
coefficients have modulus `< 1`, the Burg polynomial (`SchurL.polyA`) has no zero on or outside the
unit circle -/
theorem burg_stable_polyA (x : List 𝕜) (p : ℕ) (hk : ∀ i, i < p → ‖nth (burgRun x p).ref i‖ < 1)
    (z : 𝕜) (hz : 1 ≤ ‖z‖) : SchurL.polyA (burgRun x p).a z ≠ 0 := by
  rw [burg_ar_eq_stepup x p 1]
  exact SchurL.stable_of_refl_lt_one _ 1
    (forall_mem_of_forall_nth _ p (burgRun_ref_length x p) hk) z hz

/-- the closed-disc statement with `SchurL.polyA` -/
theorem burg_closed_disc_polyA (x : List 𝕜) (p : ℕ) (hp : p ≤ x.length)
    (hD : ∀ i, i < p → (burgK (burgRun x i) x.length i).2 ≠ 0) (z : 𝕜) (hz : 1 < ‖z‖) :
    SchurL.polyA (burgRun x p).a z ≠ 0 := by
  rw [burg_ar_eq_stepup x p 1]
  exact SchurL.ne_zero_of_refl_le_one _ 1
    (forall_mem_of_forall_nth _ p (burgRun_ref_length x p) (burg_ref_le_one x p hp hD)) z hz

/-- **no pole on the frequency grid** when all `|k_i| < 1`: `1 + a_1 w + … + a_p w^p ≠ 0` for
`|w| ≤ 1` (the polynomial evaluated by the PSD code) -/
theorem burg_no_unit_zeros (x : List 𝕜) (p : ℕ) (hk : ∀ i, i < p → ‖nth (burgRun x p).ref i‖ < 1)
    (w : 𝕜) (hw : ‖w‖ ≤ 1) : 1 + ∑ j ∈ range p, nth (burgRun x p).a j * w ^ (j + 1) ≠ 0 := by
  rw [burg_ar_eq_stepup x p 1]
  exact SchurL.rc2poly_rev_ne_zero _ 1 p (burgRun_ref_length x p) hk w hw

/-- non-vacuity of `burg_stable`: `x = [1, 2, 1]` over `ℝ`, order 2; `den_0 = 10`, `den_1 = 18/25`
are non-zero (the reflection coefficients are `-4/5`, `-1`: the closed disc cannot be improved here) -/
example : 2 ≤ ([1, 2, 1] : List ℝ).length ∧
    ∀ i, i < 2 → (burgK (burgRun ([1, 2, 1] : List ℝ) i) ([1, 2, 1] : List ℝ).length i).2 ≠ 0 :=
  ⟨by decide, burg_example_den⟩

/-- non-vacuity of the strict clause: order 1 of the same data has `k_0 = -4/5` -/
example : ∀ i, i < 1 → ‖nth (burgRun ([1, 2, 1] : List ℝ) 1).ref i‖ < 1 := by
  intro i hi
  obtain rfl : i = 0 := by omega
  rw [burg_example_ref]
  norm_num [nth]

end Stability

/-! ### at the executed scalar type `CRat` (see `Lemmas/CRatField.lean`)

Plain application of the generic theorem; the `rfl` examples check that the `Field`-path elaboration is the
model function the driver runs. -/
section CRatInstantiation

theorem burg_rho_product_CRat (x : List CRat) (k : ℕ) :
    (burgRun x k).rho
        = (burgInit x).rho * ((burgRun x k).ref.map (fun κ => 1 - κ * conj κ)).prod ∧
    (burgRun x k).rho
        = (burgInit x).rho * ∏ i ∈ range k,
            (1 - nth (burgRun x k).ref i * conj (nth (burgRun x k).ref i)) ∧
    (burgInit x).rho = (∑ j ∈ range x.length, nth x j * conj (nth x j)) / (x.length : CRat) ∧
    (burgRun x k).rho = (rc2poly (burgRun x k).ref (burgInit x).rho).2 :=
  burg_rho_product x k

example : (fun (K : Type) [Field K] [StarRing K] => (burgRun : List K → _)) CRat
    = @burgRun CRat CRat.instAdd CRat.instSub CRat.instMul CRat.instDiv CRat.instNeg
        CRat.instOfNatOfNatNat CRat.instOfNatOfNatNat_1 CRat.instNatCast CRat.instConj := rfl
example : @burgRun CRat CRat.instAdd CRat.instSub CRat.instMul CRat.instDiv CRat.instNeg
    CRat.instOfNatOfNatNat CRat.instOfNatOfNatNat_1 CRat.instNatCast CRat.instConj = burgRun := rfl

end CRatInstantiation

/-! ## the order-selection criteria of the model ARE the library's source

`SpecVerif.Src.AIC … MDL` (`Generated/CriteriaSrc.lean`) are translated on every run from the abstract syntax tree of
`spectrum/criteria.py` (`harness/srcgen.py`).  The hand-written `critValue` — which the driver executes, which `arburg`'s stopping
rule uses (`critStops`) and which the scaling theorems of C03 are about — is equal to that translation for every sample size,
variance and order: for these six functions the tie between model and code is this theorem, re-checked by the kernel against
what the source says now. -/

section SourceTie
set_option linter.unusedSimpArgs false
set_option linter.unusedTactic false
set_option linter.unreachableTactic false
open SpecVerif.Src

theorem critValue_eq_source (N : ℕ) (ρ : ℝ) (k : ℕ) :
    critValue .AIC N ρ k = Src.AIC (N : ℝ) ρ (k : ℝ) ∧
    critValue .AICc N ρ k = Src.AICc (N : ℝ) ρ (k : ℝ) ∧
    critValue .KIC N ρ k = Src.KIC (N : ℝ) ρ (k : ℝ) ∧
    critValue .AKICc N ρ k = Src.AKICc (N : ℝ) ρ (k : ℝ) ∧
    critValue .FPE N ρ k = Src.FPE (N : ℝ) ρ (k : ℝ) ∧
    critValue .MDL N ρ k = Src.MDL (N : ℝ) ρ (k : ℝ) := by
  -- `rfl` up to unfolding when the source is written as the model is; `ring` absorbs harmless re-arrangements of a formula
  refine ⟨?_, ?_, ?_, ?_, ?_, ?_⟩ <;>
    first
      | (simp only [critValue, Src.AIC, Src.AICc, Src.KIC, Src.AKICc, Src.FPE, Src.MDL, Nat.cast_ofNat, Nat.cast_one]; done)
      | (simp only [critValue, Src.AIC, Src.AICc, Src.KIC, Src.AKICc, Src.FPE, Src.MDL, Nat.cast_ofNat, Nat.cast_one]; ring)

/-- hence the stopping test of `arburg` is the comparison of the library's own two criterion values (stated for
AIC, MDL, FPE; the other three unfold the same way) -/
theorem critStops_eq_source (N : ℕ) (ρ₀ ρ₁ : ℝ) (k : ℕ) :
    critStops .AIC N ρ₀ ρ₁ k = decide (Src.AIC (N : ℝ) ρ₀ ((k - 1 : ℕ) : ℝ) < Src.AIC (N : ℝ) ρ₁ (k : ℝ)) ∧
    critStops .MDL N ρ₀ ρ₁ k = decide (Src.MDL (N : ℝ) ρ₀ ((k - 1 : ℕ) : ℝ) < Src.MDL (N : ℝ) ρ₁ (k : ℝ)) ∧
    critStops .FPE N ρ₀ ρ₁ k = decide (Src.FPE (N : ℝ) ρ₀ ((k - 1 : ℕ) : ℝ) < Src.FPE (N : ℝ) ρ₁ (k : ℝ)) := by
  obtain ⟨hAIC, -, -, -, hFPE, hMDL⟩ := critValue_eq_source N ρ₀ (k - 1)
  obtain ⟨hAIC', -, -, -, hFPE', hMDL'⟩ := critValue_eq_source N ρ₁ k
  refine ⟨?_, ?_, ?_⟩
  · simp only [critStops, hAIC, hAIC']; rfl
  · simp only [critStops, hMDL, hMDL']; rfl
  · simp only [critStops, hFPE, hFPE']; rfl

/-- the translated source is not a degenerate term: AIC(N = 10, ρ = 1, k = 2) = 6 -/
example : Src.AIC (10 : ℝ) 1 2 = 6 := by
  simp only [Src.AIC, RealFn.log, Real.log_one]; norm_num

end SourceTie

end SpecVerif.C13
