import SpecVerif.Model.Minvar
import SpecVerif.Proofs.Lemmas.ShiftEst
import SpecVerif.Proofs.Lemmas.AdaptLoop
import SpecVerif.Proofs.Lemmas.ShiftLS
import SpecVerif.Proofs.Lemmas.Eval
import SpecVerif.Proofs.C08
import Mathlib.Analysis.Complex.Basic
/-
  C04 — frequency-shift covariance, conjugation mirror, time reversal and the real-data fold.

  `K` is any field with an involution (`ℂ` in particular), `ω` an `NFFT`-th root of unity with
  `star ω = ω⁻¹` (numpy's `e^{-2πi/NFFT}`).  Multiplying sample `n` by `e^{+2πi m n/NFFT}` is
  `modulate (ω⁻¹ ^ m) x` (`x_n ↦ μ^n x_n`, `μ = ω⁻¹^m`); on lists that store the entries `1, 2, …` of a
  sequence (lags `r[1:]`, AR / MA coefficients, reflection coefficients) the same operation is
  `twist μ A` (`A_j ↦ μ^{j+1} A_j`); `trconj x` is the conjugated time reversal `y_n = conj x_{N-1-n}`.
  "Rotated by `m` bins" is `numpy.roll(p, m)`: `roll(p, m)[k] = p[(k - m) mod NFFT]`, the model's
  `cshift p m`.

  Multitaper: `multitaper_shift` covers the data-independent weightings (`unity`, `eigen`); for the adaptive one
  the stopping test `Σ_f|S[f]-S1[f]|/NFFT > tol` is a sum over all bins and the data power is unchanged by a
  unimodular modulation, so the loops on the data and on the modulated data make the same number of passes
  (`multitaper_shift_adapt`, `Lemmas/AdaptLoop.lean`).

  `arcovar` / `modcovar`: first for any solution of the normal equations, then `*_unique` under the solver contract,
  then `*_solver` for the verified solver (both calls return).
-/
namespace SpecVerif.C04
open Finset SpecVerif SpecVerif.ArmaL SpecVerif.ShiftL SpecVerif.MtmL SpecVerif.AdaptL
open SpecVerif.LSL SpecVerif.ShiftLSL

variable {K : Type} [Field K] [StarRing K]

omit [StarRing K] in
/-- **shift**: bin `k` of the DFT of `x_n·e^{2πi m n/NFFT}` is bin `k - m (mod NFFT)` of the DFT of `x`
(any data length: numpy truncates / zero-pads both inputs alike). -/
theorem dft_mod {ω : K} {nfft : ℕ} (hω : ω ^ nfft = 1) (x : List K) (k : ℕ) {m : ℕ}
    (hm : m < nfft) :
    dftBin (twiddles ω nfft) nfft (modulate (ω⁻¹ ^ m) x) k
      = dftBin (twiddles ω nfft) nfft x ((k + nfft - m) % nfft) :=
  dftBin_modulate (by omega) hω x (by omega)

/-- **mirror**: the DFT of the conjugated data is the conjugate of the mirrored bin `-k (mod NFFT)`. -/
theorem dft_conj {ω : K} {nfft : ℕ} (hω : ω ^ nfft = 1) (hstar : star ω = ω⁻¹) (x : List K) {k : ℕ}
    (hk : k < nfft) :
    dftBin (twiddles ω nfft) nfft (x.map star) k
      = star (dftBin (twiddles ω nfft) nfft x ((nfft - k) % nfft)) :=
  dftBin_map_star (by omega) hω hstar x (by omega)

/-- **time reversal**: for `y_n = conj x_{N-1-n}`, `N ≤ NFFT`, every bin is the conjugate of the same bin
of `x` times the unimodular phase `ω^{(N-1)k}`. -/
theorem dft_timerev_conj {ω : K} {nfft : ℕ} (hn : 0 < nfft) (hω : ω ^ nfft = 1)
    (hstar : star ω = ω⁻¹) (x : List K) (hN : x.length ≤ nfft) (k : ℕ) :
    dftBin (twiddles ω nfft) nfft (trconj x) k
      = ω ^ ((x.length - 1) * k) * star (dftBin (twiddles ω nfft) nfft x k) :=
  dftBin_trconj hn hω hstar x hN k

/-- … hence `|DFT|²` is the same in every bin. -/
theorem dft_timerev_abs2 {ω : K} {nfft : ℕ} (hn : 0 < nfft) (hω : ω ^ nfft = 1)
    (hstar : star ω = ω⁻¹) (x : List K) (hN : x.length ≤ nfft) (k : ℕ) :
    abs2 (dftBin (twiddles ω nfft) nfft (trconj x) k) = abs2 (dftBin (twiddles ω nfft) nfft x k) := by
  rw [dftBin_trconj hn hω hstar x hN k, abs2_phase_mul (ne_zero_of_pow_eq_one hn hω) hstar]

/-! ### the periodogram (complex data, all `NFFT` bins) -/

/-- **periodogram shift covariance** (any window): bin `k` of the periodogram of the modulated data is
bin `k - m (mod NFFT)` of the periodogram of the data. -/
theorem periodogram_shift {ω : K} {nfft : ℕ} (hω : ω ^ nfft = 1) (x w : List K) {k m : ℕ}
    (hk : k < nfft) (hm : m < nfft) :
    nth (speriodogram (twiddles ω nfft) (modulate (ω⁻¹ ^ m) x) w nfft false) k
      = nth (speriodogram (twiddles ω nfft) x w nfft false) ((k + nfft - m) % nfft) := by
  have hn : 0 < nfft := by omega
  rw [nth_speriodogram _ _ _ _ false hk,
    nth_speriodogram _ _ _ _ false (k := (k + nfft - m) % nfft) (Nat.mod_lt _ hn), windowed_modulate,
    dftBin_modulate hn hω _ (by omega), modulate_length]

/-- the same as a list: the two-sided periodogram is rotated by exactly `m` bins (`numpy.roll(·, m)`). -/
theorem periodogram_shift_roll {ω : K} {nfft : ℕ} (hω : ω ^ nfft = 1) (x w : List K) {m : ℕ}
    (hm : m < nfft) :
    speriodogram (twiddles ω nfft) (modulate (ω⁻¹ ^ m) x) w nfft false
      = cshift (speriodogram (twiddles ω nfft) x w nfft false) m :=
  eq_cshift_of_entries (speriodogram_length _ _ _ _ false) (speriodogram_length _ _ _ _ false) hm
    (fun _ hk => periodogram_shift hω x w hk hm)

/-- **periodogram mirror** (real window): conjugating the data swaps bins `k` and `-k (mod NFFT)`. -/
theorem periodogram_conj {ω : K} {nfft : ℕ} (hω : ω ^ nfft = 1) (hstar : star ω = ω⁻¹)
    (x w : List K) (hw : ∀ j, j < x.length → star (nth w j) = nth w j) {k : ℕ} (hk : k < nfft) :
    nth (speriodogram (twiddles ω nfft) (x.map star) w nfft false) k
      = nth (speriodogram (twiddles ω nfft) x w nfft false) ((nfft - k) % nfft) := by
  have hn : 0 < nfft := by omega
  rw [nth_speriodogram _ _ _ _ false hk,
    nth_speriodogram _ _ _ _ false (k := (nfft - k) % nfft) (Nat.mod_lt _ hn), windowed_map_star x w hw,
    dftBin_map_star hn hω hstar _ (by omega), abs2_star, List.length_map]

/-- **periodogram time-reversal invariance** (real symmetric window, `N ≤ NFFT`): the conjugated,
time-reversed data has the same periodogram. -/
theorem periodogram_timerev {ω : K} {nfft : ℕ} (hn : 0 < nfft) (hω : ω ^ nfft = 1)
    (hstar : star ω = ω⁻¹) (x w : List K) (hN : x.length ≤ nfft)
    (hw : ∀ j, j < x.length → star (nth w j) = nth w j)
    (hsym : ∀ j, j < x.length → nth w (x.length - 1 - j) = nth w j) :
    speriodogram (twiddles ω nfft) (trconj x) w nfft false
      = speriodogram (twiddles ω nfft) x w nfft false := by
  apply list_ext_nth
  · rw [speriodogram_length, speriodogram_length]
  · intro k hk
    have hk' : k < nfft := by
      simpa only [speriodogram_length, Bool.false_eq_true, if_false] using hk
    rw [nth_speriodogram _ _ _ _ false hk', nth_speriodogram _ _ _ _ false hk',
      windowed_trconj x w hw hsym, dftBin_trconj hn hω hstar _ (by rwa [vec_length]),
      abs2_phase_mul (ne_zero_of_pow_eq_one hn hω) hstar, trconj_length]

theorem corr_mod {μ : K} (hμ : μ * star μ = 1) (x y : List K) (n k : ℕ) :
    corrRaw (modulate μ x) (modulate μ y) n k = μ ^ k * corrRaw x y n k :=
  corrRaw_modulate hμ x y n k

/-- `CORRELATION` (every normalisation): lag `k` transforms as `r_k ↦ μ^k r_k` (beyond `maxlags` both sides
are `0`, so the bound on `k` is not used). -/
theorem correlation_mod {μ : K} (hμ : μ * star μ = 1) (x y : List K) (L : ℕ) (norm : Norm) (rms2 : K)
    {k : ℕ} (hk : k ≤ L) :
    nth (correlation (modulate μ x) (modulate μ y) L norm rms2) k
      = μ ^ k * nth (correlation x y L norm rms2) k :=
  correlation_modulate hμ x y L norm rms2 k

/-- **Levinson on modulated lags** (`r_0` kept, `r_j ↦ μ^j r_j`, `|μ| = 1`): after any number of stages
the prediction coefficients and the reflection coefficients are twisted (`a_j ↦ μ^j a_j`, `k_j ↦ μ^j k_j`)
and the prediction error is unchanged. -/
theorem levinson_mod {μ : K} (hμ : μ * star μ = 1) (r0 : K) (T : List K) (k : ℕ) :
    (levRun r0 (twist μ T) k).A = twist μ (levRun r0 T k).A
      ∧ (levRun r0 (twist μ T) k).P = (levRun r0 T k).P
      ∧ (levRun r0 (twist μ T) k).ref = twist μ (levRun r0 T k).ref := by
  have h := levRun_sim one_ne_zero hμ r0 (T' := twist μ T) (T := T)
    (fun j => by rw [nth_twist, one_mul]) k
  rw [one_mul] at h
  rw [h]
  exact ⟨rfl, one_mul _, rfl⟩

/-- `levinson_mod` with `twist` written out, entry by entry -/
theorem levinson_mod_vec {μ : K} (hμ : μ * star μ = 1) (r0 : K) (T : List K) (k j : ℕ) :
    nth (levRun r0 (vec T.length (fun j => μ ^ (j + 1) * nth T j)) k).A j
        = μ ^ (j + 1) * nth (levRun r0 T k).A j
      ∧ (levRun r0 (vec T.length (fun j => μ ^ (j + 1) * nth T j)) k).P = (levRun r0 T k).P
      ∧ nth (levRun r0 (vec T.length (fun j => μ ^ (j + 1) * nth T j)) k).ref j
        = μ ^ (j + 1) * nth (levRun r0 T k).ref j := by
  obtain ⟨h1, h2, h3⟩ := levinson_mod hμ r0 T k
  unfold twist at h1 h2 h3
  refine ⟨?_, h2, ?_⟩
  · rw [h1]; exact nth_twist μ _ j
  · rw [h3]; exact nth_twist μ _ j

/-- **Yule–Walker on modulated data**: `aryule` returns twisted AR and reflection coefficients and the
same noise variance (every normalisation of the lags). -/
theorem aryule_mod {μ : K} (hμ : μ * star μ = 1) (x : List K) (p : ℕ) (norm : Norm) :
    (aryule (modulate μ x) p norm).A = twist μ (aryule x p norm).A
      ∧ (aryule (modulate μ x) p norm).P = (aryule x p norm).P
      ∧ (aryule (modulate μ x) p norm).ref = twist μ (aryule x p norm).ref := by
  have hlag := correlation_modulate hμ x x p norm 1
  have hrun := levRun_sim one_ne_zero hμ (rePart (nth (correlation x x p norm 1) 0))
    (T' := (correlation (modulate μ x) (modulate μ x) p norm 1).tail)
    (T := (correlation x x p norm 1).tail)
    (fun j => by rw [nth_tail, nth_tail, hlag, one_mul]) p
  rw [one_mul] at hrun
  unfold aryule
  simp only
  rw [hlag 0, pow_zero, one_mul, hrun]
  exact ⟨rfl, one_mul _, rfl⟩

/-- **Burg on modulated data**: after `k` stages the AR and reflection coefficients are twisted, the
error power `rho` (and the internal `den`, `temp`) unchanged; the forward errors are modulated like the
data and backward error `j` picks up `μ^{j-k}` (`1` on the frozen entries `j < k`). -/
theorem burg_mod {μ : K} (hμ : μ * star μ = 1) (x : List K) (k : ℕ) :
    (burgRun (modulate μ x) k).a = twist μ (burgRun x k).a
      ∧ (burgRun (modulate μ x) k).rho = (burgRun x k).rho
      ∧ (burgRun (modulate μ x) k).ref = twist μ (burgRun x k).ref
      ∧ (burgRun (modulate μ x) k).ef = modulate μ (burgRun x k).ef
      ∧ (∀ j, nth (burgRun (modulate μ x) k).eb j = μ ^ (j - k) * nth (burgRun x k).eb j)
      ∧ (burgRun (modulate μ x) k).den = (burgRun x k).den
      ∧ (burgRun (modulate μ x) k).temp = (burgRun x k).temp := by
  have h := burgRun_sim one_ne_zero hμ (modulate_length μ x) (sim_modulate _ x) k
  have hrho := h.rho
  have hden := h.den
  rw [star_one, one_mul, one_mul] at hrho hden
  refine ⟨h.a, hrho, h.ref, ?_, fun j => by rw [(h.err j).2, one_mul], hden, h.temp⟩
  apply list_ext_nth (by rw [h.ef_length, modulate_length])
  intro j _
  rw [(h.err j).1, one_mul, nth_modulate]

/-! ### `arma2psd` of twisted coefficients: rotation by `m` bins -/

omit [StarRing K] in
/-- `A(ω^k)` of the twisted coefficients is `A(ω^{k-m})` -/
theorem polyAt_mod {ω : K} {nfft : ℕ} (hω : ω ^ nfft = 1) (A : List K) (k : ℕ) {m : ℕ}
    (hm : m < nfft) :
    polyAt ω (twist (ω⁻¹ ^ m) A) k = polyAt ω A ((k + nfft - m) % nfft) := by
  unfold polyAt
  have hn : 0 < nfft := by omega
  have hmk : m ≤ k + nfft := by omega
  rw [twist_length]
  refine congrArg (1 + ·) (Finset.sum_congr rfl (fun j _ => ?_))
  rw [nth_twist, pow_rot hn hω hmk]
  ring

/-- **model-spectrum shift covariance**: twisting the AR and MA coefficients (`A`, `B` each a list or
`None`) moves entry `k - m (mod NFFT)` of `arma2psd` to entry `k`. -/
theorem arma2psd_mod {ω : K} {nfft : ℕ} (hω : ω ^ nfft = 1) (A B : Option (List K)) (rho T : K)
    {k m : ℕ} (hk : k < nfft) (hm : m < nfft) :
    nth (arma2psd (twiddles ω nfft) (A.map (twist (ω⁻¹ ^ m))) (B.map (twist (ω⁻¹ ^ m))) rho T nfft) k
      = nth (arma2psd (twiddles ω nfft) A B rho T nfft) ((k + nfft - m) % nfft) := by
  have hn : 0 < nfft := by omega
  have hm' : m ≤ k + nfft := by omega
  unfold arma2psd
  rw [nth_vec, nth_vec, if_pos hk, if_pos (Nat.mod_lt _ hn)]
  cases A <;> cases B <;>
    simp only [Option.map_some, Option.map_none, polySeq_twist, dftBin_modulate hn hω _ hm']

/-- the same as a list: `arma2psd` of the twisted model is `numpy.roll(arma2psd(model), m)` -/
theorem arma2psd_mod_roll {ω : K} {nfft : ℕ} (hω : ω ^ nfft = 1) (A B : Option (List K)) (rho T : K)
    {m : ℕ} (hm : m < nfft) :
    arma2psd (twiddles ω nfft) (A.map (twist (ω⁻¹ ^ m))) (B.map (twist (ω⁻¹ ^ m))) rho T nfft
      = cshift (arma2psd (twiddles ω nfft) A B rho T nfft) m :=
  eq_cshift_of_entries (arma2psd_length _ _ _ _ _ _) (arma2psd_length _ _ _ _ _ _) hm
    (fun _ hk => arma2psd_mod hω A B rho T hk hm)

/-- **Yule–Walker spectrum shift covariance**: the `pyule` two-sided spectrum
`arma2psd(A=aryule(x).A, rho=aryule(x).P)` of the modulated data is the spectrum of the data rotated by
`m` bins. -/
theorem yule_psd_shift {ω : K} {nfft : ℕ} (hω : ω ^ nfft = 1) (hstar : star ω = ω⁻¹) (x : List K)
    (p : ℕ) (norm : Norm) (T : K) {m : ℕ} (hm : m < nfft) :
    arma2psd (twiddles ω nfft) (some (aryule (modulate (ω⁻¹ ^ m) x) p norm).A) none
        (aryule (modulate (ω⁻¹ ^ m) x) p norm).P T nfft
      = cshift (arma2psd (twiddles ω nfft) (some (aryule x p norm).A) none (aryule x p norm).P T nfft)
          m := by
  have hμ := unimod_inv_pow (show 0 < nfft by omega) hω hstar m
  obtain ⟨hA, hP, _⟩ := aryule_mod hμ x p norm
  rw [hA, hP]
  exact arma2psd_mod_roll hω (some _) none _ T hm

/-- **Burg spectrum shift covariance**: the `pburg` two-sided spectrum
`arma2psd(A=burg(x).a, rho=burg(x).rho)` of the modulated data is the spectrum of the data rotated by
`m` bins. -/
theorem burg_psd_shift {ω : K} {nfft : ℕ} (hω : ω ^ nfft = 1) (hstar : star ω = ω⁻¹) (x : List K)
    (p : ℕ) (T : K) {m : ℕ} (hm : m < nfft) :
    arma2psd (twiddles ω nfft) (some (burgRun (modulate (ω⁻¹ ^ m) x) p).a) none
        (burgRun (modulate (ω⁻¹ ^ m) x) p).rho T nfft
      = cshift (arma2psd (twiddles ω nfft) (some (burgRun x p).a) none (burgRun x p).rho T nfft) m := by
  have hμ := unimod_inv_pow (show 0 < nfft by omega) hω hstar m
  obtain ⟨hA, hP, _⟩ := burg_mod hμ x p
  rw [hA, hP]
  exact arma2psd_mod_roll hω (some _) none _ T hm

/-- **minimum-variance shift covariance**: `minvar` of the modulated data returns the PSD of the data
rotated by `m` bins, the AR vector `[1, a…]` modulated and the reflection coefficients twisted. -/
theorem minvar_shift {ω : K} {nfft : ℕ} (hω : ω ^ nfft = 1) (hstar : star ω = ω⁻¹) (x : List K)
    (q : ℕ) (fs : K) {m : ℕ} (hm : m < nfft) :
    (minvar (twiddles ω nfft) (modulate (ω⁻¹ ^ m) x) q fs nfft).psd
        = cshift (minvar (twiddles ω nfft) x q fs nfft).psd m
      ∧ (minvar (twiddles ω nfft) (modulate (ω⁻¹ ^ m) x) q fs nfft).ar
        = modulate (ω⁻¹ ^ m) (minvar (twiddles ω nfft) x q fs nfft).ar
      ∧ (minvar (twiddles ω nfft) (modulate (ω⁻¹ ^ m) x) q fs nfft).ref
        = twist (ω⁻¹ ^ m) (minvar (twiddles ω nfft) x q fs nfft).ref := by
  have hn : 0 < nfft := by omega
  have hμ := unimod_inv_pow hn hω hstar m
  obtain ⟨hA, hP, hR, _⟩ := burg_mod hμ x (q - 1)
  simp only [minvar, hA, hP, hR]
  refine ⟨?_, ?_, trivial⟩
  · exact eq_cshift_of_entries (minvarPsd_length _ _ _ _ _) (minvarPsd_length _ _ _ _ _) hm
      (fun _ hk => minvarPsd_twist hn hω hstar _ _ fs hk (by omega))
  · exact (modulate_cons_one _ _).symm

/-- **correlogram shift covariance** (any lag window, lag, normalisation): bin `k` of the correlogram of
the modulated data is bin `k - m (mod NFFT)` of the correlogram of the data. -/
theorem correlogram_shift {ω : K} {nfft : ℕ} (hω : ω ^ nfft = 1) (hstar : star ω = ω⁻¹)
    (x y w : List K) (lag : ℕ) (norm : Norm) (rms2 : K) {m : ℕ} (hm : m < nfft) :
    correlogram (twiddles ω nfft) (modulate (ω⁻¹ ^ m) x) (modulate (ω⁻¹ ^ m) y) w lag nfft norm rms2
      = cshift (correlogram (twiddles ω nfft) x y w lag nfft norm rms2) m :=
  eq_cshift_of_entries (correlogram_length _ _ _ _ _ _ _ _) (correlogram_length _ _ _ _ _ _ _ _) hm
    (fun _ hk => nth_correlogram_modulate (by omega) hω hstar x y w lag norm rms2 hk (by omega))

/-- **multitaper shift covariance** (`unity` / `eigen` weighting: one data-independent weight per taper):
with `SkAbs2` the table of `|eigenspectrum|²` of the tapers, the taper mean of the modulated data is the
mean of the data rotated by `m` bins. -/
theorem multitaper_shift {ω : K} {nfft : ℕ} (hω : ω ^ nfft = 1) (method : MtMethod)
    (hmeth : method ≠ .adapt) (x : List K) (tapers W : List (List K)) (nwin : ℕ) {m : ℕ}
    (hm : m < nfft) :
    mtMean method (mtSkAbs2 (twiddles ω nfft) (modulate (ω⁻¹ ^ m) x) tapers nfft) W nfft nwin
      = cshift (mtMean method (mtSkAbs2 (twiddles ω nfft) x tapers nfft) W nfft nwin) m := by
  have hn : 0 < nfft := by omega
  refine eq_cshift_of_entries (mtMean_length _ _ _ _ _) (mtMean_length _ _ _ _ _) hm (fun k hk => ?_)
  exact mtMean_rot method hmeth _ _ W nfft nwin hk (Nat.mod_lt _ hn)
    (fun t _ => mtSkAbs2_modulate hn hω x tapers t hk (by omega))

/-! ### the adaptive multitaper weighting: the whole iteration -/

/-- **adaptive multitaper shift covariance, the whole loop** (the `.adapt` case excluded from
`multitaper_shift`): if `x'` has the length and the energy `Σ_j|x'_j|²` of `x` (what a unimodular modulation
does) and every row of the table `SkA'` of squared eigenspectra is the row of `SkA` rotated by `m` bins, then
`pmtm(method='adapt')` — all (at least one, at most 100) passes of the `while` loop with its stopping test —
returns the weights table of `x` with its `NFFT` rows rotated (`numpy.roll(W, m, axis=0)`), and the adaptive
multitaper mean is rotated by `m` bins (`numpy.roll(·, m)`). -/
theorem multitaper_shift_adapt [ReOrd K] {nfft m : ℕ} (hm : m < nfft) (x' x lams : List K)
    (SkA' SkA : List (List K)) (tolc : K) (hlen : x'.length = x.length)
    (hpow : ∑ j ∈ range x'.length, nth x' j * star (nth x' j)
      = ∑ j ∈ range x.length, nth x j * star (nth x j))
    (hSk : ∀ t k, k < nfft → nth (SkA'.getD t []) k = nth (SkA.getD t []) ((k + nfft - m) % nfft)) :
    pmtmWeights .adapt x' lams SkA' nfft tolc
        = vec nfft (fun k =>
            (pmtmWeights .adapt x lams SkA nfft tolc).getD ((k + nfft - m) % nfft) []) ∧
    mtMean .adapt SkA' (pmtmWeights .adapt x' lams SkA' nfft tolc) nfft lams.length
      = cshift (mtMean .adapt SkA (pmtmWeights .adapt x lams SkA nfft tolc) nfft lams.length) m := by
  have hsig : adaptSig2 x' = adaptSig2 x := by
    unfold adaptSig2
    rw [hpow, hlen]
  refine ⟨pmtmWeights_adapt_rot hm.le x' x lams SkA' SkA tolc hsig hSk, ?_⟩
  exact mtMean_adapt_rot hm SkA' SkA _ _ lams.length hSk
    (fun k hk => pmtmWeights_adapt_rot_row hm.le x' x lams SkA' SkA tolc hsig hSk hk)

/-- **adaptive multitaper shift covariance, end to end**: the same for `modulate (ω⁻¹ ^ m) x`, with the squared
eigenspectra computed by the model from the data and the tapers (`mtSkAbs2`, as in `multitaper_shift`). -/
theorem multitaper_shift_adapt_mod [ReOrd K] {ω : K} {nfft : ℕ} (hω : ω ^ nfft = 1)
    (hstar : star ω = ω⁻¹) (x lams : List K) (tapers : List (List K)) (tolc : K) {m : ℕ}
    (hm : m < nfft) :
    pmtmWeights .adapt (modulate (ω⁻¹ ^ m) x) lams
        (mtSkAbs2 (twiddles ω nfft) (modulate (ω⁻¹ ^ m) x) tapers nfft) nfft tolc
      = vec nfft (fun k =>
          (pmtmWeights .adapt x lams (mtSkAbs2 (twiddles ω nfft) x tapers nfft) nfft tolc).getD
            ((k + nfft - m) % nfft) []) ∧
    mtMean .adapt (mtSkAbs2 (twiddles ω nfft) (modulate (ω⁻¹ ^ m) x) tapers nfft)
        (pmtmWeights .adapt (modulate (ω⁻¹ ^ m) x) lams
          (mtSkAbs2 (twiddles ω nfft) (modulate (ω⁻¹ ^ m) x) tapers nfft) nfft tolc) nfft lams.length
      = cshift (mtMean .adapt (mtSkAbs2 (twiddles ω nfft) x tapers nfft)
          (pmtmWeights .adapt x lams (mtSkAbs2 (twiddles ω nfft) x tapers nfft) nfft tolc)
          nfft lams.length) m := by
  have hn : 0 < nfft := by omega
  have hμ := unimod_inv_pow hn hω hstar m
  exact multitaper_shift_adapt hm _ x lams _ _ tolc (modulate_length _ x) (energy_modulate hμ x)
    (fun t k hk => mtSkAbs2_modulate hn hω x tapers t hk hm.le)

/-- non-vacuity (`K = ℚ`, trivial involution, tests `≤`, `>` on `ℚ`; `ω = -1`, `NFFT = 2`, `m = 1`): the
hypotheses of `multitaper_shift_adapt_mod` hold, and for the data `[3, 2]` (modulated: `[3, -2]`), tapers
`[1, 2]`, `[2, 1]`, eigenvalues `[1/2, 1/4]`, `tolc = 4` the loop makes exactly one pass and the two rows of
the (non-trivial, frequency-dependent) weights table are swapped. -/
example :
    letI : ReOrd ℚ := ⟨fun a => a ≤ 0, fun a b => a > b⟩
    ((-1 : ℚ) ^ 2 = 1 ∧ star (-1 : ℚ) = (-1 : ℚ)⁻¹ ∧ 1 < 2) ∧
    modulate ((-1 : ℚ)⁻¹ ^ 1) [3, 2] = [3, -2] ∧
    pmtmWeights .adapt ([3, 2] : List ℚ) [1 / 2, 1 / 4]
        (mtSkAbs2 (twiddles (-1 : ℚ) 2) [3, 2] [[1, 2], [2, 1]] 2) 2 4
      = [[12769 / 7938, 12769 / 5776], [289 / 450, 289 / 784]] ∧
    pmtmWeights .adapt ([3, -2] : List ℚ) [1 / 2, 1 / 4]
        (mtSkAbs2 (twiddles (-1 : ℚ) 2) [3, -2] [[1, 2], [2, 1]] 2) 2 4
      = [[289 / 450, 289 / 784], [12769 / 7938, 12769 / 5776]] := by
  refine ⟨⟨by norm_num, by norm_num, by norm_num⟩, by decide +kernel, by decide +kernel,
    by decide +kernel⟩

/-! ### conjugated coefficients mirror the model spectrum; real models are symmetric -/

/-- `A(ω^k)` of the conjugated coefficients is the conjugate of `A(ω^{-k})` -/
theorem polyAt_conj {ω : K} {nfft : ℕ} (hω : ω ^ nfft = 1) (hstar : star ω = ω⁻¹) (A : List K)
    {k : ℕ} (hk : k < nfft) :
    polyAt ω (A.map star) k = star (polyAt ω A ((nfft - k) % nfft)) := by
  unfold polyAt
  rw [List.length_map, star_add, star_one, star_sum]
  refine congrArg (1 + ·) (Finset.sum_congr rfl (fun j _ => ?_))
  rw [nth_map_star, star_mul', pow_mirror hω hk.le, star_pow, star_pow, star_inv₀, hstar, inv_inv,
    ← pow_mul, mul_comm k (j + 1)]

/-- **model-spectrum mirror**: conjugating the AR and MA coefficients swaps entries `k` and
`-k (mod NFFT)` of `arma2psd`. -/
theorem arma2psd_conj {ω : K} {nfft : ℕ} (hω : ω ^ nfft = 1) (hstar : star ω = ω⁻¹)
    (A B : Option (List K)) (rho T : K) {k : ℕ} (hk : k < nfft) :
    nth (arma2psd (twiddles ω nfft) (A.map (List.map star)) (B.map (List.map star)) rho T nfft) k
      = nth (arma2psd (twiddles ω nfft) A B rho T nfft) ((nfft - k) % nfft) := by
  have hn : 0 < nfft := by omega
  have hk' : k ≤ nfft := by omega
  unfold arma2psd
  rw [nth_vec, nth_vec, if_pos hk, if_pos (Nat.mod_lt _ hn)]
  cases A <;> cases B <;>
    simp only [Option.map_some, Option.map_none, polySeq_map_star,
      dftBin_map_star hn hω hstar _ hk', abs2_star]

/-- **the two-sided spectrum of a real model is symmetric**: self-adjoint ("real") coefficients give
`psd[-k mod NFFT] = psd[k]` (`rho`, `T` arbitrary: they are a common factor). -/
theorem arma2psd_real_symmetric {ω : K} {nfft : ℕ} (hω : ω ^ nfft = 1) (hstar : star ω = ω⁻¹)
    (A B : List K) (hA : ∀ j, j < A.length → star (nth A j) = nth A j)
    (hB : ∀ j, j < B.length → star (nth B j) = nth B j) (rho T : K) {k : ℕ} (hk : k < nfft) :
    nth (arma2psd (twiddles ω nfft) (some A) (some B) rho T nfft) ((nfft - k) % nfft)
      = nth (arma2psd (twiddles ω nfft) (some A) (some B) rho T nfft) k := by
  have h := arma2psd_conj hω hstar (some A) (some B) rho T hk
  rw [Option.map_some, Option.map_some, map_star_eq_self A hA, map_star_eq_self B hB] at h
  exact h.symm

/-- pure AR real model (`B = None`) -/
theorem arma2psd_real_symmetric_ar {ω : K} {nfft : ℕ} (hω : ω ^ nfft = 1) (hstar : star ω = ω⁻¹)
    (A : List K) (hA : ∀ j, j < A.length → star (nth A j) = nth A j) (rho T : K) {k : ℕ}
    (hk : k < nfft) :
    nth (arma2psd (twiddles ω nfft) (some A) none rho T nfft) ((nfft - k) % nfft)
      = nth (arma2psd (twiddles ω nfft) (some A) none rho T nfft) k := by
  have h := arma2psd_conj hω hstar (some A) none rho T hk
  rw [Option.map_some, Option.map_none, map_star_eq_self A hA] at h
  exact h.symm

/-! ### real data: the one-sided estimate is twice the first half of the two-sided one -/

omit [StarRing K] in
/-- **real fold**: the class glue of the AR/MA/ARMA, minimum-variance and multitaper classes applied to the same
raw two-sided estimate (the functional estimators have no dtype argument, so the raw estimate of the samples
declared complex is the same list): real data keeps `NFFT/2+1` (even) or `(NFFT+1)/2` (odd) values, complex
data all `NFFT`, and every kept value is twice the two-sided value of the same bin, with or without
`scale_by_freq`. -/
theorem real_onesided_eq_twice_half (raw : List K) {nfft : ℕ} (hn : 0 < nfft)
    (hraw : raw.length = nfft) (s : Bool) (twoPi fs : K) :
    (classPsd raw true nfft s twoPi fs).length = (if nfft % 2 = 0 then nfft / 2 + 1 else (nfft + 1) / 2)
      ∧ (classPsd raw false nfft s twoPi fs).length = nfft
      ∧ ∀ k, k < (if nfft % 2 = 0 then nfft / 2 + 1 else (nfft + 1) / 2) →
          k < nfft ∧ nth (classPsd raw true nfft s twoPi fs) k
            = 2 * nth (classPsd raw false nfft s twoPi fs) k := by
  refine ⟨by rw [C08.classPsd_length]; rfl, by rw [C08.classPsd_length]; exact hraw, ?_⟩
  intro k hk
  obtain ⟨h1, h2⟩ := C08.fold_real_entry raw hn hraw k hk
  refine ⟨by omega, ?_⟩
  cases s
  · rw [classPsd_false, classPsd_false]
    exact h2
  · rw [classPsd_true, classPsd_true, nth_map_mul_right, nth_map_mul_right]
    simp only [if_true, Bool.false_eq_true, if_false]
    rw [h2]; ring

/-- the AR/MA/ARMA classes: `raw = arma2psd(…)` -/
theorem arma_real_onesided_eq_twice_half (tw : List K) (A B : Option (List K)) (rho T : K) {nfft : ℕ}
    (hn : 0 < nfft) (s : Bool) (twoPi fs : K) {k : ℕ}
    (hk : k < (if nfft % 2 = 0 then nfft / 2 + 1 else (nfft + 1) / 2)) :
    nth (classPsd (arma2psd tw A B rho T nfft) true nfft s twoPi fs) k
      = 2 * nth (classPsd (arma2psd tw A B rho T nfft) false nfft s twoPi fs) k :=
  ((real_onesided_eq_twice_half _ hn (arma2psd_length tw A B rho T nfft) s twoPi fs).2.2 k hk).2

/-! ### conjugated time reversal: autocorrelation-based estimators are invariant -/

/-- the autocorrelation sums of `y_n = conj x_{N-1-n}` are those of `x` -/
theorem corr_timerev (x : List K) (k : ℕ) :
    corrRaw (trconj x) (trconj x) x.length k = corrRaw x x x.length k := by
  rw [corrRaw_eq, corrRaw_eq, ← Finset.sum_range_reflect]
  apply Finset.sum_congr rfl
  intro j hj
  -- `r` is the reflected summation index
  obtain ⟨r, hr, hN⟩ : ∃ r, x.length - k - 1 - j = r ∧ r + j + k + 1 = x.length :=
    ⟨_, rfl, by have := mem_range.mp hj; omega⟩
  rw [hr, nth_trconj_mirror x (show r + k + j + 1 = x.length by omega),
    nth_trconj_mirror x (show r + (j + k) + 1 = x.length by omega), star_star, mul_comm]

/-- `CORRELATION(y, y)` = `CORRELATION(x, x)` for every normalisation -/
theorem correlation_timerev (x : List K) (L : ℕ) (norm : Norm) (rms2 : K) :
    correlation (trconj x) (trconj x) L norm rms2 = correlation x x L norm rms2 := by
  unfold correlation
  simp only [trconj_length, Nat.max_self]
  apply vec_ext
  intro k _
  rw [corr_timerev]

/-- **Yule–Walker time-reversal invariance**: same coefficients, error and reflection coefficients
(hence the same `pyule` spectrum). -/
theorem aryule_timerev (x : List K) (p : ℕ) (norm : Norm) :
    aryule (trconj x) p norm = aryule x p norm := by
  unfold aryule
  rw [correlation_timerev]

/-- **correlogram time-reversal invariance** (any lag window, any `NFFT`) -/
theorem correlogram_timerev (tw : List K) (x w : List K) (lag nfft : ℕ) (norm : Norm) (rms2 : K) :
    correlogram tw (trconj x) (trconj x) w lag nfft norm rms2
      = correlogram tw x x w lag nfft norm rms2 := by
  unfold correlogram
  rw [correlation_timerev]

/-- **Burg time-reversal invariance**: for `y_n = conj x_{N-1-n}` and any order `k ≤ N` Burg's recursion
returns the same AR coefficients, error power and reflection coefficients (the forward errors of `y` are
the conjugated reversed backward errors of `x` and vice versa, so numerator and denominator of every
reflection coefficient are unchanged). -/
theorem burg_timerev (x : List K) (k : ℕ) (hk : k ≤ x.length) :
    (burgRun (trconj x) k).a = (burgRun x k).a
      ∧ (burgRun (trconj x) k).rho = (burgRun x k).rho
      ∧ (burgRun (trconj x) k).ref = (burgRun x k).ref := by
  have h := burgRun_rev x k hk
  exact ⟨h.a_eq, h.rho_eq, h.ref_eq⟩

/-- the error arrays behind `burg_timerev`: on the live range `k ≤ j < N` the forward (backward) errors
of the reversed data are the conjugated backward (forward) errors of the data at the mirrored index -/
theorem burg_timerev_errors (x : List K) (k : ℕ) (hk : k ≤ x.length) (j : ℕ) (hkj : k ≤ j)
    (hj : j < x.length) :
    nth (burgRun (trconj x) k).ef j = star (nth (burgRun x k).eb (x.length - 1 - j + k))
      ∧ nth (burgRun (trconj x) k).eb j = star (nth (burgRun x k).ef (x.length - 1 - j + k)) :=
  (burgRun_rev x k hk).err j (x.length - 1 - j + k) (by omega) hkj hj

/-- **minimum-variance time-reversal invariance**: `minvar` (Burg model of order `m-1 ≤ N`, then Musicus'
sequence) returns the same PSD, AR vector and reflection coefficients. -/
theorem minvar_timerev (tw x : List K) (m : ℕ) (fs : K) (nfft : ℕ) (hm : m - 1 ≤ x.length) :
    (minvar tw (trconj x) m fs nfft).psd = (minvar tw x m fs nfft).psd
      ∧ (minvar tw (trconj x) m fs nfft).ar = (minvar tw x m fs nfft).ar
      ∧ (minvar tw (trconj x) m fs nfft).ref = (minvar tw x m fs nfft).ref := by
  obtain ⟨h1, h2, h3⟩ := burg_timerev x (m - 1) hm
  simp only [minvar, h1, h2, h3, and_self]

/-- **modified-covariance time-reversal invariance**: the data matrix of `y_n = conj x_{N-1-n}` is the
data matrix of `x` with its rows in reverse order (forward and backward prediction rows swap), so the
normal equations handed to the solver, hence the coefficients, and the error `e` are the same
(`lstsq` instance of the model: the normal equations; `p ≤ N`). -/
theorem modcovar_timerev [IsZero K] (x : List K) (p : ℕ) (hp : p ≤ x.length) :
    modcovar (trconj x) p = modcovar x p ∧ modcovarMarple (trconj x) p = modcovarMarple x p := by
  have h : modcovar (trconj x) p = modcovar x p := by
    unfold modcovar
    rw [trconj_length]
    exact lsFit_rowflip _ _ _ _ (fun _ _ hi j => corrmtx_modified_trconj x p hp hi j)
  refine ⟨h, ?_⟩
  unfold modcovarMarple
  rw [h, trconj_length]

/-- **multitaper time-reversal invariance** (real symmetric tapers, `N ≤ NFFT`, all three weighting
schemes): the `|eigenspectrum|²` table, the weights computed from it and the taper mean are unchanged. -/
theorem multitaper_timerev [ReOrd K] {ω : K} {nfft : ℕ} (hn : 0 < nfft) (hω : ω ^ nfft = 1)
    (hstar : star ω = ω⁻¹) (method : MtMethod) (x lams : List K) (hN : x.length ≤ nfft)
    (tapers : List (List K)) (tolc : K)
    (hw : ∀ tp ∈ tapers, ∀ j, j < x.length → star (nth tp j) = nth tp j)
    (hsym : ∀ tp ∈ tapers, ∀ j, j < x.length → nth tp (x.length - 1 - j) = nth tp j) :
    mtMean method (mtSkAbs2 (twiddles ω nfft) (trconj x) tapers nfft)
        (pmtmWeights method (trconj x) lams (mtSkAbs2 (twiddles ω nfft) (trconj x) tapers nfft) nfft tolc)
        nfft lams.length
      = mtMean method (mtSkAbs2 (twiddles ω nfft) x tapers nfft)
        (pmtmWeights method x lams (mtSkAbs2 (twiddles ω nfft) x tapers nfft) nfft tolc)
        nfft lams.length := by
  rw [mtSkAbs2_trconj hn hω hstar x hN tapers hw hsym, pmtmWeights_trconj]

/-! ### covariance and modified covariance methods (least squares, relative to the solver contract)

`arcovar` / `modcovar` hand the 'covariance' / 'modified' data matrix to `lstsq`, a parameter of the model
with contract "returns a minimiser" (C14).  As in `C03.arcovar_scale` the statements are therefore about
ANY coefficient vector satisfying the normal equations (`NormalEq`), then — under the solver contract for
both calls and uniqueness of the solution for the data (`GramInj`: the Gram matrix `X_cᴴX_c` is nonsingular;
over `ℝ`/`ℂ` implied by full column rank `ColInj`) — about the returned values. -/

theorem ls_rank_defs (Xc : ℕ → ℕ → K) (r p : ℕ) :
    (GramInj Xc r p ↔ ∀ d : ℕ → K,
      (∀ b, b < p → ∑ i ∈ range r, star (Xc i b) * ∑ j ∈ range p, Xc i j * d j = 0) →
        ∀ j, j < p → d j = 0) ∧
    (ColInj Xc r p ↔ ∀ d : ℕ → K,
      (∀ i, i < r → ∑ j ∈ range p, Xc i j * d j = 0) → ∀ j, j < p → d j = 0) :=
  ⟨Iff.rfl, Iff.rfl⟩

/-- **uniqueness**: with a nonsingular Gram matrix the normal equations of `[X_1 | X_c]` have at most one
solution (on the `p` coefficients that enter them) -/
theorem ls_unique (X1 : ℕ → K) (Xc : ℕ → ℕ → K) (r p : ℕ) (a a' : ℕ → K) (hG : GramInj Xc r p)
    (h : NormalEq X1 Xc r p a) (h' : NormalEq X1 Xc r p a') : ∀ j, j < p → a' j = a j :=
  normalEq_unique hG h h'

/-- over `ℝ`/`ℂ` (any `RCLike`) full column rank of the regressor block makes the Gram matrix nonsingular -/
theorem ls_gramInj_of_fullColRank {𝕜 : Type} [RCLike 𝕜] (Xc : ℕ → ℕ → 𝕜) (r p : ℕ)
    (hC : ColInj Xc r p) : GramInj Xc r p :=
  gramInj_of_colInj hC

/-- **covariance method on modulated data** (`|μ| = 1`): the twisted vector `a_j ↦ μ^{j+1} a_j` (the
convention of `aryule_mod`, `burg_mod`: `twist`) satisfies the normal equations of the 'covariance' data
matrix of `x_n·μ^n` iff `a` satisfies those of `x`, and the forward prediction-error energy (the returned
`e`, see `C14.arcovar_error`) is the same. -/
theorem arcovar_mod {μ : K} (hμ : μ * star μ = 1) (x : List K) (p : ℕ) (a : ℕ → K) :
    (NormalEq (col0 (corrmtx (modulate μ x) p .covariance))
        (colR (corrmtx (modulate μ x) p .covariance)) ((modulate μ x).length - p) p
        (fun j => μ ^ (j + 1) * a j)
      ↔ NormalEq (col0 (corrmtx x p .covariance)) (colR (corrmtx x p .covariance))
          (x.length - p) p a) ∧
    fwdEnergy (modulate μ x) p (fun j => μ ^ (j + 1) * a j) = fwdEnergy x p a := by
  have h := predSim_modulate hμ x (p := p) (a := a) (fun _ _ => rfl)
  refine ⟨covariance_normalEq_sim h one_ne_zero, ?_⟩
  rw [fwdEnergy_sim h, star_one, one_mul, one_mul, RingHom.id_apply]

/-- the prediction errors behind `arcovar_mod` / `modcovar_mod`, at the twisted coefficients: forward error at
`t ≥ p` times `μ^t`, backward error of the window starting at `s` times `μ^s` -/
theorem prediction_errors_mod {μ : K} (hμ : μ * star μ = 1) (x : List K) (p : ℕ) (a : ℕ → K) :
    (∀ t, p ≤ t →
      fwdErr (modulate μ x) p (fun j => μ ^ (j + 1) * a j) t = μ ^ t * fwdErr x p a t) ∧
    (∀ s, bwdErr (modulate μ x) p (fun j => μ ^ (j + 1) * a j) s = μ ^ s * bwdErr x p a s) := by
  have h := predSim_modulate hμ x (p := p) (a := a) (fun _ _ => rfl)
  exact ⟨fun _ ht => by rw [fwdErr_sim h ht, one_mul, RingHom.id_apply],
    fun s => by rw [bwdErr_sim h, one_mul, RingHom.id_apply]⟩

/-- **modified covariance method on modulated data**: the same for the forward + backward problem
('modified' data matrix, `2(N-p)` rows); the sum of the forward and backward energies is the same. -/
theorem modcovar_mod {μ : K} (hμ : μ * star μ = 1) (x : List K) (p : ℕ) (a : ℕ → K) :
    (NormalEq (col0 (corrmtx (modulate μ x) p .modified))
        (colR (corrmtx (modulate μ x) p .modified)) (2 * ((modulate μ x).length - p)) p
        (fun j => μ ^ (j + 1) * a j)
      ↔ NormalEq (col0 (corrmtx x p .modified)) (colR (corrmtx x p .modified))
          (2 * (x.length - p)) p a) ∧
    fwdEnergy (modulate μ x) p (fun j => μ ^ (j + 1) * a j)
        + bwdEnergy (modulate μ x) p (fun j => μ ^ (j + 1) * a j)
      = fwdEnergy x p a + bwdEnergy x p a := by
  have h := predSim_modulate hμ x (p := p) (a := a) (fun _ _ => rfl)
  refine ⟨modified_normalEq_sim h one_ne_zero, ?_⟩
  rw [fwdEnergy_sim h, bwdEnergy_sim h, star_one, one_mul, one_mul, one_mul, RingHom.id_apply,
    RingHom.id_apply]

/-- **`arcovar` on modulated data**: if both calls return, both coefficient vectors satisfy the normal equations
of their data matrix (contract of the least-squares solver, as in `C14.arcovar_error`) and those of `x` have a
unique solution, then `a' = twist μ a` and `e' = e`. -/
theorem arcovar_mod_unique [IsZero K] {μ : K} (hμ : μ * star μ = 1) (x : List K) (p : ℕ)
    (a a' : List K) (e e' : K)
    (h : arcovar x p = some (a, e)) (h' : arcovar (modulate μ x) p = some (a', e'))
    (hne : NormalEq (col0 (corrmtx x p .covariance)) (colR (corrmtx x p .covariance))
      (x.length - p) p (nth a))
    (hne' : NormalEq (col0 (corrmtx (modulate μ x) p .covariance))
      (colR (corrmtx (modulate μ x) p .covariance)) ((modulate μ x).length - p) p (nth a'))
    (hG : GramInj (colR (corrmtx x p .covariance)) (x.length - p) p) :
    a' = twist μ a ∧ e' = e := by
  obtain ⟨hag, hE⟩ := arcovar_sim_unique (τ' := fun f j => star μ ^ (j + 1) * f j)
    (fun f => predSim_modulate hμ x (fun j _ => by rw [← mul_assoc, unimod_pow_cancel hμ, one_mul]))
    one_ne_zero h h' hne hne' (fun f hf => normalEq_unique hG hne hf)
  exact ⟨eq_twist_of_untwist hμ (GJL.lsFit_length h)
    (GJL.lsFit_length h') hag, by rw [hE, star_one, one_mul, one_mul]; rfl⟩

/-- **`modcovar` on modulated data**: the same for the modified covariance method. -/
theorem modcovar_mod_unique [IsZero K] {μ : K} (hμ : μ * star μ = 1) (x : List K) (p : ℕ)
    (a a' : List K) (e e' : K)
    (h : modcovar x p = some (a, e)) (h' : modcovar (modulate μ x) p = some (a', e'))
    (hne : NormalEq (col0 (corrmtx x p .modified)) (colR (corrmtx x p .modified))
      (2 * (x.length - p)) p (nth a))
    (hne' : NormalEq (col0 (corrmtx (modulate μ x) p .modified))
      (colR (corrmtx (modulate μ x) p .modified)) (2 * ((modulate μ x).length - p)) p (nth a'))
    (hG : GramInj (colR (corrmtx x p .modified)) (2 * (x.length - p)) p) :
    a' = twist μ a ∧ e' = e := by
  obtain ⟨hag, hE⟩ := modcovar_sim_unique (τ' := fun f j => star μ ^ (j + 1) * f j)
    (fun f => predSim_modulate hμ x (fun j _ => by rw [← mul_assoc, unimod_pow_cancel hμ, one_mul]))
    one_ne_zero h h' hne hne' (fun f hf => normalEq_unique hG hne hf)
  exact ⟨eq_twist_of_untwist hμ (GJL.lsFit_length h)
    (GJL.lsFit_length h') hag, by rw [hE, star_one, one_mul, one_mul]; rfl⟩

/-- Marple's normalisation (`arcovar_marple`, `modcovar_marple`: the error divided by the number `N-p`,
`2(N-p)` of prediction equations — the same number for the modulated data): same conclusions. -/
theorem covarMarple_mod_unique [IsZero K] {μ : K} (hμ : μ * star μ = 1) (x : List K) (p : ℕ)
    (a a' : List K) (e e' : K) :
    (arcovarMarple x p = some (a, e) → arcovarMarple (modulate μ x) p = some (a', e') →
      NormalEq (col0 (corrmtx x p .covariance)) (colR (corrmtx x p .covariance))
        (x.length - p) p (nth a) →
      NormalEq (col0 (corrmtx (modulate μ x) p .covariance))
        (colR (corrmtx (modulate μ x) p .covariance)) ((modulate μ x).length - p) p (nth a') →
      GramInj (colR (corrmtx x p .covariance)) (x.length - p) p → a' = twist μ a ∧ e' = e) ∧
    (modcovarMarple x p = some (a, e) → modcovarMarple (modulate μ x) p = some (a', e') →
      NormalEq (col0 (corrmtx x p .modified)) (colR (corrmtx x p .modified))
        (2 * (x.length - p)) p (nth a) →
      NormalEq (col0 (corrmtx (modulate μ x) p .modified))
        (colR (corrmtx (modulate μ x) p .modified)) (2 * ((modulate μ x).length - p)) p (nth a') →
      GramInj (colR (corrmtx x p .modified)) (2 * (x.length - p)) p → a' = twist μ a ∧ e' = e) := by
  constructor
  · intro h h' hne hne' hG
    obtain ⟨e0, h0, rfl⟩ := (CovarL.arcovarMarple_iff x p a e).mp h
    obtain ⟨e1, h1, rfl⟩ := (CovarL.arcovarMarple_iff _ p a' e').mp h'
    obtain ⟨hA, hE⟩ := arcovar_mod_unique hμ x p a a' e0 e1 h0 h1 hne hne' hG
    rw [hA, hE, modulate_length]
    exact ⟨rfl, rfl⟩
  · intro h h' hne hne' hG
    obtain ⟨e0, h0, rfl⟩ := (CovarL.modcovarMarple_iff x p a e).mp h
    obtain ⟨e1, h1, rfl⟩ := (CovarL.modcovarMarple_iff _ p a' e').mp h'
    obtain ⟨hA, hE⟩ := modcovar_mod_unique hμ x p a a' e0 e1 h0 h1 hne hne' hG
    rw [hA, hE, modulate_length]
    exact ⟨rfl, rfl⟩

/-- **covariance-method spectrum shift covariance** (`pcovar`): under the hypotheses of
`arcovar_mod_unique` with `μ = ω⁻¹^m`, the two-sided spectrum `arma2psd(A=a', rho=e')` of the modulated
data is the spectrum `arma2psd(A=a, rho=e)` of the data rotated by `m` bins. -/
theorem covar_psd_shift [IsZero K] {ω : K} {nfft : ℕ} (hω : ω ^ nfft = 1) (hstar : star ω = ω⁻¹)
    (x : List K) (p : ℕ) (T : K) {m : ℕ} (hm : m < nfft) (a a' : List K) (e e' : K)
    (h : arcovar x p = some (a, e)) (h' : arcovar (modulate (ω⁻¹ ^ m) x) p = some (a', e'))
    (hne : NormalEq (col0 (corrmtx x p .covariance)) (colR (corrmtx x p .covariance))
      (x.length - p) p (nth a))
    (hne' : NormalEq (col0 (corrmtx (modulate (ω⁻¹ ^ m) x) p .covariance))
      (colR (corrmtx (modulate (ω⁻¹ ^ m) x) p .covariance))
      ((modulate (ω⁻¹ ^ m) x).length - p) p (nth a'))
    (hG : GramInj (colR (corrmtx x p .covariance)) (x.length - p) p) :
    arma2psd (twiddles ω nfft) (some a') none e' T nfft
      = cshift (arma2psd (twiddles ω nfft) (some a) none e T nfft) m := by
  have hn : 0 < nfft := by omega
  have hμ := unimod_inv_pow hn hω hstar m
  obtain ⟨hA, hE⟩ := arcovar_mod_unique hμ x p a a' e e' h h' hne hne' hG
  rw [hA, hE]
  exact arma2psd_mod_roll hω (some _) none _ T hm

/-- **modified-covariance spectrum shift covariance** (`pmodcovar`) -/
theorem modcovar_psd_shift [IsZero K] {ω : K} {nfft : ℕ} (hω : ω ^ nfft = 1) (hstar : star ω = ω⁻¹)
    (x : List K) (p : ℕ) (T : K) {m : ℕ} (hm : m < nfft) (a a' : List K) (e e' : K)
    (h : modcovar x p = some (a, e)) (h' : modcovar (modulate (ω⁻¹ ^ m) x) p = some (a', e'))
    (hne : NormalEq (col0 (corrmtx x p .modified)) (colR (corrmtx x p .modified))
      (2 * (x.length - p)) p (nth a))
    (hne' : NormalEq (col0 (corrmtx (modulate (ω⁻¹ ^ m) x) p .modified))
      (colR (corrmtx (modulate (ω⁻¹ ^ m) x) p .modified))
      (2 * ((modulate (ω⁻¹ ^ m) x).length - p)) p (nth a'))
    (hG : GramInj (colR (corrmtx x p .modified)) (2 * (x.length - p)) p) :
    arma2psd (twiddles ω nfft) (some a') none e' T nfft
      = cshift (arma2psd (twiddles ω nfft) (some a) none e T nfft) m := by
  have hn : 0 < nfft := by omega
  have hμ := unimod_inv_pow hn hω hstar m
  obtain ⟨hA, hE⟩ := modcovar_mod_unique hμ x p a a' e e' h h' hne hne' hG
  rw [hA, hE]
  exact arma2psd_mod_roll hω (some _) none _ T hm

/-- **covariance method on conjugated data** (mirror clause): `conj ∘ a` satisfies the normal equations of
the 'covariance' data matrix of `conj x` iff `a` satisfies those of `x`; same forward energy. -/
theorem arcovar_conj (x : List K) (p : ℕ) (a : ℕ → K) :
    (NormalEq (col0 (corrmtx (x.map star) p .covariance))
        (colR (corrmtx (x.map star) p .covariance)) ((x.map star).length - p) p
        (fun j => star (a j))
      ↔ NormalEq (col0 (corrmtx x p .covariance)) (colR (corrmtx x p .covariance))
          (x.length - p) p a) ∧
    fwdEnergy (x.map star) p (fun j => star (a j)) = fwdEnergy x p a := by
  have h := predSim_map_star x (p := p) (a := a) (fun _ _ => rfl)
  refine ⟨covariance_normalEq_sim h one_ne_zero, ?_⟩
  rw [fwdEnergy_sim h, star_one, one_mul, one_mul, starRingEnd_apply, star_fwdEnergy]

/-- **modified covariance method on conjugated data** -/
theorem modcovar_conj (x : List K) (p : ℕ) (a : ℕ → K) :
    (NormalEq (col0 (corrmtx (x.map star) p .modified))
        (colR (corrmtx (x.map star) p .modified)) (2 * ((x.map star).length - p)) p
        (fun j => star (a j))
      ↔ NormalEq (col0 (corrmtx x p .modified)) (colR (corrmtx x p .modified))
          (2 * (x.length - p)) p a) ∧
    fwdEnergy (x.map star) p (fun j => star (a j)) + bwdEnergy (x.map star) p (fun j => star (a j))
      = fwdEnergy x p a + bwdEnergy x p a := by
  have h := predSim_map_star x (p := p) (a := a) (fun _ _ => rfl)
  refine ⟨modified_normalEq_sim h one_ne_zero, ?_⟩
  rw [fwdEnergy_sim h, bwdEnergy_sim h, star_one, one_mul, one_mul, one_mul, starRingEnd_apply,
    starRingEnd_apply, star_fwdEnergy, star_bwdEnergy]

/-- **`arcovar` on conjugated data**: under the solver contract for both calls and uniqueness for `x`,
the coefficients are conjugated and the error is the same. -/
theorem arcovar_conj_unique [IsZero K] (x : List K) (p : ℕ) (a a' : List K) (e e' : K)
    (h : arcovar x p = some (a, e)) (h' : arcovar (x.map star) p = some (a', e'))
    (hne : NormalEq (col0 (corrmtx x p .covariance)) (colR (corrmtx x p .covariance))
      (x.length - p) p (nth a))
    (hne' : NormalEq (col0 (corrmtx (x.map star) p .covariance))
      (colR (corrmtx (x.map star) p .covariance)) ((x.map star).length - p) p (nth a'))
    (hG : GramInj (colR (corrmtx x p .covariance)) (x.length - p) p) :
    a' = a.map star ∧ e' = e := by
  obtain ⟨hag, hE⟩ := arcovar_sim_unique (τ' := fun f j => star (f j))
    (fun f => predSim_map_star x (fun j _ => (star_star (f j)).symm)) one_ne_zero
    h h' hne hne' (fun f hf => normalEq_unique hG hne hf)
  refine ⟨eq_map_star_of_star (GJL.lsFit_length h)
    (GJL.lsFit_length h') hag, ?_⟩
  rw [hE, star_one, one_mul, one_mul, starRingEnd_apply, (lsFit_error h hne).1, CovarL.covariance_energy,
    star_fwdEnergy]

/-- **`modcovar` on conjugated data** -/
theorem modcovar_conj_unique [IsZero K] (x : List K) (p : ℕ) (a a' : List K) (e e' : K)
    (h : modcovar x p = some (a, e)) (h' : modcovar (x.map star) p = some (a', e'))
    (hne : NormalEq (col0 (corrmtx x p .modified)) (colR (corrmtx x p .modified))
      (2 * (x.length - p)) p (nth a))
    (hne' : NormalEq (col0 (corrmtx (x.map star) p .modified))
      (colR (corrmtx (x.map star) p .modified)) (2 * ((x.map star).length - p)) p (nth a'))
    (hG : GramInj (colR (corrmtx x p .modified)) (2 * (x.length - p)) p) :
    a' = a.map star ∧ e' = e := by
  obtain ⟨hag, hE⟩ := modcovar_sim_unique (τ' := fun f j => star (f j))
    (fun f => predSim_map_star x (fun j _ => (star_star (f j)).symm)) one_ne_zero
    h h' hne hne' (fun f hf => normalEq_unique hG hne hf)
  refine ⟨eq_map_star_of_star (GJL.lsFit_length h)
    (GJL.lsFit_length h') hag, ?_⟩
  rw [hE, star_one, one_mul, one_mul, starRingEnd_apply, (lsFit_error h hne).1, CovarL.modified_energy,
    star_add, star_fwdEnergy, star_bwdEnergy]

/-- **covariance-method spectrum mirror**: the spectrum of the conjugated data is the spectrum of the data
with bins `k` and `-k (mod NFFT)` swapped. -/
theorem covar_psd_mirror [IsZero K] {ω : K} {nfft : ℕ} (hω : ω ^ nfft = 1) (hstar : star ω = ω⁻¹)
    (x : List K) (p : ℕ) (T : K) (a a' : List K) (e e' : K)
    (h : arcovar x p = some (a, e)) (h' : arcovar (x.map star) p = some (a', e'))
    (hne : NormalEq (col0 (corrmtx x p .covariance)) (colR (corrmtx x p .covariance))
      (x.length - p) p (nth a))
    (hne' : NormalEq (col0 (corrmtx (x.map star) p .covariance))
      (colR (corrmtx (x.map star) p .covariance)) ((x.map star).length - p) p (nth a'))
    (hG : GramInj (colR (corrmtx x p .covariance)) (x.length - p) p) {k : ℕ} (hk : k < nfft) :
    nth (arma2psd (twiddles ω nfft) (some a') none e' T nfft) k
      = nth (arma2psd (twiddles ω nfft) (some a) none e T nfft) ((nfft - k) % nfft) := by
  obtain ⟨hA, hE⟩ := arcovar_conj_unique x p a a' e e' h h' hne hne' hG
  rw [hA, hE]
  exact arma2psd_conj hω hstar (some a) none e T hk

/-- **modified-covariance spectrum mirror** -/
theorem modcovar_psd_mirror [IsZero K] {ω : K} {nfft : ℕ} (hω : ω ^ nfft = 1)
    (hstar : star ω = ω⁻¹) (x : List K) (p : ℕ) (T : K) (a a' : List K) (e e' : K)
    (h : modcovar x p = some (a, e)) (h' : modcovar (x.map star) p = some (a', e'))
    (hne : NormalEq (col0 (corrmtx x p .modified)) (colR (corrmtx x p .modified))
      (2 * (x.length - p)) p (nth a))
    (hne' : NormalEq (col0 (corrmtx (x.map star) p .modified))
      (colR (corrmtx (x.map star) p .modified)) (2 * ((x.map star).length - p)) p (nth a'))
    (hG : GramInj (colR (corrmtx x p .modified)) (2 * (x.length - p)) p) {k : ℕ} (hk : k < nfft) :
    nth (arma2psd (twiddles ω nfft) (some a') none e' T nfft) k
      = nth (arma2psd (twiddles ω nfft) (some a) none e T nfft) ((nfft - k) % nfft) := by
  obtain ⟨hA, hE⟩ := modcovar_conj_unique x p a a' e e' h h' hne hne' hG
  rw [hA, hE]
  exact arma2psd_conj hω hstar (some a) none e T hk

/-! ### the same with the model's verified solver: no contract hypotheses

The Gauss–Jordan elimination behind `lstsq` is verified in `Proofs/Lemmas/GaussJordan.lean` (stated in C14,
`section Solver`): for a lawful pivot test whatever `arcovar` / `modcovar` return satisfies the normal equations
(`C14.lsFit_normalEq`), and they return only when the Gram matrix is nonsingular (`C14.covar_succeeds_iff`).  The
two `NormalEq` hypotheses and the `GramInj` hypothesis of the `*_unique` / `*_psd_shift` / `*_psd_mirror` theorems
above are therefore consequences of the two calls having returned. -/
section CovarSolver
open SpecVerif.GJL
variable [IsZero K] [LawfulIsZero K]

/-- the Gram matrix of the data behind a successful `arcovar` / `modcovar` call is nonsingular -/
theorem covar_gramInj_of_some (x : List K) (p : ℕ) (a : List K) (e : K) :
    (arcovar x p = some (a, e) → GramInj (colR (corrmtx x p .covariance)) (x.length - p) p) ∧
    (modcovar x p = some (a, e) → GramInj (colR (corrmtx x p .modified)) (2 * (x.length - p)) p) :=
  ⟨fun h => (GJL.lsFit_some_iff _ _ p).mp ⟨a, e, h⟩, fun h => (GJL.lsFit_some_iff _ _ p).mp ⟨a, e, h⟩⟩

/-- **`arcovar` on modulated data, unconditional**: if `arcovar` returns `(a, e)` on `x` and `(a', e')` on
`x_n·μ^n` (`|μ| = 1`) then `a' = twist μ a` and `e' = e`. -/
theorem arcovar_mod_unique_solver {μ : K} (hμ : μ * star μ = 1) (x : List K) (p : ℕ)
    (a a' : List K) (e e' : K)
    (h : arcovar x p = some (a, e)) (h' : arcovar (modulate μ x) p = some (a', e')) :
    a' = twist μ a ∧ e' = e :=
  arcovar_mod_unique hμ x p a a' e e' h h' (GJL.lsFit_sound h).1
    (GJL.lsFit_sound h').1 ((covar_gramInj_of_some x p a e).1 h)

/-- **`modcovar` on modulated data, unconditional** -/
theorem modcovar_mod_unique_solver {μ : K} (hμ : μ * star μ = 1) (x : List K) (p : ℕ)
    (a a' : List K) (e e' : K)
    (h : modcovar x p = some (a, e)) (h' : modcovar (modulate μ x) p = some (a', e')) :
    a' = twist μ a ∧ e' = e :=
  modcovar_mod_unique hμ x p a a' e e' h h' (GJL.lsFit_sound h).1
    (GJL.lsFit_sound h').1 ((covar_gramInj_of_some x p a e).2 h)

/-- **Marple's normalisation on modulated data, unconditional** -/
theorem covarMarple_mod_unique_solver {μ : K} (hμ : μ * star μ = 1) (x : List K) (p : ℕ)
    (a a' : List K) (e e' : K) :
    (arcovarMarple x p = some (a, e) → arcovarMarple (modulate μ x) p = some (a', e') →
      a' = twist μ a ∧ e' = e) ∧
    (modcovarMarple x p = some (a, e) → modcovarMarple (modulate μ x) p = some (a', e') →
      a' = twist μ a ∧ e' = e) := by
  constructor
  · intro h h'
    obtain ⟨e0, h0, _⟩ := (CovarL.arcovarMarple_iff x p a e).mp h
    obtain ⟨e1, h1, _⟩ := (CovarL.arcovarMarple_iff _ p a' e').mp h'
    exact (covarMarple_mod_unique hμ x p a a' e e').1 h h' (GJL.lsFit_sound h0).1
      (GJL.lsFit_sound h1).1 ((covar_gramInj_of_some x p a e0).1 h0)
  · intro h h'
    obtain ⟨e0, h0, _⟩ := (CovarL.modcovarMarple_iff x p a e).mp h
    obtain ⟨e1, h1, _⟩ := (CovarL.modcovarMarple_iff _ p a' e').mp h'
    exact (covarMarple_mod_unique hμ x p a a' e e').2 h h' (GJL.lsFit_sound h0).1
      (GJL.lsFit_sound h1).1 ((covar_gramInj_of_some x p a e0).2 h0)

/-- **covariance-method spectrum shift covariance, unconditional** (`pcovar`): the two-sided spectrum of
the modulated data is the spectrum of the data rotated by `m` bins whenever both fits return. -/
theorem covar_psd_shift_solver {ω : K} {nfft : ℕ} (hω : ω ^ nfft = 1) (hstar : star ω = ω⁻¹)
    (x : List K) (p : ℕ) (T : K) {m : ℕ} (hm : m < nfft) (a a' : List K) (e e' : K)
    (h : arcovar x p = some (a, e)) (h' : arcovar (modulate (ω⁻¹ ^ m) x) p = some (a', e')) :
    arma2psd (twiddles ω nfft) (some a') none e' T nfft
      = cshift (arma2psd (twiddles ω nfft) (some a) none e T nfft) m :=
  covar_psd_shift hω hstar x p T hm a a' e e' h h' (GJL.lsFit_sound h).1
    (GJL.lsFit_sound h').1 ((covar_gramInj_of_some x p a e).1 h)

/-- **modified-covariance spectrum shift covariance, unconditional** (`pmodcovar`) -/
theorem modcovar_psd_shift_solver {ω : K} {nfft : ℕ} (hω : ω ^ nfft = 1) (hstar : star ω = ω⁻¹)
    (x : List K) (p : ℕ) (T : K) {m : ℕ} (hm : m < nfft) (a a' : List K) (e e' : K)
    (h : modcovar x p = some (a, e)) (h' : modcovar (modulate (ω⁻¹ ^ m) x) p = some (a', e')) :
    arma2psd (twiddles ω nfft) (some a') none e' T nfft
      = cshift (arma2psd (twiddles ω nfft) (some a) none e T nfft) m :=
  modcovar_psd_shift hω hstar x p T hm a a' e e' h h' (GJL.lsFit_sound h).1
    (GJL.lsFit_sound h').1 ((covar_gramInj_of_some x p a e).2 h)

/-- **`arcovar` on conjugated data, unconditional**: conjugated coefficients, same error -/
theorem arcovar_conj_unique_solver (x : List K) (p : ℕ) (a a' : List K) (e e' : K)
    (h : arcovar x p = some (a, e)) (h' : arcovar (x.map star) p = some (a', e')) :
    a' = a.map star ∧ e' = e :=
  arcovar_conj_unique x p a a' e e' h h' (GJL.lsFit_sound h).1
    (GJL.lsFit_sound h').1 ((covar_gramInj_of_some x p a e).1 h)

/-- **`modcovar` on conjugated data, unconditional** -/
theorem modcovar_conj_unique_solver (x : List K) (p : ℕ) (a a' : List K) (e e' : K)
    (h : modcovar x p = some (a, e)) (h' : modcovar (x.map star) p = some (a', e')) :
    a' = a.map star ∧ e' = e :=
  modcovar_conj_unique x p a a' e e' h h' (GJL.lsFit_sound h).1
    (GJL.lsFit_sound h').1 ((covar_gramInj_of_some x p a e).2 h)

/-- **covariance-method spectrum mirror, unconditional** -/
theorem covar_psd_mirror_solver {ω : K} {nfft : ℕ} (hω : ω ^ nfft = 1) (hstar : star ω = ω⁻¹)
    (x : List K) (p : ℕ) (T : K) (a a' : List K) (e e' : K)
    (h : arcovar x p = some (a, e)) (h' : arcovar (x.map star) p = some (a', e'))
    {k : ℕ} (hk : k < nfft) :
    nth (arma2psd (twiddles ω nfft) (some a') none e' T nfft) k
      = nth (arma2psd (twiddles ω nfft) (some a) none e T nfft) ((nfft - k) % nfft) :=
  covar_psd_mirror hω hstar x p T a a' e e' h h' (GJL.lsFit_sound h).1
    (GJL.lsFit_sound h').1 ((covar_gramInj_of_some x p a e).1 h) hk

/-- **modified-covariance spectrum mirror, unconditional** -/
theorem modcovar_psd_mirror_solver {ω : K} {nfft : ℕ} (hω : ω ^ nfft = 1)
    (hstar : star ω = ω⁻¹) (x : List K) (p : ℕ) (T : K) (a a' : List K) (e e' : K)
    (h : modcovar x p = some (a, e)) (h' : modcovar (x.map star) p = some (a', e'))
    {k : ℕ} (hk : k < nfft) :
    nth (arma2psd (twiddles ω nfft) (some a') none e' T nfft) k
      = nth (arma2psd (twiddles ω nfft) (some a) none e T nfft) ((nfft - k) % nfft) :=
  modcovar_psd_mirror hω hstar x p T a a' e e' h h' (GJL.lsFit_sound h).1
    (GJL.lsFit_sound h').1 ((covar_gramInj_of_some x p a e).2 h) hk

end CovarSolver

section CovarExamples

/-- a zero test on `ℝ` for the examples (the executable instances are `CRat` / `CFloat`) -/
noncomputable local instance : IsZero ℝ := ⟨fun q => decide (q = 0)⟩

/-- lawful, so `section CovarSolver` applies to the two examples below -/
local instance : GJL.LawfulIsZero ℝ := GJL.lawful_decide

/-- hypotheses of `arcovar_mod_unique` / `covar_psd_shift` (`K = ℝ`, `μ = -1 = ω⁻¹`, `NFFT = 2`, `m = 1`):
on `x = [1,2,3,5]`, `p = 1` the model returns `a = -23/14`, `e = 3/14`; on the modulated data
`[1,-2,3,-5]` it returns the twisted `a' = +23/14` and the same `e`; both satisfy their normal equations,
and the regressor column `[1,2,3]ᵀ` has full rank, so the Gram matrix is nonsingular. -/
example :
    ((-1 : ℝ) * star (-1 : ℝ) = 1) ∧ modulate (-1 : ℝ) [1, 2, 3, 5] = [1, -2, 3, -5] ∧
    arcovar ([1, 2, 3, 5] : List ℝ) 1 = some ([-23/14], 3/14) ∧
    arcovar (modulate (-1 : ℝ) [1, 2, 3, 5]) 1 = some ([23/14], 3/14) ∧
    twist (-1 : ℝ) [-23/14] = [23/14] ∧
    NormalEq (col0 (corrmtx ([1, 2, 3, 5] : List ℝ) 1 .covariance))
      (colR (corrmtx ([1, 2, 3, 5] : List ℝ) 1 .covariance))
      (([1, 2, 3, 5] : List ℝ).length - 1) 1 (nth [-23/14]) ∧
    NormalEq (col0 (corrmtx (modulate (-1 : ℝ) [1, 2, 3, 5]) 1 .covariance))
      (colR (corrmtx (modulate (-1 : ℝ) [1, 2, 3, 5]) 1 .covariance))
      ((modulate (-1 : ℝ) [1, 2, 3, 5]).length - 1) 1 (nth [23/14]) ∧
    GramInj (colR (corrmtx ([1, 2, 3, 5] : List ℝ) 1 .covariance))
      (([1, 2, 3, 5] : List ℝ).length - 1) 1 := by
  have hmod : modulate (-1 : ℝ) [1, 2, 3, 5] = [1, -2, 3, -5] := by
    simp only [modulate, spec_eval, spec_eval_proc]
    norm_num only
  have hμ : (-1 : ℝ) * star (-1 : ℝ) = 1 := by norm_num
  have h := CovarL.arcovar_1235
  have h' : arcovar (modulate (-1 : ℝ) [1, 2, 3, 5]) 1 = some ([23/14], 3/14) :=
    hmod ▸ CovarL.arcovar_1235_modulated
  exact ⟨hμ, hmod, h, h', (arcovar_mod_unique_solver hμ _ 1 _ _ _ _ h h').1.symm,
    (GJL.lsFit_sound h).1, (GJL.lsFit_sound h').1, (covar_gramInj_of_some _ 1 _ _).1 h⟩

/-- hypotheses of `modcovar_mod_unique` / `modcovar_psd_shift` on the same data: `modcovar` returns
`a = -23/26`, `e = 147/13` on `[1,2,3,5]` and the twisted `a' = +23/26`, same `e`, on `[1,-2,3,-5]`. -/
example :
    modcovar ([1, 2, 3, 5] : List ℝ) 1 = some ([-23/26], 147/13) ∧
    modcovar ([1, -2, 3, -5] : List ℝ) 1 = some ([23/26], 147/13) ∧
    NormalEq (col0 (corrmtx ([1, -2, 3, -5] : List ℝ) 1 .modified))
      (colR (corrmtx ([1, -2, 3, -5] : List ℝ) 1 .modified))
      (2 * (([1, -2, 3, -5] : List ℝ).length - 1)) 1 (nth [23/26]) ∧
    GramInj (colR (corrmtx ([1, 2, 3, 5] : List ℝ) 1 .modified))
      (2 * (([1, 2, 3, 5] : List ℝ).length - 1)) 1 := by
  have h' := CovarL.modcovar_1235_modulated
  exact ⟨CovarL.modcovar_1235, h', (GJL.lsFit_sound h').1,
    (covar_gramInj_of_some _ 1 _ _).2 CovarL.modcovar_1235⟩

end CovarExamples

/-- the hypotheses on `ω` hold for numpy's root `e^{-2πi/4} = -i` in `ℂ`, and `μ = ω⁻¹^m` is unimodular -/
example : (-Complex.I) ^ 4 = 1 ∧ star (-Complex.I) = (-Complex.I)⁻¹
    ∧ ((-Complex.I)⁻¹ ^ 1) * star ((-Complex.I)⁻¹ ^ 1) = 1 := by
  refine ⟨?_, ?_, ?_⟩
  · rw [neg_pow, Complex.I_pow_four]; norm_num
  · rw [inv_neg, Complex.inv_I, neg_neg, star_neg]; simp
  · rw [pow_one, inv_neg, Complex.inv_I, neg_neg]; simp

/-- conjugated time reversal over `ℚ` (trivial involution) is plain reversal: `[3, 2, 7] ↦ [7, 2, 3]`,
and the Yule–Walker fit is the same -/
example : trconj ([3, 2, 7] : List ℚ) = [7, 2, 3] ∧
    aryule ([7, 2, 3] : List ℚ) 2 .biased = aryule [3, 2, 7] 2 .biased := by
  have h : trconj ([3, 2, 7] : List ℚ) = [7, 2, 3] := by
    decide +kernel
  exact ⟨h, h ▸ aryule_timerev [3, 2, 7] 2 .biased⟩

/-- `K = ℚ` (trivial involution), `ω = -1`, `NFFT = 2`, `m = 1`: modulating `[3, 2]` to `[3, -2]` swaps
the two periodogram bins. -/
example : nth (speriodogram (twiddles (-1 : ℚ) 2) (modulate ((-1 : ℚ)⁻¹ ^ 1) [3, 2]) [1, 1] 2 false) 0
    = nth (speriodogram (twiddles (-1 : ℚ) 2) [3, 2] [1, 1] 2 false) 1 :=
  periodogram_shift (ω := -1) (by norm_num) [3, 2] [1, 1] (by norm_num) (by norm_num)

end SpecVerif.C04
