import SpecVerif.Proofs.Lemmas.GohbergSemencul
import SpecVerif.Proofs.C08
import SpecVerif.Proofs.C13
import SpecVerif.Model.Minvar
import Mathlib.Algebra.Star.Rat
import Mathlib.Tactic.IntervalCases
import SpecVerif.Proofs.Lemmas.CRatField
import SpecVerif.Proofs.Lemmas.Eval
/-
  C16 — minimum variance (`minvar`, model in `SpecVerif/Model/Minvar.lean`, ψ sequence and final
  inversion in `SpecVerif/Model/Arma.lean`).

  "For any data, dimension `m ≥ 2` and `NFFT ≥ 2m`, the estimate at `f_k = k/NFFT` is
  `sampling / (e(f_k)ᴴ R⁻¹ e(f_k))`, `R` the `m × m` Hermitian Toeplitz autocorrelation matrix implied by
  the order `m-1` Burg model; it is real and strictly positive, and `minvar` returns the Burg AR vector
  (with leading 1) and reflection coefficients it used."

  Conventions.  `a = [1, a_1, …, a_{m-1}]` the Burg polynomial, `P` the Burg error power, `ω` an
  `NFFT`-th root of unity with `star ω = ω⁻¹` (numpy's `e^{-2πi/NFFT}`), `e(f_k)_i = e^{2πi f_k i} = ω^{-ik}`.
  `gsG m a i j = Σ_{t ≤ min i j} (a_{i-t}·conj a_{j-t} − b_{i-t}·conj b_{j-t})`, `b = [0, conj a_{m-1}, …,
  conj a_1]`, is entry `(i,j)` of `L₁L₁ᴴ − L₂L₂ᴴ` (`gs_matrix_is_product_difference`), `R_{ij} = r(i-j)`.
  The Gohberg–Semencul identity `R⁻¹ = (L₁L₁ᴴ − L₂L₂ᴴ)/P` is a theorem (`gohberg_semencul`,
  `gohberg_semencul_unique`).  `minvar_eq_quadratic_form_of_GS` / `minvar_real_pos_of_pd` take the identity (resp.
  positive definiteness of the inverse) as a hypothesis; the hypothesis-free theorems are
  `minvar_psd_eq_quadratic_form` and, over `ℝ`/`ℂ`, `minvar_psd_real_pos`.
  `R` is written out in the statements as `if j ≤ i then r (i-j) else star (r (j-i))` — this is `hR r i j`
  (Lemmas/Levinson) — and `eᴴ M e` as a double sum — this is `sesq m M e e` (Lemmas/Sesq); the bridges are
  `GSL.hR_eq_ite`, `sesq_eq_sum`.  Several theorems restate a lemma of `Lemmas/Minvar.lean` or
  `Lemmas/GohbergSemencul.lean` with the helper definitions written out, so that the property file reads alone.
-/
namespace SpecVerif.C16
open Finset SpecVerif SpecVerif.ArmaL SpecVerif.MinvarL SpecVerif.BurgL SpecVerif.GSL

variable {K : Type} [Field K] [StarRing K]

/-- C16, last clause ("returns the Burg AR vector (with leading 1) and reflection coefficients it used");
`m = 1` is outside the Python API (order-0 Burg call rejected, Model/Minvar) -/
theorem minvar_returns_burg (tw x : List K) (m : ℕ) (hm : 1 ≤ m) (fs : K) (nfft : ℕ) :
    (minvar tw x m fs nfft).ar = 1 :: (burgRun x (m - 1)).a ∧
    (minvar tw x m fs nfft).ref = (burgRun x (m - 1)).ref ∧
    (minvar tw x m fs nfft).psd
      = minvarPsd tw (1 :: (burgRun x (m - 1)).a) (burgRun x (m - 1)).rho fs nfft ∧
    (minvar tw x m fs nfft).ar.length = m ∧
    (minvar tw x m fs nfft).ref.length = m - 1 ∧
    (minvar tw x m fs nfft).psd.length = nfft := by
  refine ⟨rfl, rfl, rfl, one_cons_length_burg x m hm, burgRun_ref_length x (m - 1), ?_⟩
  show (minvarPsd tw _ _ fs nfft).length = nfft
  unfold minvarPsd
  rw [vec_length]

/-- the returned AR vector is the step-up (`rc2poly`) polynomial of the returned reflection coefficients, with
the leading 1 put in front (C13 for the Burg part); for any `r0`: the polynomial part of `rc2poly` does not
depend on it -/
theorem minvar_ar_eq_stepup (tw x : List K) (m : ℕ) (fs : K) (nfft : ℕ) (r0 : K) :
    (minvar tw x m fs nfft).ar = 1 :: (rc2poly (minvar tw x m fs nfft).ref r0).1 := by
  show 1 :: (burgRun x (m - 1)).a = 1 :: (rc2poly (burgRun x (m - 1)).ref r0).1
  rw [← C13.burg_ar_eq_stepup x (m - 1) r0]

/-- `gsG` is `L₁L₁ᴴ − L₂L₂ᴴ`: the difference of the two matrix products, `L₁`, `L₂` the lower-triangular
Toeplitz matrices with first columns `a` and `b = [0, conj a_{m-1}, …, conj a_1]`. -/
theorem gs_matrix_is_product_difference (m : ℕ) (a : ℕ → K) (i j : ℕ) (hi : i < m) (hj : j < m) :
    gsG m a i j
      = ∑ t ∈ range m, lowerToeplitz a i t * star (lowerToeplitz a j t)
        - ∑ t ∈ range m, lowerToeplitz (gsB m a) i t * star (lowerToeplitz (gsB m a) j t) := by
  rw [lowerToeplitz_mul_adjoint m a i j hi hj, lowerToeplitz_mul_adjoint m (gsB m a) i j hi hj,
    ← Finset.sum_sub_distrib]
  rfl

theorem gs_matrix_hermitian (m : ℕ) (a : ℕ → K) (i j : ℕ) : gsG m a j i = star (gsG m a i j) :=
  gsG_hermitian m a i j

/-- `MinvarL.diagSum_gsG` with `diagSum` and `psiWeight` written out: the `k`-th lower diagonal of
`G = L₁L₁ᴴ − L₂L₂ᴴ` sums to the numerator of Musicus' `ψ_k` -/
theorem gs_diag_sum (m : ℕ) (a : ℕ → K) (k : ℕ) (hk : k < m) :
    ∑ j ∈ range (m - k), gsG m a (j + k) j
      = ∑ i ∈ range (m - k),
          (if 2 * i ≤ m - k then (((m - k - 2 * i : ℕ) : K)) else -(((2 * i - (m - k) : ℕ) : K)))
            * star (a i) * a (i + k) :=
  diagSum_gsG m a k hk

/-- **ψ = diagonal sums of GS**: for the coefficient list `a` (`m = len a`), `P ≠ 0` and `k < m`, the `k`-th
diagonal sum of `L₁L₁ᴴ − L₂L₂ᴴ` is `P·ψ_k`, `ψ_k = minvarLag a P k` the model's entry `ψ[k]`
(`C08.minvarPsi_entry`). -/
theorem psi_eq_diag_sums_of_GS (a : List K) {P : K} (hP : P ≠ 0) (k : ℕ) (hk : k < a.length)
    {nfft : ℕ} (hkn : k < nfft) :
    ∑ j ∈ range (a.length - k), gsG a.length (nth a) (j + k) j
      = nth (minvarPsi a P nfft) k * P := by
  rw [(C08.minvarPsi_entry a P hk hkn).2]
  exact diagSum_gsG_eq_lag a hP k hk

/-- `MinvarL.sesq_pow_by_diag` with `sesq`, `diagSum` written out -/
theorem quadratic_form_by_diagonals (m : ℕ) (M : ℕ → ℕ → K)
    (hM : ∀ i j, i < m → j < m → M j i = star (M i j)) (z : K) (hz : z ≠ 0) (hstar : star z = z⁻¹) :
    ∑ i ∈ range m, ∑ j ∈ range m, star (z ^ i) * M i j * z ^ j
      = ∑ j ∈ range m, M j j
        + ∑ k ∈ Ico 1 m, ((∑ j ∈ range (m - k), M (j + k) j) * z⁻¹ ^ k
            + star (∑ j ∈ range (m - k), M (j + k) j) * z ^ k) := by
  have h := sesq_pow_by_diag m M hM z hz hstar
  unfold sesq diagSum at h
  simpa only [Nat.sub_zero, Nat.add_zero] using h

/-- **minimum variance = quadratic form**, conditional on Gohberg–Semencul (`hGS`: `Rinv = (L₁L₁ᴴ − L₂L₂ᴴ)/P`
on the indices `< m`): bin `k` of `minvarPsd` is `fs / (e(f_k)ᴴ Rinv e(f_k))`, `e(f_k)_i = ω^{-ik}` (i.e.
`e^{2πi·(k/NFFT)·i}` for numpy's `ω`).  `hno` (the two halves of ψ do not overlap) is implied by `NFFT ≥ 2m`. -/
theorem minvar_eq_quadratic_form_of_GS {ω : K} {nfft : ℕ} (h2 : (2 : K) ≠ 0) (hω : ω ^ nfft = 1)
    (hstar : star ω = ω⁻¹) (a : List K) {m : ℕ} (hlen : a.length = m) {P : K} (hP : star P = P)
    (hP0 : P ≠ 0) (ha : 0 < m) (hno : 2 * m ≤ nfft + 1) (Rinv : ℕ → ℕ → K)
    (hGS : ∀ i j, i < m → j < m → Rinv i j = gsG m (nth a) i j / P)
    (fs : K) (k : ℕ) (hk : k < nfft) :
    nth (minvarPsd (twiddles ω nfft) a P fs nfft) k
      = fs / ∑ i ∈ range m, ∑ j ∈ range m, star (ω⁻¹ ^ (i * k)) * Rinv i j * ω⁻¹ ^ (j * k) := by
  subst hlen
  rw [C08.minvarPsd_entry h2 hω hstar a hP ha hno fs k hk,
    dft_minvarPsi_eq_sesq hω hstar a hP hP0 ha hno k, ← sesq_div, ← sesq_congr a.length hGS]
  rfl

/-- non-vacuity of `minvar_eq_quadratic_form_of_GS`: `K = ℚ`, `ω = -1`, `NFFT = 4`, `m = 2`, `r = (1, 1/2)`,
`a = [1, -1/2]`, `P = 3/4`, `Rinv = R⁻¹ = [[4/3, -2/3], [-2/3, 4/3]]`; at `k = 1`, `e = (1, -1)`,
`eᴴ R⁻¹ e = 4` and the PSD value is `fs/4`. -/
example : nth (minvarPsd (twiddles (-1 : ℚ) 4) [1, -1/2] (3/4) 1 4) 1 = 1/4 := by
  rw [minvar_eq_quadratic_form_of_GS (ω := -1) (by decide +kernel) (by decide +kernel)
    (by decide +kernel) [1, -1/2] rfl (P := 3/4) (by decide +kernel) (by decide +kernel) (by decide)
    (by decide) (fun i j => if i = j then 4/3 else -2/3) ?_ 1 1 (by decide)]
  · decide +kernel
  · intro i j hi hj
    revert j
    revert i
    decide +kernel

/-- the same for the value `minvar` returns: for `m ≥ 1`, `NFFT ≥ 2m`, non-zero Burg error power, and
`Rinv = (L₁L₁ᴴ − L₂L₂ᴴ)/ρ` built from the returned AR vector (`hGS`),
`minvar(X, m, fs, NFFT).psd[k] = fs / (e(f_k)ᴴ Rinv e(f_k))`. -/
theorem minvar_psd_eq_quadratic_form_of_GS {ω : K} {nfft : ℕ} (h2 : (2 : K) ≠ 0) (hω : ω ^ nfft = 1)
    (hstar : star ω = ω⁻¹) (x : List K) (m : ℕ) (hm : 1 ≤ m) (hno : 2 * m ≤ nfft)
    (hP0 : (burgRun x (m - 1)).rho ≠ 0) (fs : K) (Rinv : ℕ → ℕ → K)
    (hGS : ∀ i j, i < m → j < m →
      Rinv i j = gsG m (nth (minvar (twiddles ω nfft) x m fs nfft).ar) i j / (burgRun x (m - 1)).rho)
    (k : ℕ) (hk : k < nfft) :
    nth (minvar (twiddles ω nfft) x m fs nfft).psd k
      = fs / ∑ i ∈ range m, ∑ j ∈ range m, star (ω⁻¹ ^ (i * k)) * Rinv i j * ω⁻¹ ^ (j * k) := by
  exact minvar_eq_quadratic_form_of_GS h2 hω hstar (1 :: (burgRun x (m - 1)).a)
    (one_cons_length_burg x m hm) (burgRun_rho_star x (m - 1)) hP0 hm (by omega) Rinv hGS fs k hk

/-- non-vacuity of the Burg-level hypotheses (`m = 2`, `NFFT = 4 ≥ 2m`, non-zero error power): `K = ℚ`,
`x = [1, 2, 1]`: `a = [1, -4/5]`, `ρ = 2·(1 - 16/25) = 18/25`. -/
example : (minvar (twiddles (-1 : ℚ) 4) [1, 2, 1] 2 1 4).ar = [1, -4/5] ∧
    (burgRun ([1, 2, 1] : List ℚ) (2 - 1)).rho = 18/25 := by
  decide +kernel

section RC
variable {𝕜 : Type} [RCLike 𝕜]

/-- **real, strictly positive**, conditional on Gohberg–Semencul (`hGS`) and on positive definiteness of
`Rinv` (`hpd`) -/
theorem minvar_real_pos_of_pd {ω : 𝕜} {nfft : ℕ} (hω : ω ^ nfft = 1) (hstar : star ω = ω⁻¹)
    (a : List 𝕜) {m : ℕ} (hlen : a.length = m) {P : 𝕜} (hP : star P = P) (hP0 : P ≠ 0) (ha : 0 < m)
    (hno : 2 * m ≤ nfft + 1) (Rinv : ℕ → ℕ → 𝕜)
    (hGS : ∀ i j, i < m → j < m → Rinv i j = gsG m (nth a) i j / P)
    (hpd : ∀ e : ℕ → 𝕜, (∃ i, i < m ∧ e i ≠ 0) →
      ∃ q : ℝ, 0 < q ∧ ∑ i ∈ range m, ∑ j ∈ range m, star (e i) * Rinv i j * e j = (q : 𝕜))
    (fs : ℝ) (hfs : 0 < fs) (k : ℕ) (hk : k < nfft) :
    ∃ v : ℝ, 0 < v ∧ nth (minvarPsd (twiddles ω nfft) a P (fs : 𝕜) nfft) k = (v : 𝕜) := by
  rw [minvar_eq_quadratic_form_of_GS two_ne_zero hω hstar a hlen hP hP0 ha hno Rinv hGS (fs : 𝕜) k hk]
  obtain ⟨q, hq, hQ⟩ := hpd (fun i => ω⁻¹ ^ (i * k)) ⟨0, ha, by
    rw [Nat.zero_mul, pow_zero]; exact one_ne_zero⟩
  rw [hQ]
  exact ⟨fs / q, div_pos hfs hq, (RCLike.ofReal_div fs q).symm⟩

/-- in the `re`/`im` form: the bin has zero imaginary part and strictly positive real part -/
theorem minvar_re_pos_im_zero_of_pd {ω : 𝕜} {nfft : ℕ} (hω : ω ^ nfft = 1) (hstar : star ω = ω⁻¹)
    (a : List 𝕜) {P : 𝕜} (hP : star P = P) (hP0 : P ≠ 0) (ha : 0 < a.length)
    (hno : 2 * a.length ≤ nfft + 1) (Rinv : ℕ → ℕ → 𝕜)
    (hGS : ∀ i j, i < a.length → j < a.length → Rinv i j = gsG a.length (nth a) i j / P)
    (hpd : ∀ e : ℕ → 𝕜, (∃ i, i < a.length ∧ e i ≠ 0) →
      ∃ q : ℝ, 0 < q ∧
        ∑ i ∈ range a.length, ∑ j ∈ range a.length, star (e i) * Rinv i j * e j = (q : 𝕜))
    (fs : ℝ) (hfs : 0 < fs) (k : ℕ) (hk : k < nfft) :
    0 < RCLike.re (nth (minvarPsd (twiddles ω nfft) a P (fs : 𝕜) nfft) k) ∧
    RCLike.im (nth (minvarPsd (twiddles ω nfft) a P (fs : 𝕜) nfft) k) = 0 := by
  obtain ⟨v, hv, h⟩ := minvar_real_pos_of_pd hω hstar a rfl hP hP0 ha hno Rinv hGS hpd fs hfs k hk
  rw [h, RCLike.ofReal_re, RCLike.ofReal_im]
  exact ⟨hv, rfl⟩

/-- conditional form of `minvar_psd_real_pos`: `Rinv = (L₁L₁ᴴ − L₂L₂ᴴ)/ρ` for the returned AR vector (`hGS`)
and its positive definiteness (`hpd`) are hypotheses -/
theorem minvar_psd_real_pos_of_pd {ω : 𝕜} {nfft : ℕ} (hω : ω ^ nfft = 1) (hstar : star ω = ω⁻¹)
    (x : List 𝕜) (m : ℕ) (hm : 1 ≤ m) (hno : 2 * m ≤ nfft) (hP0 : (burgRun x (m - 1)).rho ≠ 0)
    (fs : ℝ) (hfs : 0 < fs) (Rinv : ℕ → ℕ → 𝕜)
    (hGS : ∀ i j, i < m → j < m → Rinv i j
      = gsG m (nth (minvar (twiddles ω nfft) x m (fs : 𝕜) nfft).ar) i j / (burgRun x (m - 1)).rho)
    (hpd : ∀ e : ℕ → 𝕜, (∃ i, i < m ∧ e i ≠ 0) →
      ∃ q : ℝ, 0 < q ∧ ∑ i ∈ range m, ∑ j ∈ range m, star (e i) * Rinv i j * e j = (q : 𝕜))
    (k : ℕ) (hk : k < nfft) :
    nth (minvar (twiddles ω nfft) x m (fs : 𝕜) nfft).psd k
      = (fs : 𝕜) / ∑ i ∈ range m, ∑ j ∈ range m, star (ω⁻¹ ^ (i * k)) * Rinv i j * ω⁻¹ ^ (j * k) ∧
    ∃ v : ℝ, 0 < v ∧ nth (minvar (twiddles ω nfft) x m (fs : 𝕜) nfft).psd k = (v : 𝕜) := by
  refine ⟨minvar_psd_eq_quadratic_form_of_GS two_ne_zero hω hstar x m hm hno hP0 (fs : 𝕜) Rinv hGS
    k hk, ?_⟩
  exact minvar_real_pos_of_pd hω hstar (1 :: (burgRun x (m - 1)).a) (one_cons_length_burg x m hm)
    (burgRun_rho_star x (m - 1)) hP0 hm (by omega) Rinv hGS hpd fs hfs k hk

/-- non-vacuity of `minvar_real_pos_of_pd` (all hypotheses, including positive definiteness, hold):
`𝕜 = ℝ`, `ω = -1`, `NFFT = 4`, `a = [1, -1/2]`, `P = 3/4`, `Rinv = [[4/3, -2/3], [-2/3, 4/3]]`,
`eᴴ Rinv e = (4/3)·((e_0 - e_1/2)² + (3/4)·e_1²)`. -/
example : ∃ v : ℝ, 0 < v ∧
    nth (minvarPsd (twiddles (-1 : ℝ) 4) [1, -1/2] (3/4) ((1 : ℝ) : ℝ) 4) 1 = (v : ℝ) := by
  have h0 : nth ([1, -1/2] : List ℝ) 0 = 1 := rfl
  have h1 : nth ([1, -1/2] : List ℝ) 1 = -1/2 := rfl
  refine minvar_real_pos_of_pd (𝕜 := ℝ) (ω := -1) (by norm_num) (by norm_num)
    [1, -1/2] rfl (P := 3/4) rfl (by norm_num) (by decide) (by decide)
    (fun i j => if i = j then 4/3 else -2/3) ?_ ?_ 1 one_pos 1 (by decide)
  · intro i j hi hj
    change i < 2 at hi
    change j < 2 at hj
    interval_cases i <;> interval_cases j
    · rw [gsG_col_zero _ _ h0, h0]; norm_num
    · rw [gsG_row_zero _ _ h0, h1]; norm_num
    · rw [gsG_col_zero _ _ h0, h1]; norm_num
    · rw [gsG_succ_succ, gsG_col_zero _ _ h0, gsB_succ, h0]; norm_num [nth]
  · intro e he
    refine ⟨4/3 * ((e 0 + -1/2 * e 1) ^ 2 + 3/4 * (e 1) ^ 2),
      mul_pos (by norm_num) (sq_add_mul_sq_pos e he _ (by norm_num)), ?_⟩
    · simp only [star_trivial, RCLike.ofReal_real_eq_id, id_eq, spec_eval, spec_eval_proc]
      ring

end RC

/-- **overlap counterexample**: `K = ℚ` (trivial involution), `a = [1, 3, 2]` (`m = 3`), `P = 1`,
`NFFT = 3 < 2m-1`: the two halves of ψ overlap, `ψ = [8, 6, 2]`, and `ψ[NFFT-1] = 2 ≠ 6 = conj ψ[1]` — the
conclusion of `C08.minvarPsi_hermitian` fails without `2m ≤ NFFT+1`. -/
example : nth (minvarPsi ([1, 3, 2] : List ℚ) 1 3) (3 - 1)
    ≠ star (nth (minvarPsi ([1, 3, 2] : List ℚ) 1 3) 1) := by
  decide +kernel

/-- the same one step below the bound, over `ℂ`: `a = [1, 0, i]` (`m = 3`), `NFFT = 4 = 2m-2`: index `2` is
claimed by both halves, `ψ[NFFT-2] = ψ[2] = i ≠ -i = conj ψ[2]`. -/
example : nth (minvarPsi ([1, 0, Complex.I] : List ℂ) 1 4) (4 - 2)
    ≠ star (nth (minvarPsi ([1, 0, Complex.I] : List ℂ) 1 4) 2) := by
  have h : nth (minvarPsi ([1, 0, Complex.I] : List ℂ) 1 4) 2 = Complex.I := by
    rw [nth_minvarPsi_low _ _ (by decide) (by decide)]
    show (∑ i ∈ range 1, _) / (1 : ℂ) = _
    rw [Finset.sum_range_one, div_one]
    show (if 2 * 0 ≤ 1 then ((1 - 2 * 0 : ℕ) : ℂ) else _) * star (1 : ℂ) * Complex.I = _
    rw [if_pos (by decide), star_one, mul_one, Nat.cast_one, one_mul]
  show nth (minvarPsi ([1, 0, Complex.I] : List ℂ) 1 4) 2 ≠ _
  rw [h]
  intro hI
  have := congrArg Complex.im hI
  rw [Complex.star_def, Complex.conj_im, Complex.I_im] at this
  norm_num at this

/-- **Gohberg–Semencul**: `R` the `m × m` Hermitian Toeplitz matrix of the lags `r` (`R_{ij} = r(i-j)` for
`j ≤ i`, `conj r(j-i)` above the diagonal — the matrix of `C10.levinson_solves`); if `a = [1, a_1, …, a_{m-1}]`
and `P ≠ 0` real solve the normal equations `Σ_j R_{ij} a_j = P δ_{i0}`, then `(L₁L₁ᴴ − L₂L₂ᴴ)/P` is a
two-sided inverse of `R`. -/
theorem gohberg_semencul (m : ℕ) (hm : 1 ≤ m) (r a : ℕ → K) {P : K} (h0 : star (r 0) = r 0)
    (hP : star P = P) (hP0 : P ≠ 0) (ha0 : a 0 = 1)
    (hN : ∀ i, i < m → ∑ j ∈ range m, (if j ≤ i then r (i - j) else star (r (j - i))) * a j
      = if i = 0 then P else 0) :
    (∀ i j, i < m → j < m →
      ∑ l ∈ range m, (if l ≤ i then r (i - l) else star (r (l - i))) * (gsG m a l j / P)
        = if i = j then 1 else 0) ∧
    (∀ i j, i < m → j < m →
      ∑ l ∈ range m, (gsG m a i l / P) * (if j ≤ l then r (l - j) else star (r (j - l)))
        = if i = j then 1 else 0) := by
  obtain ⟨p, rfl⟩ : ∃ p, m = p + 1 := ⟨m - 1, by omega⟩
  simp only [← hR_eq_ite] at hN ⊢
  exact gs_inverse r h0 p a P hP hP0 ha0 (fun i hi => hN i (by omega))

/-- **the inverse is unique**: under the hypotheses of `gohberg_semencul`, any right inverse `X`
(`R·X = I` entrywise on the indices `< m`) and any left inverse (`X·R = I`) equals `(L₁L₁ᴴ − L₂L₂ᴴ)/P`. -/
theorem gohberg_semencul_unique (m : ℕ) (hm : 1 ≤ m) (r a : ℕ → K) {P : K} (h0 : star (r 0) = r 0)
    (hP : star P = P) (hP0 : P ≠ 0) (ha0 : a 0 = 1)
    (hN : ∀ i, i < m → ∑ j ∈ range m, (if j ≤ i then r (i - j) else star (r (j - i))) * a j
      = if i = 0 then P else 0) (X : ℕ → ℕ → K) :
    ((∀ i j, i < m → j < m →
        ∑ l ∈ range m, (if l ≤ i then r (i - l) else star (r (l - i))) * X l j
          = if i = j then 1 else 0) →
      ∀ i j, i < m → j < m → X i j = gsG m a i j / P) ∧
    ((∀ i j, i < m → j < m →
        ∑ l ∈ range m, X i l * (if j ≤ l then r (l - j) else star (r (j - l)))
          = if i = j then 1 else 0) →
      ∀ i j, i < m → j < m → X i j = gsG m a i j / P) :=
  -- a left inverse and a right inverse of `R` agree, and `G/P` is both
  have hG := gohberg_semencul m hm r a h0 hP hP0 ha0 hN
  ⟨fun hX i j hi hj => left_inverse_eq_right_inverse m (fun i j => gsG m a i j / P)
      (fun i l => if l ≤ i then r (i - l) else star (r (l - i))) X hG.2 hX i j hi hj,
    fun hX i j hi hj => (left_inverse_eq_right_inverse m X
      (fun i l => if l ≤ i then r (i - l) else star (r (l - i))) (fun i j => gsG m a i j / P) hX hG.1
      i j hi hj).symm⟩

/-- an instance of `gohberg_semencul` on closed data (index conventions of `gsG`): `K = ℚ`, `m = 3`,
autocorrelation `r = (1, 1/2, 0)`, `R_{ij} = r(|i-j|)`; the order-2 model is `a = [1, -2/3, 1/3]`, `P = 2/3`,
and `R · (L₁L₁ᴴ − L₂L₂ᴴ)/P = I`. -/
example : ∀ i j, i < 3 → j < 3 →
    ∑ l ∈ range 3, (if i = l then (1 : ℚ) else if i + 1 = l ∨ l + 1 = i then 1 / 2 else 0)
        * (gsG 3 (nth ([1, -2/3, 1/3] : List ℚ)) l j / (2/3))
      = if i = j then 1 else 0 := by
  intro i j hi hj
  revert j
  revert i
  decide +kernel

/-- non-vacuity of `gohberg_semencul` (all hypotheses hold): `K = ℚ`, `m = 3`, lags `r = (1, 1/2, 0)`,
`a = [1, -2/3, 1/3]`, `P = 2/3`. -/
example : star ((fun d => nth ([1, 1/2, 0] : List ℚ) d) 0) = (fun d => nth ([1, 1/2, 0] : List ℚ) d) 0 ∧
    star (2/3 : ℚ) = 2/3 ∧ (2/3 : ℚ) ≠ 0 ∧ nth ([1, -2/3, 1/3] : List ℚ) 0 = 1 ∧
    ∀ i, i < 3 → ∑ j ∈ range 3,
        (if j ≤ i then nth ([1, 1/2, 0] : List ℚ) (i - j) else star (nth ([1, 1/2, 0] : List ℚ) (j - i)))
          * nth ([1, -2/3, 1/3] : List ℚ) j
      = if i = 0 then 2/3 else 0 := by
  decide +kernel

/-- **minimum variance = quadratic form in `R⁻¹`**: if `(a, P)` solve the normal equations of the Hermitian
Toeplitz `R` of the lags `r` and `Rinv` is ANY right inverse of `R`, bin `k` of `minvarPsd` is
`fs / (e(f_k)ᴴ Rinv e(f_k))`, `e(f_k)_i = ω^{-ik}`. -/
theorem minvar_eq_quadratic_form {ω : K} {nfft : ℕ} (h2 : (2 : K) ≠ 0) (hω : ω ^ nfft = 1)
    (hstar : star ω = ω⁻¹) (a : List K) {m : ℕ} (hlen : a.length = m) {P : K} (hP : star P = P)
    (hP0 : P ≠ 0) (ha : 0 < m) (ha0 : nth a 0 = 1) (hno : 2 * m ≤ nfft + 1) (r : ℕ → K)
    (h0 : star (r 0) = r 0)
    (hN : ∀ i, i < m →
      ∑ j ∈ range m, (if j ≤ i then r (i - j) else star (r (j - i))) * nth a j
        = if i = 0 then P else 0)
    (Rinv : ℕ → ℕ → K)
    (hRinv : ∀ i j, i < m → j < m →
      ∑ l ∈ range m, (if l ≤ i then r (i - l) else star (r (l - i))) * Rinv l j
        = if i = j then 1 else 0)
    (fs : K) (k : ℕ) (hk : k < nfft) :
    nth (minvarPsd (twiddles ω nfft) a P fs nfft) k
      = fs / ∑ i ∈ range m, ∑ j ∈ range m, star (ω⁻¹ ^ (i * k)) * Rinv i j * ω⁻¹ ^ (j * k) :=
  minvar_eq_quadratic_form_of_GS h2 hω hstar a hlen hP hP0 ha hno Rinv
    ((gohberg_semencul_unique m ha r (nth a) h0 hP hP0 ha0 hN Rinv).1 hRinv) fs k hk

/-- non-vacuity of `minvar_eq_quadratic_form`: `K = ℚ`, `ω = -1`, `NFFT = 4`, `m = 2`, `r = (1, 1/2)`,
`a = [1, -1/2]`, `P = 3/4`, `Rinv = [[4/3, -2/3], [-2/3, 4/3]]`; at `k = 1` the PSD value is `fs/4`. -/
example : nth (minvarPsd (twiddles (-1 : ℚ) 4) [1, -1/2] (3/4) 1 4) 1 = 1/4 := by
  rw [minvar_eq_quadratic_form (ω := -1) (by decide +kernel) (by decide +kernel) (by decide +kernel)
    [1, -1/2] rfl (P := 3/4) (by decide +kernel) (by decide +kernel) (by decide) rfl (by decide)
    (fun d => nth ([1, 1/2] : List ℚ) d) rfl ?_
    (fun i j => if i = j then 4/3 else -2/3) ?_ 1 1 (by decide)]
  · decide +kernel
  · decide +kernel
  · intro i j hi hj
    revert j
    revert i
    decide +kernel

/-- **the Burg model solves the normal equations of the autocorrelation it implies**: `r_0 = ρ_0 =
(burgRun x 0).rho` (the mean squared modulus of the data, `C13.burg_rho_product`), `r_j = rc2ac(ref, ρ_0)[j]`
for `1 ≤ j < m`.  A non-zero Burg error power forces `ρ_0 ≠ 0` and every reflection coefficient off the unit
circle. -/
theorem minvar_ar_solves_normal_equations (tw x : List K) (m : ℕ) (hm : 1 ≤ m) (fs : K) (nfft : ℕ)
    (hP0 : (burgRun x (m - 1)).rho ≠ 0) (r : ℕ → K) (hr0 : r 0 = (burgRun x 0).rho)
    (hr : ∀ j, 0 < j → j < m →
      r j = nth (rc2ac (minvar tw x m fs nfft).ref (burgRun x 0).rho) j) :
    (burgRun x 0).rho ≠ 0 ∧
    (∀ κ ∈ (minvar tw x m fs nfft).ref, 1 - κ * star κ ≠ 0) ∧
    ∀ i, i < m →
      ∑ j ∈ range m, (if j ≤ i then r (i - j) else star (r (j - i)))
          * nth (minvar tw x m fs nfft).ar j
        = if i = 0 then (burgRun x (m - 1)).rho else 0 := by
  obtain ⟨p, rfl⟩ : ∃ p, m = p + 1 := ⟨m - 1, by omega⟩
  obtain ⟨h1, h2⟩ := burg_domain_of_rho_ne_zero x p hP0
  refine ⟨h1, h2, ?_⟩
  intro i hi
  simp only [← hR_eq_ite]
  exact LevEq_congr (eq_burgAc x p r hr0 (fun j hj hjp => hr j hj (by omega)))
    (burg_normal_equations x p hP0) i (by omega)

/-- **C16, the PSD formula for the value `minvar` returns**: `R` the `m × m` Hermitian Toeplitz matrix of the
autocorrelation implied by the order `m-1` Burg model (`r_0 = mean |x|²`, `r_j = rc2ac(ref, r_0)[j]`), `Rinv`
ANY right inverse of `R`; then `minvar(X, m, fs, NFFT).psd[k] = fs / (e(f_k)ᴴ Rinv e(f_k))`. -/
theorem minvar_psd_eq_quadratic_form {ω : K} {nfft : ℕ} (h2 : (2 : K) ≠ 0) (hω : ω ^ nfft = 1)
    (hstar : star ω = ω⁻¹) (x : List K) (m : ℕ) (hm : 1 ≤ m) (hno : 2 * m ≤ nfft)
    (hP0 : (burgRun x (m - 1)).rho ≠ 0) (fs : K)
    (r : ℕ → K) (hr0 : r 0 = (burgRun x 0).rho)
    (hr : ∀ j, 0 < j → j < m →
      r j = nth (rc2ac (minvar (twiddles ω nfft) x m fs nfft).ref (burgRun x 0).rho) j)
    (Rinv : ℕ → ℕ → K)
    (hRinv : ∀ i j, i < m → j < m →
      ∑ l ∈ range m, (if l ≤ i then r (i - l) else star (r (l - i))) * Rinv l j
        = if i = j then 1 else 0)
    (k : ℕ) (hk : k < nfft) :
    nth (minvar (twiddles ω nfft) x m fs nfft).psd k
      = fs / ∑ i ∈ range m, ∑ j ∈ range m, star (ω⁻¹ ^ (i * k)) * Rinv i j * ω⁻¹ ^ (j * k) := by
  have hN := (minvar_ar_solves_normal_equations (twiddles ω nfft) x m hm fs nfft hP0 r hr0 hr).2.2
  have h0 : star (r 0) = r 0 := by rw [hr0]; exact burgRun_rho_star x 0
  exact minvar_eq_quadratic_form h2 hω hstar (1 :: (burgRun x (m - 1)).a)
    (one_cons_length_burg x m hm) (burgRun_rho_star x (m - 1)) hP0 hm rfl (by omega) r h0 hN Rinv
    hRinv fs k hk

/-- non-vacuity of `minvar_psd_eq_quadratic_form` / `minvar_ar_solves_normal_equations`: `K = ℚ`,
`x = [1, 2, 1]`, `m = 2`: `ρ_0 = 2`, `ref = [-4/5]`, `ρ = 18/25 ≠ 0`, implied lags `rc2ac = [2, 8/5]`,
`R = [[2, 8/5], [8/5, 2]]` with inverse `[[25/18, -10/9], [-10/9, 25/18]]`. -/
example : (burgRun ([1, 2, 1] : List ℚ) (2 - 1)).rho = 18/25 ∧
    (burgRun ([1, 2, 1] : List ℚ) 0).rho = 2 ∧
    rc2ac (minvar (twiddles (-1 : ℚ) 4) [1, 2, 1] 2 1 4).ref (burgRun ([1, 2, 1] : List ℚ) 0).rho
      = [2, 8/5] ∧
    (2 : ℚ) * (25/18) + (8/5) * (-10/9) = 1 ∧ (2 : ℚ) * (-10/9) + (8/5) * (25/18) = 0 := by
  decide +kernel

section RC
variable {𝕜 : Type} [RCLike 𝕜]

/-- **the inverse of a positive definite `R` is positive definite** (`R` the Hermitian Toeplitz matrix of `r`,
`X` a right inverse) -/
theorem toeplitz_inverse_pd (m : ℕ) (r : ℕ → 𝕜) (h0 : star (r 0) = r 0) (X : ℕ → ℕ → 𝕜)
    (hRX : ∀ i j, i < m → j < m →
      ∑ l ∈ range m, (if l ≤ i then r (i - l) else star (r (l - i))) * X l j
        = if i = j then 1 else 0)
    (hpd : ∀ v : ℕ → 𝕜, (∃ i, i < m ∧ v i ≠ 0) →
      0 < RCLike.re (∑ i ∈ range m, ∑ j ∈ range m,
        star (v i) * (if j ≤ i then r (i - j) else star (r (j - i))) * v j))
    (e : ℕ → 𝕜) (he : ∃ i, i < m ∧ e i ≠ 0) :
    ∃ q : ℝ, 0 < q ∧ ∑ i ∈ range m, ∑ j ∈ range m, star (e i) * X i j * e j = (q : 𝕜) := by
  simp only [← hR_eq_ite, ← sesq_eq_sum] at hRX hpd ⊢
  -- `v = X e` is non-zero since `R v = e`, and `eᴴ X e = vᴴ R v`
  have hv : ∃ i, i < m ∧ (fun l => ∑ j ∈ range m, X l j * e j) i ≠ 0 := by
    by_contra hcon
    obtain ⟨i, hi, hei⟩ := he
    apply hei
    rw [← mul_inverse_apply m (hR r) X hRX e i hi]
    apply Finset.sum_eq_zero
    intro l hl
    have : (fun l => ∑ j ∈ range m, X l j * e j) l = 0 := by
      by_contra hne
      exact hcon ⟨l, mem_range.mp hl, hne⟩
    rw [show ∑ j ∈ range m, X l j * e j = 0 from this, mul_zero]
  refine ⟨RCLike.re (sesq m (hR r) _ _), hpd _ hv, ?_⟩
  rw [sesq_inverse m (hR r) X (hR_star r h0) hRX e]
  exact (RCLike.conj_eq_iff_re.mp (sesq_star m (hR r) (hR_star r h0) _ _)).symm

/-- **real, strictly positive** from positive definiteness of `R` (not of its inverse): under the hypotheses of
`minvar_eq_quadratic_form` on `(a, P, r)`, every bin of the minimum-variance PSD is a strictly positive real. -/
theorem minvar_real_pos {ω : 𝕜} {nfft : ℕ} (hω : ω ^ nfft = 1) (hstar : star ω = ω⁻¹)
    (a : List 𝕜) {P : 𝕜} (hP : star P = P) (hP0 : P ≠ 0) (ha : 0 < a.length) (ha0 : nth a 0 = 1)
    (hno : 2 * a.length ≤ nfft + 1) (r : ℕ → 𝕜) (h0 : star (r 0) = r 0)
    (hN : ∀ i, i < a.length →
      ∑ j ∈ range a.length, (if j ≤ i then r (i - j) else star (r (j - i))) * nth a j
        = if i = 0 then P else 0)
    (hpd : ∀ v : ℕ → 𝕜, (∃ i, i < a.length ∧ v i ≠ 0) →
      0 < RCLike.re (∑ i ∈ range a.length, ∑ j ∈ range a.length,
        star (v i) * (if j ≤ i then r (i - j) else star (r (j - i))) * v j))
    (fs : ℝ) (hfs : 0 < fs) (k : ℕ) (hk : k < nfft) :
    ∃ v : ℝ, 0 < v ∧ nth (minvarPsd (twiddles ω nfft) a P (fs : 𝕜) nfft) k = (v : 𝕜) :=
  minvar_real_pos_of_pd hω hstar a rfl hP hP0 ha hno (fun i j => gsG a.length (nth a) i j / P)
    (fun _ _ _ _ => rfl)
    (fun e he => toeplitz_inverse_pd a.length r h0 _
      (gohberg_semencul a.length ha r (nth a) h0 hP hP0 ha0 hN).1 hpd e he)
    fs hfs k hk

/-- non-vacuity of `minvar_real_pos` (all hypotheses, including positive definiteness of `R`): `𝕜 = ℝ`,
`ω = -1`, `NFFT = 4`, `r = (1, 1/2)`, `a = [1, -1/2]`, `P = 3/4`,
`vᴴ R v = v_0² + v_0 v_1 + v_1² = (v_0 + v_1/2)² + (3/4) v_1²`. -/
example : ∃ v : ℝ, 0 < v ∧
    nth (minvarPsd (twiddles (-1 : ℝ) 4) [1, -1/2] (3/4) ((1 : ℝ) : ℝ) 4) 1 = (v : ℝ) := by
  refine minvar_real_pos (𝕜 := ℝ) (ω := -1) (by norm_num) (by norm_num)
    [1, -1/2] (P := 3/4) rfl (by norm_num) (by decide) rfl (by decide)
    (fun d => nth ([1, 1/2] : List ℝ) d) rfl ?_ ?_ 1 one_pos 1 (by decide)
  · intro i hi
    change i < 2 at hi
    show ∑ j ∈ range 2, _ = _
    interval_cases i
    · simp only [star_trivial, spec_eval, spec_eval_proc]
      norm_num only
    · simp only [star_trivial, spec_eval, spec_eval_proc]
      norm_num only
  · intro v hv
    have e : ∑ i ∈ range ([1, -1/2] : List ℝ).length, ∑ j ∈ range ([1, -1/2] : List ℝ).length,
        star (v i) * (if j ≤ i then nth ([1, 1/2] : List ℝ) (i - j)
          else star (nth ([1, 1/2] : List ℝ) (j - i))) * v j
        = (v 0 + 1/2 * v 1) ^ 2 + 3/4 * (v 1) ^ 2 := by
      simp only [star_trivial, spec_eval, spec_eval_proc]
      ring
    rw [e]
    exact sq_add_mul_sq_pos v hv _ (by norm_num)

/-- **the autocorrelation implied by the Burg model is positive definite** when the mean power is non-zero
and all returned reflection coefficients have modulus `< 1`; the Burg error power is then non-zero. -/
theorem minvar_implied_autocorrelation_pd (tw x : List 𝕜) (m : ℕ) (hm : 1 ≤ m) (fs : 𝕜) (nfft : ℕ)
    (hρ0 : (burgRun x 0).rho ≠ 0)
    (hk : ∀ i, i < m - 1 → ‖nth (minvar tw x m fs nfft).ref i‖ < 1)
    (r : ℕ → 𝕜) (hr0 : r 0 = (burgRun x 0).rho)
    (hr : ∀ j, 0 < j → j < m →
      r j = nth (rc2ac (minvar tw x m fs nfft).ref (burgRun x 0).rho) j) :
    (burgRun x (m - 1)).rho ≠ 0 ∧
    ∀ v : ℕ → 𝕜, (∃ i, i < m ∧ v i ≠ 0) →
      0 < RCLike.re (∑ i ∈ range m, ∑ j ∈ range m,
        star (v i) * (if j ≤ i then r (i - j) else star (r (j - i))) * v j) := by
  obtain ⟨p, rfl⟩ : ∃ p, m = p + 1 := ⟨m - 1, by omega⟩
  refine ⟨burg_rho_ne_zero_of_refl_lt_one x p hρ0 hk, ?_⟩
  intro v hv
  obtain ⟨i, hi, hvi⟩ := hv
  simp only [← hR_eq_ite]
  exact toepPD_congr (eq_burgAc x p r hr0 (fun j hj hjp => hr j hj (by omega)))
    (burg_implied_toepPD x p hρ0 hk) v ⟨i, by omega, hvi⟩

/-- **C16**: over `ℝ`/`ℂ`, for `m ≥ 1`, `NFFT ≥ 2m`, `fs > 0`, data with non-zero mean power and Burg
reflection coefficients of modulus `< 1`, `R` the Toeplitz matrix of the autocorrelation implied by the order
`m-1` Burg model: for ANY right inverse `Rinv` of `R`, `minvar(X, m, fs, NFFT).psd[k] = fs / (e(f_k)ᴴ Rinv e(f_k))`,
a strictly positive real number.  Neither Gohberg–Semencul nor positive definiteness is a hypothesis. -/
theorem minvar_psd_real_pos {ω : 𝕜} {nfft : ℕ} (hω : ω ^ nfft = 1) (hstar : star ω = ω⁻¹)
    (x : List 𝕜) (m : ℕ) (hm : 1 ≤ m) (hno : 2 * m ≤ nfft) (fs : ℝ) (hfs : 0 < fs)
    (hρ0 : (burgRun x 0).rho ≠ 0)
    (hkr : ∀ i, i < m - 1 → ‖nth (minvar (twiddles ω nfft) x m (fs : 𝕜) nfft).ref i‖ < 1)
    (r : ℕ → 𝕜) (hr0 : r 0 = (burgRun x 0).rho)
    (hr : ∀ j, 0 < j → j < m →
      r j = nth (rc2ac (minvar (twiddles ω nfft) x m (fs : 𝕜) nfft).ref (burgRun x 0).rho) j)
    (Rinv : ℕ → ℕ → 𝕜)
    (hRinv : ∀ i j, i < m → j < m →
      ∑ l ∈ range m, (if l ≤ i then r (i - l) else star (r (l - i))) * Rinv l j
        = if i = j then 1 else 0)
    (k : ℕ) (hk : k < nfft) :
    nth (minvar (twiddles ω nfft) x m (fs : 𝕜) nfft).psd k
      = (fs : 𝕜) / ∑ i ∈ range m, ∑ j ∈ range m, star (ω⁻¹ ^ (i * k)) * Rinv i j * ω⁻¹ ^ (j * k) ∧
    ∃ v : ℝ, 0 < v ∧ nth (minvar (twiddles ω nfft) x m (fs : 𝕜) nfft).psd k = (v : 𝕜) := by
  obtain ⟨hP0, hpd⟩ :=
    minvar_implied_autocorrelation_pd (twiddles ω nfft) x m hm (fs : 𝕜) nfft hρ0 hkr r hr0 hr
  have hform := minvar_psd_eq_quadratic_form two_ne_zero hω hstar x m hm hno hP0 (fs : 𝕜) r hr0 hr
    Rinv hRinv k hk
  have h0 : star (r 0) = r 0 := by rw [hr0]; exact burgRun_rho_star x 0
  have hN := (minvar_ar_solves_normal_equations (twiddles ω nfft) x m hm (fs : 𝕜) nfft hP0 r hr0 hr).2.2
  exact ⟨hform, minvar_real_pos_of_pd hω hstar (1 :: (burgRun x (m - 1)).a) (one_cons_length_burg x m hm)
    (burgRun_rho_star x (m - 1)) hP0 hm (by omega) Rinv
    ((gohberg_semencul_unique m hm r _ h0 (burgRun_rho_star x (m - 1)) hP0 rfl hN Rinv).1 hRinv)
    (toeplitz_inverse_pd m r h0 Rinv hRinv hpd) fs hfs k hk⟩

/-- non-vacuity of `minvar_psd_real_pos` (Burg-level hypotheses): `𝕜 = ℝ`, `x = [1, 2, 1]`, `m = 2`,
`NFFT = 4 ≥ 2m`: mean power `ρ_0 = 2 ≠ 0`, the returned reflection coefficient is `-4/5`, of modulus `< 1`
(the implied lags `[2, 8/5]` and the inverse of `R` are exhibited over `ℚ` in the example after `minvar_psd_eq_quadratic_form`). -/
example : (burgRun ([1, 2, 1] : List ℝ) 0).rho ≠ 0 ∧
    ∀ i, i < 2 - 1 → ‖nth (minvar (twiddles (-1 : ℝ) 4) [1, 2, 1] 2 ((1 : ℝ) : ℝ) 4).ref i‖ < 1 := by
  constructor
  · simp only [burgRun, burgInit, abs2, conj_eq_star, star_trivial, spec_eval, spec_eval_proc]
    norm_num only
  · intro i hi
    obtain rfl : i = 0 := by omega
    show ‖nth (burgRun ([1, 2, 1] : List ℝ) (2 - 1)).ref 0‖ < 1
    rw [BurgL.burg_example_ref]
    norm_num [nth]

/-- the same with Burg's own guarantee `|k_i| ≤ 1` (`C13.burg_ref_le_one`: order `m-1 ≤ N`, non-degenerate
stage denominators): it is enough that the Burg error power is non-zero. -/
theorem minvar_psd_real_pos_of_rho_ne_zero {ω : 𝕜} {nfft : ℕ} (hω : ω ^ nfft = 1)
    (hstar : star ω = ω⁻¹) (x : List 𝕜) (m : ℕ) (hm : 1 ≤ m) (hno : 2 * m ≤ nfft) (fs : ℝ)
    (hfs : 0 < fs) (hmN : m - 1 ≤ x.length)
    (hD : ∀ i, i < m - 1 → (burgK (burgRun x i) x.length i).2 ≠ 0)
    (hP0 : (burgRun x (m - 1)).rho ≠ 0)
    (r : ℕ → 𝕜) (hr0 : r 0 = (burgRun x 0).rho)
    (hr : ∀ j, 0 < j → j < m →
      r j = nth (rc2ac (minvar (twiddles ω nfft) x m (fs : 𝕜) nfft).ref (burgRun x 0).rho) j)
    (Rinv : ℕ → ℕ → 𝕜)
    (hRinv : ∀ i j, i < m → j < m →
      ∑ l ∈ range m, (if l ≤ i then r (i - l) else star (r (l - i))) * Rinv l j
        = if i = j then 1 else 0)
    (k : ℕ) (hk : k < nfft) :
    nth (minvar (twiddles ω nfft) x m (fs : 𝕜) nfft).psd k
      = (fs : 𝕜) / ∑ i ∈ range m, ∑ j ∈ range m, star (ω⁻¹ ^ (i * k)) * Rinv i j * ω⁻¹ ^ (j * k) ∧
    ∃ v : ℝ, 0 < v ∧ nth (minvar (twiddles ω nfft) x m (fs : 𝕜) nfft).psd k = (v : 𝕜) := by
  obtain ⟨hρ0, hne⟩ := (burg_rho_ne_zero_iff x (m - 1)).mp hP0
  refine minvar_psd_real_pos hω hstar x m hm hno fs hfs hρ0 ?_ r hr0 hr Rinv hRinv k hk
  intro i hi
  refine lt_of_le_of_ne (C13.burg_ref_le_one x (m - 1) hmN hD i hi) (fun h => hne i hi ?_)
  -- a reflection coefficient of modulus `1` would make the error power vanish
  have h' : ‖nth (burgRun x (m - 1)).ref i‖ = 1 := h
  rw [← nth_burgRun_ref x (m - 1) i hi, one_sub_mul_star_eq, h']
  norm_num

end RC

/-! `K := CRat`, the executed exact type (`Lemmas/CRatField.lean`), by plain application; the `example … := rfl`
lines check that the Field-path elaboration is the model function with the model's own instances. -/
section CRatInstantiation

/-- **`minvar_eq_quadratic_form` for the executed model**; `2 ≠ 0` holds in `CRat`, so the hypothesis
`h2` of the generic theorem disappears -/
theorem minvar_eq_quadratic_form_CRat {ω : CRat} {nfft : ℕ} (hω : ω ^ nfft = 1)
    (hstar : conj ω = ω⁻¹) (a : List CRat) {P : CRat} (hP : conj P = P) (hP0 : P ≠ 0)
    (ha : 0 < a.length) (ha0 : nth a 0 = 1) (hno : 2 * a.length ≤ nfft + 1) (r : ℕ → CRat)
    (h0 : conj (r 0) = r 0)
    (hN : ∀ i, i < a.length →
      ∑ j ∈ range a.length, (if j ≤ i then r (i - j) else conj (r (j - i))) * nth a j
        = if i = 0 then P else 0)
    (Rinv : ℕ → ℕ → CRat)
    (hRinv : ∀ i j, i < a.length → j < a.length →
      ∑ l ∈ range a.length, (if l ≤ i then r (i - l) else conj (r (l - i))) * Rinv l j
        = if i = j then 1 else 0)
    (fs : CRat) (k : ℕ) (hk : k < nfft) :
    nth (minvarPsd (twiddles ω nfft) a P fs nfft) k
      = fs / ∑ i ∈ range a.length, ∑ j ∈ range a.length,
          conj (ω⁻¹ ^ (i * k)) * Rinv i j * ω⁻¹ ^ (j * k) :=
  minvar_eq_quadratic_form two_ne_zero hω hstar a rfl hP hP0 ha ha0 hno r h0 hN Rinv hRinv fs k hk

theorem minvar_returns_burg_CRat (tw x : List CRat) (m : ℕ) (hm : 1 ≤ m) (fs : CRat) (nfft : ℕ) :
    (minvar tw x m fs nfft).ar = 1 :: (burgRun x (m - 1)).a ∧
    (minvar tw x m fs nfft).ref = (burgRun x (m - 1)).ref ∧
    (minvar tw x m fs nfft).psd
      = minvarPsd tw (1 :: (burgRun x (m - 1)).a) (burgRun x (m - 1)).rho fs nfft ∧
    (minvar tw x m fs nfft).ar.length = m ∧
    (minvar tw x m fs nfft).ref.length = m - 1 ∧
    (minvar tw x m fs nfft).psd.length = nfft :=
  minvar_returns_burg tw x m hm fs nfft

example : (fun (K : Type) [Field K] [StarRing K] => (minvarPsd : List K → _)) CRat
    = @minvarPsd CRat CRat.instAdd CRat.instMul CRat.instDiv CRat.instOfNatOfNatNat CRat.instNatCast
        CRat.instConj CRat.instNeg := rfl
example : @minvarPsd CRat CRat.instAdd CRat.instMul CRat.instDiv CRat.instOfNatOfNatNat
    CRat.instNatCast CRat.instConj CRat.instNeg = minvarPsd := rfl
example : (fun (K : Type) [Field K] [StarRing K] => (minvar : List K → _)) CRat
    = @minvar CRat CRat.instAdd CRat.instSub CRat.instMul CRat.instDiv CRat.instNeg
        CRat.instOfNatOfNatNat CRat.instOfNatOfNatNat_1 CRat.instNatCast CRat.instConj := rfl

end CRatInstantiation

end SpecVerif.C16
