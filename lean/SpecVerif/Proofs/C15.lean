import SpecVerif.Proofs.Lemmas.ArmaEst
import SpecVerif.Proofs.Lemmas.Yule
import SpecVerif.Proofs.Lemmas.Covar
import SpecVerif.Proofs.Lemmas.SchurCohn
import SpecVerif.Proofs.Lemmas.Eval
/-
  C15 — the moving-average estimator `ma` (`maEstimate`), the ARMA estimator `arma_estimate`
  (`armaEstimate`) and the PSD of the AR / MA / ARMA classes (`arma2psd` + the class glue `classPsd`).

  `K` carries an arbitrary `[IsZero K]` (pivot test): only `arma_ar_ls_optimal_solver` needs it lawful.
  The Python `arma_estimate` switches at `P ≤ 4` between `arcovar_marple` and `arcovar` for the AR part;
  the model has a SINGLE solver — `arcovar` = `lsFit` = normal equations through `lstsq` (the Marple
  recursion is modelled at specification level as the same least-squares solution) — so the length
  statements hold on both sides of that switch.
-/
namespace SpecVerif.C15
open Finset SpecVerif SpecVerif.ArmaL SpecVerif.ArmaEstL

section Generic
variable {K : Type} [Field K] [StarRing K]

/-- **`ma` returns `Q` coefficients** (`YuleL.ma_length`, restated for the C15 clause) -/
theorem ma_len (x : List K) (Q M : ℕ) (b : List K) (rho : K)
    (h : maEstimate x Q M = .ok (b, rho)) : b.length = Q :=
  YuleL.ma_length x Q M b rho h

section Est
variable [IsZero K]

/-- **the four stages**: `arma_estimate` succeeds iff `lag < N`, `Q ≤ lag + P`,
`lag + P - Q ≤ N - P`, the covariance solver returns the AR part from `armaLagSeq` of the unbiased
lags `0..lag`, and `ma(resid, Q, 2Q)` succeeds on the residual; the variance is the MA stage's. -/
theorem arma_stages (x : List K) (P Q lag : ℕ) (a b : List K) (rho : K) :
    armaEstimate x P Q lag = .ok (a, b, rho) ↔
      lag < x.length ∧ Q ≤ lag + P ∧ lag + P - Q ≤ x.length - P ∧
      (∃ e, arcovar (armaLagSeq (correlation x x lag .unbiased 1) P Q lag) P = some (a, e)) ∧
      maEstimate (armaResid x a P) Q (2 * Q) = .ok (b, rho) := by
  rw [armaEstimate_eq]
  split_ifs with h1 h2
  · exact ⟨nofun, fun h => absurd h.1 (Nat.not_lt.mpr h1)⟩
  · exact ⟨nofun, fun h => h2.elim (fun c => absurd h.2.1 (Nat.not_le.mpr c))
      (fun c => absurd h.2.2.1 (Nat.not_le.mpr c))⟩
  · cases hc : arcovar (armaLagSeq (correlation x x lag .unbiased 1) P Q lag) P with
    | none => exact ⟨nofun, fun ⟨_, _, _, ⟨_, he⟩, _⟩ => nomatch he⟩
    | some ae =>
      obtain ⟨a0, e0⟩ := ae
      show (maEstimate (armaResid x a0 P) Q (2 * Q)).map _ = _ ↔ _
      rw [map_eq_ok]
      constructor
      · rintro ⟨⟨b', rho'⟩, hm, h⟩
        cases h
        exact ⟨Nat.not_le.mp h1, Nat.not_lt.mp (not_or.mp h2).1, Nat.not_lt.mp (not_or.mp h2).2,
          ⟨e0, rfl⟩, hm⟩
      · rintro ⟨_, _, _, ⟨e, he⟩, hm⟩
        cases he
        exact ⟨(b, rho), hm, rfl⟩

/-- **the least-squares solver returns as many coefficients as there are columns**, whatever the
pivot test does: `solveVec` (order `n`), `lstsq` (`r × c`), `arcovar` (order `p`) -/
theorem solver_len (A X : Mat K) (b v : List K) (n r c : ℕ) (y : List K) (p : ℕ) (a : List K) (e : K) :
    (solveVec A b n = some v → v.length = n)
    ∧ (lstsq X b r c = some v → v.length = c)
    ∧ (arcovar y p = some (a, e) → a.length = p) :=
  ⟨GJL.solveVec_length, GJL.solveVec_length, GJL.lsFit_length⟩

/-- **`arma_estimate` returns exactly `P` AR and `Q` MA coefficients** (one solver in the model, so on
both sides of the code's `P ≤ 4` switch) -/
theorem arma_len (x : List K) (P Q lag : ℕ) (a b : List K) (rho : K)
    (h : armaEstimate x P Q lag = .ok (a, b, rho)) : a.length = P ∧ b.length = Q := by
  obtain ⟨_, _, _, ⟨e, he⟩, hma⟩ := (arma_stages x P Q lag a b rho).mp h
  exact ⟨GJL.lsFit_length he, YuleL.ma_length _ Q (2 * Q) b rho hma⟩

/-- non-vacuity: `x = [1,2,0,1,3,1]` over `ℚ`, `P = Q = 1`, `lag = 3` succeeds with `a = [-1180/1249]` -/
example : (armaEstimate ([1, 2, 0, 1, 3, 1] : List ℚ) 1 1 3).toOption.map (fun r => r.1)
    = some [-1180 / 1249] := by
  decide +kernel

/-- **on success** `0 < Q` (the MA stage `ma(resid, Q, 2Q)` rejects `Q = 0`), `lag < N` and the lag
window fits; the MA part is the two-stage Yule–Walker fit of the residual, the variance the one of
its long AR(`2Q`) fit -/
theorem arma_ok_domain (x : List K) (P Q lag : ℕ) (a b : List K) (rho : K)
    (h : armaEstimate x P Q lag = .ok (a, b, rho)) :
    0 < Q ∧ lag < x.length ∧ Q ≤ lag + P ∧ lag + P - Q ≤ x.length - P
    ∧ b = (aryule ((1 : K) :: (aryule (armaResid x a P) (2 * Q) .biased).A) Q .biased).A
    ∧ rho = (aryule (armaResid x a P) (2 * Q) .biased).P := by
  obtain ⟨h1, h2, h3, _, hma⟩ := (arma_stages x P Q lag a b rho).mp h
  obtain ⟨hQ, _, hb, hr⟩ := (YuleL.ma_eq_two_yule _ Q (2 * Q) b rho).mp hma
  exact ⟨hQ, h1, h2, h3, hb, hr⟩

/-- **errors**: `lag ≥ N` is the assertion; a lag window that does not fit is an index error; a
singular covariance problem is reported by the solver; otherwise the MA stage's `ValueError`
propagates, and it is raised exactly for `Q = 0` (`ma(resid, 0, 0)`). -/
theorem arma_errors (x : List K) (P Q lag : ℕ) :
    (lag ≥ x.length → armaEstimate x P Q lag = .error "assert")
    ∧ (lag < x.length → (lag + P < Q ∨ lag + P - Q > x.length - P) →
        armaEstimate x P Q lag = .error "index")
    ∧ (lag < x.length → Q ≤ lag + P → lag + P - Q ≤ x.length - P →
        arcovar (armaLagSeq (correlation x x lag .unbiased 1) P Q lag) P = none →
        armaEstimate x P Q lag = .error "singular")
    ∧ (lag < x.length → Q ≤ lag + P → lag + P - Q ≤ x.length - P →
        ∀ a e, arcovar (armaLagSeq (correlation x x lag .unbiased 1) P Q lag) P = some (a, e) →
        (armaEstimate x P Q lag = .error "value" ↔ Q = 0)) := by
  refine ⟨fun h => ?_, fun h1 h2 => ?_, fun h1 h2 h3 hc => ?_, fun h1 h2 h3 a e hc => ?_⟩
  · rw [armaEstimate_eq, if_pos h]
  · rw [armaEstimate_eq, if_neg (Nat.not_le.mpr h1), if_pos h2]
  · rw [armaEstimate_eq, if_neg (Nat.not_le.mpr h1),
      if_neg (not_or.mpr ⟨Nat.not_lt.mpr h2, Nat.not_lt.mpr h3⟩), hc]
  · rw [armaEstimate_eq, if_neg (Nat.not_le.mpr h1),
      if_neg (not_or.mpr ⟨Nat.not_lt.mpr h2, Nat.not_lt.mpr h3⟩), hc]
    show (maEstimate (armaResid x a P) Q (2 * Q)).map _ = .error "value" ↔ Q = 0
    rw [map_eq_error, YuleL.ma_error]
    omega

/-- non-vacuity of the `singular` branch: `x = [1,2,0,1,3,1]`, `P = 2`, `Q = 1`, `lag = 3` -/
example : armaEstimate ([1, 2, 0, 1, 3, 1] : List ℚ) 2 1 3 = .error "singular" := by
  decide +kernel

end Est

/-- **`armaLagSeq`**: `lag` samples, entry `k < min lag (lag+P-Q)` is the lag `r(k+Q+1-P)` — a negative
lag (possible for `P > Q+1`) is the conjugate of `R[P-k-Q-1]` — and entries from `lag+P-Q` on (only for
`Q > P`) are the zero padding of the `resize` -/
theorem arma_lag_seq (R : List K) (P Q lag : ℕ) :
    (armaLagSeq R P Q lag).length = lag
    ∧ (∀ k, k < lag → k < lag + P - Q →
        nth (armaLagSeq R P Q lag) k = lagZ R ((k : ℤ) + Q + 1 - P))
    ∧ (∀ k, lag + P - Q ≤ k → nth (armaLagSeq R P Q lag) k = 0) :=
  ⟨armaLagSeq_length R P Q lag, fun k hk hk' => nth_armaLagSeq_lagZ R P Q lag k hk hk',
    fun k hk => nth_armaLagSeq_pad R P Q lag k hk⟩

theorem arma_lag_seq_nat (R : List K) (P Q lag k : ℕ) (hk : k < lag) (hk' : k < lag + P - Q) :
    nth (armaLagSeq R P Q lag) k
      = if k + Q + 1 < P then star (nth R (P - (k + Q + 1))) else nth R (k + Q + 1 - P) :=
  nth_armaLagSeq R P Q lag k hk hk'

theorem arma_lag_seq_diag (R : List K) (P lag : ℕ) :
    armaLagSeq R P P lag = vec lag (fun k => nth R (k + 1)) :=
  armaLagSeq_diag R P lag

/-- non-vacuity: `R = [10,11,12,13,14]`: `P=1,Q=3` reads lags `3,4` then pads; `P=3,Q=1` starts at the
negative lag `-1` -/
example : armaLagSeq ([10, 11, 12, 13, 14] : List ℚ) 1 3 4 = [13, 14, 0, 0]
    ∧ armaLagSeq ([10, 11, 12, 13, 14] : List ℚ) 3 1 4 = [11, 10, 11, 12] := by
  decide +kernel

/-! ### `P = Q`: the AR part is least squares on the modified Yule–Walker equations -/

/-- the lags handed over are the **unbiased** sample autocorrelation lags
`r(d) = Σ_{n<N-d} x[n+d]·conj x[n] / (N-d)`, `d ≤ lag` -/
theorem arma_lags_unbiased (x : List K) (lag d : ℕ) (hd : d ≤ lag) :
    nth (correlation x x lag .unbiased (1 : K)) d
      = (∑ n ∈ range (x.length - d), nth x (n + d) * star (nth x n)) / ((x.length - d : ℕ) : K) := by
  rw [nth_correlation x x lag .unbiased 1 d hd, corrRaw_eq, Nat.max_self]

/-- **modified Yule–Walker equations** (`P = Q`): with `R` the unbiased lags and
`X = corrmtx(armaLagSeq R P P lag, P, 'covariance')` (`lag - P` rows), the residual of row `k-(P+1)`
of the least-squares problem `min ‖X₁ + X_c a‖²` is `r(k) + Σ_{j<P} a_j r(k-1-j)`, for
`k = Q+1, …, lag`: the problem handed to the solver IS the least-squares problem of the modified
Yule–Walker equations over the lags `Q+1..lag`. -/
theorem arma_ar_is_modified_yw (R : List K) (P lag : ℕ) (a : ℕ → K) (k : ℕ) (hk1 : P + 1 ≤ k)
    (hk2 : k ≤ lag) :
    k - (P + 1) < lag - P
    ∧ mentry (corrmtx (armaLagSeq R P P lag) P .covariance) (k - (P + 1)) 0
        + ∑ j ∈ range P,
            mentry (corrmtx (armaLagSeq R P P lag) P .covariance) (k - (P + 1)) (j + 1) * a j
      = nth R k + ∑ j ∈ range P, a j * nth R (k - 1 - j) := by
  obtain ⟨i, rfl⟩ : ∃ i, k = i + (P + 1) := ⟨k - (P + 1), (Nat.sub_add_cancel hk1).symm⟩
  rw [Nat.add_sub_cancel]
  have hiP : i + P < lag := hk2
  have hiL : i < lag - P := Nat.lt_sub_of_add_lt hiP
  have hi : i < (armaLagSeq R P P lag).length - P := (armaLagSeq_length R P P lag).symm ▸ hiL
  refine ⟨hiL, ?_⟩
  have hY : ∀ m, m < lag → nth (armaLagSeq R P P lag) m = nth R (m + 1) := by
    intro m hm
    rw [armaLagSeq_diag, nth_vec_lt _ hm]
  refine (CovarL.covariance_residual _ P a i hi).trans ?_
  unfold LSL.fwdErr
  rw [hY _ hiP]
  refine congrArg (nth R (i + (P + 1)) + ·) (Finset.sum_congr rfl (fun j hj => ?_))
  have hj' : j < i + P := Nat.lt_add_left i (Finset.mem_range.mp hj)
  rw [hY _ ((Nat.sub_le _ j).trans_lt ((Nat.sub_le _ 1).trans_lt hiP)), ← Nat.add_assoc,
    Nat.add_sub_cancel, Nat.sub_right_comm, Nat.sub_add_cancel (Nat.sub_pos_of_lt hj')]

section Est2
variable [IsZero K]

/-- **what the solver receives** (`P = Q`): if `arma_estimate` succeeds, its AR part is the output of
`lstsq` on `(-X_c, X₁)` with `lag - P` rows, whose row residual `X₁[i] - Σ_j (-X_c)[i][j]·a_j` at row
`i = k-(P+1)` is the modified Yule–Walker residual `r(k) + Σ_j a_j r(k-1-j)` of the unbiased lags. -/
theorem arma_ar_ls_problem (x : List K) (P lag : ℕ) (a b : List K) (rho : K)
    (h : armaEstimate x P P lag = .ok (a, b, rho)) :
    lstsq (lsNegXc (corrmtx (armaLagSeq (correlation x x lag .unbiased 1) P P lag) P .covariance)
            (lag - P) P)
          (lsRhs (corrmtx (armaLagSeq (correlation x x lag .unbiased 1) P P lag) P .covariance)
            (lag - P)) (lag - P) P = some a
    ∧ ∀ (c : ℕ → K) (k : ℕ), P + 1 ≤ k → k ≤ lag →
        nth (lsRhs (corrmtx (armaLagSeq (correlation x x lag .unbiased 1) P P lag) P .covariance)
              (lag - P)) (k - (P + 1))
          - ∑ j ∈ range P,
              mentry (lsNegXc (corrmtx (armaLagSeq (correlation x x lag .unbiased 1) P P lag) P
                .covariance) (lag - P) P) (k - (P + 1)) j * c j
        = nth (correlation x x lag .unbiased 1) k
            + ∑ j ∈ range P, c j * nth (correlation x x lag .unbiased 1) (k - 1 - j) := by
  obtain ⟨_, _, _, ⟨e, he⟩, _⟩ := (arma_stages x P P lag a b rho).mp h
  constructor
  · have := (LSL.lsFit_eq_some he).1
    rwa [armaLagSeq_length, ← lsNegXc_eq, ← lsRhs_eq] at this
  · intro c k hk1 hk2
    obtain ⟨hi, hres⟩ := arma_ar_is_modified_yw (correlation x x lag .unbiased 1) P lag c k hk1 hk2
    rw [ls_row_residual _ _ P c _ hi, hres]

end Est2

/-- **class PSD**: for `A`, `B` each a coefficient list or `None`, `NFFT >` their lengths,
`ω^NFFT = 1`: the class returns `psdLen` values and value `k` is
`c·(rho/sampling)·|B(ω^k)|²/|A(ω^k)|²` (`c = 2` for real data: one-sided, `c = 1` otherwise), times
`2π/df`, `df = sampling/NFFT`, when `scale_by_freq`.  So the PSD is proportional to `|B|²/|A|²` of the
exposed coefficients, the constant being `rho/sampling`. -/
theorem class_psd_eq {ω : K} {nfft : ℕ} (hn : 0 < nfft) (hω : ω ^ nfft = 1) (A B : Option (List K))
    (hA : ∀ a, A = some a → a.length < nfft) (hB : ∀ b, B = some b → b.length < nfft)
    (rho fs twoPi : K) (isReal s : Bool) (k : ℕ) (hk : k < psdLen isReal nfft) :
    (classPsd (arma2psd (twiddles ω nfft) A B rho fs nfft) isReal nfft s twoPi fs).length
        = psdLen isReal nfft
    ∧ nth (classPsd (arma2psd (twiddles ω nfft) A B rho fs nfft) isReal nfft s twoPi fs) k
      = (if isReal then 2 else 1)
        * (rho / fs * (optPolyAt ω B k * star (optPolyAt ω B k))
            / (optPolyAt ω A k * star (optPolyAt ω A k)))
        * (if s then twoPi / (fs / (nfft : K)) else 1) := by
  have hlen := arma2psd_length (twiddles ω nfft) A B rho fs nfft
  constructor
  · rw [classPsd_eq, scalePsd_length]
    cases isReal
    · exact hlen
    · exact foldReal_length _ nfft
  · rw [nth_classPsd _ isReal nfft s twoPi fs k hk,
      nth_arma2psd_opt hω A B hA hB rho fs k (lt_of_lt_of_le hk (psdLen_le isReal hn))]

/-- ARMA class (`parma`): `c·(rho/fs)·|B|²/|A|²`, unscaled -/
theorem class_psd_eq_arma {ω : K} {nfft : ℕ} (hn : 0 < nfft) (hω : ω ^ nfft = 1) (A B : List K)
    (hA : A.length < nfft) (hB : B.length < nfft) (rho fs twoPi : K) (isReal : Bool) (k : ℕ)
    (hk : k < psdLen isReal nfft) :
    nth (classPsd (arma2psd (twiddles ω nfft) (some A) (some B) rho fs nfft) isReal nfft false
          twoPi fs) k
      = (if isReal then 2 else 1)
        * (rho / fs * (polyAt ω B k * star (polyAt ω B k)) / (polyAt ω A k * star (polyAt ω A k))) := by
  rw [(class_psd_eq hn hω (some A) (some B) (fun _ h => Option.some.inj h ▸ hA)
    (fun _ h => Option.some.inj h ▸ hB) rho fs twoPi isReal false k hk).2,
    if_neg Bool.false_ne_true, mul_one]
  rfl

/-- AR classes (`pyule`, `pburg`, `pcovar`, `pmodcovar`): `c·(rho/fs)/|A|²`, unscaled -/
theorem class_psd_eq_ar {ω : K} {nfft : ℕ} (hn : 0 < nfft) (hω : ω ^ nfft = 1) (A : List K)
    (hA : A.length < nfft) (rho fs twoPi : K) (isReal : Bool) (k : ℕ)
    (hk : k < psdLen isReal nfft) :
    nth (classPsd (arma2psd (twiddles ω nfft) (some A) none rho fs nfft) isReal nfft false
          twoPi fs) k
      = (if isReal then 2 else 1) * (rho / fs / (polyAt ω A k * star (polyAt ω A k))) := by
  rw [(class_psd_eq hn hω (some A) none (fun _ h => Option.some.inj h ▸ hA)
    (fun _ h => nomatch h) rho fs twoPi isReal false k hk).2,
    if_neg Bool.false_ne_true, mul_one, optPolyAt_none, optPolyAt_some, star_one, mul_one, mul_one]

/-- MA class (`pma`): `c·(rho/fs)·|B|²`, unscaled -/
theorem class_psd_eq_ma {ω : K} {nfft : ℕ} (hn : 0 < nfft) (hω : ω ^ nfft = 1) (B : List K)
    (hB : B.length < nfft) (rho fs twoPi : K) (isReal : Bool) (k : ℕ)
    (hk : k < psdLen isReal nfft) :
    nth (classPsd (arma2psd (twiddles ω nfft) none (some B) rho fs nfft) isReal nfft false
          twoPi fs) k
      = (if isReal then 2 else 1) * (rho / fs * (polyAt ω B k * star (polyAt ω B k))) := by
  rw [(class_psd_eq hn hω none (some B) (fun _ h => nomatch h)
    (fun _ h => Option.some.inj h ▸ hB) rho fs twoPi isReal false k hk).2,
    if_neg Bool.false_ne_true, mul_one, optPolyAt_none, optPolyAt_some, star_one, mul_one, div_one]

/-- non-vacuity: `K = ℚ`, `ω = -1`, `NFFT = 2`, real data (`psdLen = 2`), `A = [3]`, `B = [2]`,
`rho = 5`, `fs = 2`, bin 1: `2·(5/2)·|1-2|²/|1-3|² = 5/4` -/
example : nth (classPsd (arma2psd (twiddles (-1 : ℚ) 2) (some [3]) (some [2]) 5 2 2) true 2 false
    7 2) 1 = 5 / 4 := by
  rw [class_psd_eq_arma (ω := -1) (by decide) (by decide +kernel) [3] [2] (by decide) (by decide) 5 2 7
    true 1 (by decide)]
  decide +kernel

end Generic

section RC
variable {F : Type} [RCLike F]

/-! ### real or complex data: the variance is a positive real; the MA polynomial -/

/-- **`ma`: positive variance.**  For data that is not the zero signal the returned variance (the error
of the long AR(`M`) Yule–Walker fit) is a positive real number. -/
theorem ma_rho_pos (x : List F) (hx : ∃ j, j < x.length ∧ nth x j ≠ 0) (Q M : ℕ) (b : List F)
    (rho : F) (h : maEstimate x Q M = .ok (b, rho)) :
    0 < RCLike.re rho ∧ RCLike.im rho = 0 := by
  obtain ⟨_, _, _, rfl⟩ := (YuleL.ma_eq_two_yule x Q M b rho).mp h
  have hp := YuleL.yule_stable_params x hx M
  exact ⟨hp.2.1, RCLike.conj_eq_iff_im.mp hp.1⟩

/-- **`ma`: the second Levinson recursion is stable.**  Its input `[1, a_1..a_M]` is never the zero
signal, so for *any* data every reflection coefficient of the AR(`Q`) fit that produces the MA
coefficients has modulus `< 1`, and its final error is a positive real. -/
theorem ma_refl_lt_one (x : List F) (Q M : ℕ) :
    (∀ i, i < Q → ‖nth (aryule ((1 : F) :: (aryule x M .biased).A) Q .biased).ref i‖ < 1)
    ∧ 0 < RCLike.re (aryule ((1 : F) :: (aryule x M .biased).A) Q .biased).P
    ∧ RCLike.im (aryule ((1 : F) :: (aryule x M .biased).A) Q .biased).P = 0 := by
  have hp := YuleL.yule_stable_params _ (one_cons_nonzero (aryule x M .biased).A) Q
  exact ⟨hp.2.2, hp.2.1, RCLike.conj_eq_iff_im.mp hp.1⟩

/-- **`ma`: `|b_Q| < 1`** — the last MA coefficient (± the product of the zeros of
`B(z) = z^Q + b_1 z^{Q-1} + … + b_Q`) has modulus `< 1`, for any data (a corollary of
`ma_invertible`, proved directly from `|k_Q| < 1`). -/
theorem ma_b_last_lt_one (x : List F) (Q M : ℕ) (b : List F) (rho : F)
    (h : maEstimate x Q M = .ok (b, rho)) : ‖nth b (Q - 1)‖ < 1 := by
  obtain ⟨hQ, _, rfl, _⟩ := (YuleL.ma_eq_two_yule x Q M b rho).mp h
  obtain ⟨p, rfl⟩ : ∃ p, Q = p + 1 := ⟨Q - 1, (Nat.sub_add_cancel hQ).symm⟩
  rw [Nat.add_sub_cancel]
  exact YuleL.yule_last_coeff_lt_one ((1 : F) :: (aryule x M .biased).A)
    (one_cons_nonzero (aryule x M .biased).A) p

/-- non-vacuity: `ma([1,2,0,1], Q=1, M=2)` over `ℚ` is `b = [1/6]`, `rho = 5/4` -/
example : maEstimate ([1, 2, 0, 1] : List ℚ) 1 2 = .ok ([1 / 6], 5 / 4) := by
  decide +kernel

section ArmaRC
variable [IsZero F]

/-- **`arma_estimate`: positive variance, `|b_Q| < 1`.**  If the residual
`e[i] = x[i+P] + Σ_{j<P} a_j x[i+P-1-j]` (`i < N-P`) of the returned AR part is not identically zero,
the returned variance is a positive real number; and (for any data) the last MA coefficient has
modulus `< 1`. -/
theorem arma_rho_pos (x : List F) (P Q lag : ℕ) (a b : List F) (rho : F)
    (h : armaEstimate x P Q lag = .ok (a, b, rho))
    (hres : ∃ i, i < x.length - P ∧
      nth x (i + P) + ∑ j ∈ range P, nth a j * nth x (i + P - j - 1) ≠ 0) :
    0 < RCLike.re rho ∧ RCLike.im rho = 0 ∧ ‖nth b (Q - 1)‖ < 1 := by
  obtain ⟨_, _, _, _, hma⟩ := (arma_stages x P Q lag a b rho).mp h
  obtain ⟨i, hi, hne⟩ := hres
  have hx : ∃ j, j < (armaResid x a P).length ∧ nth (armaResid x a P) j ≠ 0 :=
    ⟨i, by rw [armaResid_length]; exact hi, by rw [nth_armaResid x a P i hi]; exact hne⟩
  have h1 := ma_rho_pos _ hx Q (2 * Q) b rho hma
  exact ⟨h1.1, h1.2, ma_b_last_lt_one _ Q (2 * Q) b rho hma⟩

/-- the residual hypothesis cannot be dropped: if the residual vanishes identically the long AR fit
sees the zero signal and the returned variance is `0` -/
theorem arma_rho_zero_of_resid_zero (x : List F) (P Q lag : ℕ) (a b : List F) (rho : F)
    (h : armaEstimate x P Q lag = .ok (a, b, rho))
    (hres : ∀ i, i < x.length - P →
      nth x (i + P) + ∑ j ∈ range P, nth a j * nth x (i + P - j - 1) = 0) :
    rho = 0 := by
  obtain ⟨_, _, _, _, hma⟩ := (arma_stages x P Q lag a b rho).mp h
  obtain ⟨_, _, _, rfl⟩ := (YuleL.ma_eq_two_yule _ Q (2 * Q) b rho).mp hma
  have hz : ∀ m, nth (armaResid x a P) m = 0 := by
    intro m
    by_cases hm : m < x.length - P
    · rw [nth_armaResid x a P m hm]; exact hres m hm
    · exact nth_of_ge _ _ ((armaResid_length x a P).trans_le (Nat.not_lt.mp hm))
  have hr0 : nth (correlation (armaResid x a P) (armaResid x a P) (2 * Q) .biased (1 : F)) 0 = 0 := by
    rw [nth_correlation _ _ (2 * Q) .biased 1 0 (Nat.zero_le _), corrRaw_eq]
    rw [Finset.sum_eq_zero (fun j _ => by rw [hz, zero_mul]), zero_div]
  rw [YuleL.aryule_eq_levRun _ _ two_ne_zero, levRun_P_prod, hr0, zero_mul]

end ArmaRC

/-- **the PSD is a positive real number** wherever neither polynomial vanishes on the grid: if
`rho` and `sampling` (and `2π` when `scale_by_freq`) are positive reals and `A(ω^k) ≠ 0`, `B(ω^k) ≠ 0`,
value `k` of the AR/MA/ARMA class PSD has positive real part and zero imaginary part; in particular it
is non-zero, and — the model's division being total with `z/0 = 0` — it is not the junk value of a
division by zero (it is 'finite'). -/
theorem psd_pos_of_no_unit_zeros {ω : F} {nfft : ℕ} (hn : 0 < nfft) (hω : ω ^ nfft = 1)
    (A B : Option (List F)) (hA : ∀ a, A = some a → a.length < nfft)
    (hB : ∀ b, B = some b → b.length < nfft) (rho fs twoPi : F)
    (hrho : 0 < RCLike.re rho ∧ RCLike.im rho = 0) (hfs : 0 < RCLike.re fs ∧ RCLike.im fs = 0)
    (isReal s : Bool) (htp : s = true → 0 < RCLike.re twoPi ∧ RCLike.im twoPi = 0)
    (k : ℕ) (hk : k < psdLen isReal nfft)
    (hAk : optPolyAt ω A k ≠ 0) (hBk : optPolyAt ω B k ≠ 0) :
    0 < RCLike.re
        (nth (classPsd (arma2psd (twiddles ω nfft) A B rho fs nfft) isReal nfft s twoPi fs) k)
    ∧ RCLike.im
        (nth (classPsd (arma2psd (twiddles ω nfft) A B rho fs nfft) isReal nfft s twoPi fs) k) = 0
    ∧ nth (classPsd (arma2psd (twiddles ω nfft) A B rho fs nfft) isReal nfft s twoPi fs) k ≠ 0 := by
  -- in the order of `ComplexOrder`, `0 < z` says that `z` is a positive real number
  open scoped ComplexOrder in
  have hpos :
      0 < nth (classPsd (arma2psd (twiddles ω nfft) A B rho fs nfft) isReal nfft s twoPi fs) k := by
    rw [(class_psd_eq hn hω A B hA hB rho fs twoPi isReal s k hk).2]
    have hr : 0 < rho := RCLike.pos_iff.mpr hrho
    have hf : 0 < fs := RCLike.pos_iff.mpr hfs
    refine mul_pos (mul_pos ?_ ?_) ?_
    · cases isReal
      · exact one_pos
      · exact two_pos
    · exact div_pos (mul_pos (div_pos hr hf) (mul_star_self_pos (IsRegular.of_ne_zero hBk)))
        (mul_star_self_pos (IsRegular.of_ne_zero hAk))
    · cases s
      · exact one_pos
      · exact div_pos (RCLike.pos_iff.mpr (htp rfl)) (div_pos hf (Nat.cast_pos.mpr hn))
  exact ⟨(RCLike.pos_iff.mp hpos).1, (RCLike.pos_iff.mp hpos).2, hpos.ne'⟩

/-- **pure AR classes**: the numerator is `1`, so the PSD is a positive real wherever `A(ω^k) ≠ 0` -/
theorem ar_psd_pos {ω : F} {nfft : ℕ} (hn : 0 < nfft) (hω : ω ^ nfft = 1) (A : List F)
    (hA : A.length < nfft) (rho fs twoPi : F)
    (hrho : 0 < RCLike.re rho ∧ RCLike.im rho = 0) (hfs : 0 < RCLike.re fs ∧ RCLike.im fs = 0)
    (isReal : Bool) (k : ℕ) (hk : k < psdLen isReal nfft) (hAk : polyAt ω A k ≠ 0) :
    0 < RCLike.re (nth (classPsd (arma2psd (twiddles ω nfft) (some A) none rho fs nfft) isReal nfft
        false twoPi fs) k)
    ∧ RCLike.im (nth (classPsd (arma2psd (twiddles ω nfft) (some A) none rho fs nfft) isReal nfft
        false twoPi fs) k) = 0 := by
  have h := psd_pos_of_no_unit_zeros hn hω (some A) none (fun a h => by cases h; exact hA)
    (fun b h => by cases h) rho fs twoPi hrho hfs isReal false (fun h => by cases h) k hk hAk
    (by simp)
  exact ⟨h.1, h.2.1⟩

/-- non-vacuity of `psd_pos_of_no_unit_zeros` over `ℝ`: `ω = -1`, `NFFT = 2`, `A = [1/2]`, `B = [1/3]`,
`rho = 5`, `fs = 2`, real data, bin 1 -/
example : 0 < RCLike.re (nth (classPsd (arma2psd (twiddles (-1 : ℝ) 2) (some [1 / 2]) (some [1 / 3])
    5 2 2) true 2 false 7 2) 1) :=
  (psd_pos_of_no_unit_zeros (ω := (-1 : ℝ)) (nfft := 2) (by decide) (by norm_num) (some [1 / 2])
    (some [1 / 3]) (fun a h => by cases h; decide) (fun b h => by cases h; decide) 5 2 7
    (by norm_num) (by norm_num) true false (fun h => by cases h) 1 (by decide)
    (by simp only [optPolyAt_some, polyAt, spec_eval, spec_eval_proc]; norm_num)
    (by simp only [optPolyAt_some, polyAt, spec_eval, spec_eval_proc]; norm_num)).1

/-! ### optimality under the solver's contract; end to end -/

/-- **the AR part minimises the modified Yule–Walker residual energy over the lags `Q+1..lag`**
(`P = Q`), under the contract of the least-squares solver: IF the coefficients `a` satisfy the normal
equations `X_cᴴ (X₁ + X_c a) = 0` of the covariance data matrix `X` of `armaLagSeq R P P lag` (what
`lstsq` promises; `arma_ar_ls_optimal_solver` discharges this for the model's own elimination), THEN for
every other `a'`, with row `i ↔ k = i+P+1`,
`Σ_k |r(k) + Σ_j a'_j r(k-1-j)|² = Σ_k |r(k) + Σ_j a_j r(k-1-j)|² + ‖X_c (a' - a)‖²`, in particular
`Σ_k |r(k) + Σ_j a_j r(k-1-j)|² ≤ Σ_k |r(k) + Σ_j a'_j r(k-1-j)|²`. -/
theorem arma_ar_ls_optimal (R : List F) (P lag : ℕ) (a a' : ℕ → F)
    (hne : LSL.NormalEq (LSL.col0 (corrmtx (armaLagSeq R P P lag) P .covariance))
      (LSL.colR (corrmtx (armaLagSeq R P P lag) P .covariance)) (lag - P) P a) :
    ∑ i ∈ range (lag - P), ‖nth R (i + P + 1) + ∑ j ∈ range P, a' j * nth R (i + P + 1 - 1 - j)‖ ^ 2
      = ∑ i ∈ range (lag - P),
          ‖nth R (i + P + 1) + ∑ j ∈ range P, a j * nth R (i + P + 1 - 1 - j)‖ ^ 2
        + ∑ i ∈ range (lag - P), ‖∑ j ∈ range P,
            mentry (corrmtx (armaLagSeq R P P lag) P .covariance) i (j + 1) * (a' j - a j)‖ ^ 2
    ∧ ∑ i ∈ range (lag - P),
          ‖nth R (i + P + 1) + ∑ j ∈ range P, a j * nth R (i + P + 1 - 1 - j)‖ ^ 2
        ≤ ∑ i ∈ range (lag - P),
          ‖nth R (i + P + 1) + ∑ j ∈ range P, a' j * nth R (i + P + 1 - 1 - j)‖ ^ 2 := by
  have key : ∀ (c : ℕ → F) (i : ℕ), i ∈ range (lag - P) →
      ‖LSL.lsRes (LSL.col0 (corrmtx (armaLagSeq R P P lag) P .covariance))
          (LSL.colR (corrmtx (armaLagSeq R P P lag) P .covariance)) P c i‖ ^ 2
        = ‖nth R (i + P + 1) + ∑ j ∈ range P, c j * nth R (i + P + 1 - 1 - j)‖ ^ 2 := by
    intro c i hi
    have h := (arma_ar_is_modified_yw R P lag c (i + (P + 1)) (Nat.le_add_left _ i)
      (Nat.add_lt_of_lt_sub (Finset.mem_range.mp hi))).2
    rw [Nat.add_sub_cancel] at h
    exact congrArg (fun v => ‖v‖ ^ 2) h
  have hp := LSL.pythagorasR hne a'
  unfold LSL.lsEnergyR at hp
  rw [Finset.sum_congr rfl (key a'), Finset.sum_congr rfl (key a)] at hp
  refine ⟨hp, ?_⟩
  rw [hp]
  exact le_add_of_nonneg_right (Finset.sum_nonneg (fun i _ => sq_nonneg _))

/-- **the AR part minimises the modified Yule–Walker residual energy, no solver hypothesis** (`P = Q`,
lawful pivot test `GJL.LawfulIsZero`; the Gauss–Jordan elimination of the model is verified in
`Proofs/Lemmas/GaussJordan.lean`): if `arma_estimate` succeeds with AR part `a`, then with `R` the unbiased
lags, for every `a'`:
`Σ_k |r(k) + Σ_j a'_j r(k-1-j)|² = Σ_k |r(k) + Σ_j a_j r(k-1-j)|² + ‖X_c (a' - a)‖²`, in particular the AR
part has the smallest residual energy over the lags `k = P+1..lag`. -/
theorem arma_ar_ls_optimal_solver [IsZero F] [GJL.LawfulIsZero F] (x : List F) (P lag : ℕ)
    (a b : List F) (rho : F) (h : armaEstimate x P P lag = .ok (a, b, rho)) (a' : ℕ → F) :
    ∑ i ∈ range (lag - P), ‖nth (correlation x x lag .unbiased 1) (i + P + 1)
        + ∑ j ∈ range P, a' j * nth (correlation x x lag .unbiased 1) (i + P + 1 - 1 - j)‖ ^ 2
      = ∑ i ∈ range (lag - P), ‖nth (correlation x x lag .unbiased 1) (i + P + 1)
          + ∑ j ∈ range P, nth a j * nth (correlation x x lag .unbiased 1) (i + P + 1 - 1 - j)‖ ^ 2
        + ∑ i ∈ range (lag - P), ‖∑ j ∈ range P,
            mentry (corrmtx (armaLagSeq (correlation x x lag .unbiased 1) P P lag) P .covariance)
              i (j + 1) * (a' j - nth a j)‖ ^ 2
    ∧ ∑ i ∈ range (lag - P), ‖nth (correlation x x lag .unbiased 1) (i + P + 1)
          + ∑ j ∈ range P, nth a j * nth (correlation x x lag .unbiased 1) (i + P + 1 - 1 - j)‖ ^ 2
        ≤ ∑ i ∈ range (lag - P), ‖nth (correlation x x lag .unbiased 1) (i + P + 1)
          + ∑ j ∈ range P, a' j * nth (correlation x x lag .unbiased 1) (i + P + 1 - 1 - j)‖ ^ 2 := by
  obtain ⟨_, _, _, ⟨e, he⟩, _⟩ := (arma_stages x P P lag a b rho).mp h
  have hn := (GJL.lsFit_sound he).1
  rw [armaLagSeq_length] at hn
  exact arma_ar_ls_optimal (correlation x x lag .unbiased 1) P lag (nth a) a' hn

/-- **end to end** (`parma` on real or complex data): if `arma_estimate` succeeds, the residual of its
AR part is not identically zero, the sampling frequency is a positive real and neither returned
polynomial vanishes at the grid point `ω^k`, then value `k` of the (unscaled) class PSD built from the
returned `(a, b, rho)` is a positive real number, equal to `c·(rho/fs)·|B(ω^k)|²/|A(ω^k)|²`. -/
theorem parma_psd_pos [IsZero F] (x : List F) (P Q lag : ℕ) (a b : List F) (rho : F)
    (h : armaEstimate x P Q lag = .ok (a, b, rho))
    (hres : ∃ i, i < x.length - P ∧
      nth x (i + P) + ∑ j ∈ range P, nth a j * nth x (i + P - j - 1) ≠ 0)
    {ω : F} {nfft : ℕ} (hP : P < nfft) (hQ : Q < nfft) (hω : ω ^ nfft = 1) (fs twoPi : F)
    (hfs : 0 < RCLike.re fs ∧ RCLike.im fs = 0) (isReal : Bool) (k : ℕ)
    (hk : k < psdLen isReal nfft) (hAk : polyAt ω a k ≠ 0) (hBk : polyAt ω b k ≠ 0) :
    nth (classPsd (arma2psd (twiddles ω nfft) (some a) (some b) rho fs nfft) isReal nfft false
          twoPi fs) k
      = (if isReal then 2 else 1)
        * (rho / fs * (polyAt ω b k * star (polyAt ω b k)) / (polyAt ω a k * star (polyAt ω a k)))
    ∧ 0 < RCLike.re (nth (classPsd (arma2psd (twiddles ω nfft) (some a) (some b) rho fs nfft)
        isReal nfft false twoPi fs) k)
    ∧ RCLike.im (nth (classPsd (arma2psd (twiddles ω nfft) (some a) (some b) rho fs nfft)
        isReal nfft false twoPi fs) k) = 0 := by
  obtain ⟨ha, hb⟩ := arma_len x P Q lag a b rho h
  have hr := arma_rho_pos x P Q lag a b rho h hres
  have hn : 0 < nfft := Nat.zero_lt_of_lt hP
  have haL : a.length < nfft := ha.trans_lt hP
  have hbL : b.length < nfft := hb.trans_lt hQ
  have hpos := psd_pos_of_no_unit_zeros hn hω (some a) (some b)
    (fun a' h' => by cases h'; exact haL) (fun b' h' => by cases h'; exact hbL) rho fs twoPi
    ⟨hr.1, hr.2.1⟩ hfs isReal false (fun h' => by cases h') k hk hAk hBk
  exact ⟨class_psd_eq_arma hn hω a b haL hbL rho fs twoPi isReal k hk,
    hpos.1, hpos.2.1⟩

end RC

/-! ### invertibility of the MA part for every `Q` (Schur–Cohn) -/

section Invertible
variable {F : Type} [RCLike F]

/-- **`ma`: invertibility, every `Q`.**  The second Levinson recursion of `maEstimate` always has all
`|k_i| < 1` (`ma_refl_lt_one`), so every zero `z` of the MA
polynomial `B(z) = z^Q + b_1 z^{Q-1} + … + b_Q` of the returned coefficients (`[1, b_1..b_Q]` handed to
`numpy.roots`, i.e. `SchurL.polyA b z`) lies strictly inside the unit circle — for any data `x`. -/
theorem ma_invertible (x : List F) (Q M : ℕ) (b : List F) (rho : F)
    (h : maEstimate x Q M = .ok (b, rho)) (z : F)
    (hz : z ^ Q + ∑ j ∈ range Q, nth b j * z ^ (Q - 1 - j) = 0) : ‖z‖ < 1 := by
  obtain ⟨_, _, rfl, _⟩ := (YuleL.ma_eq_two_yule x Q M b rho).mp h
  exact YuleL.yule_stable ((1 : F) :: (aryule x M .biased).A) (one_cons_nonzero (aryule x M .biased).A)
    Q z hz

/-- **`ma`, `Q = 1`: invertibility.**  The zero of `z + b_1` lies strictly inside the unit circle. -/
theorem ma_invertible_order1 (x : List F) (M : ℕ) (b : List F) (rho : F)
    (h : maEstimate x 1 M = .ok (b, rho)) (z : F) (hz : z + nth b 0 = 0) : ‖z‖ < 1 :=
  ma_invertible x 1 M b rho h z (by
    rw [pow_one, Finset.sum_range_one]
    show z + nth b 0 * z ^ 0 = 0
    rw [pow_zero, mul_one]
    exact hz)

/-- the same with the helper definition `SchurL.polyA b z = z^m + Σ_{j<m} b_j z^{m-1-j}` (`m` the
length of `b`): no zero on or outside the unit circle -/
theorem ma_invertible_polyA (x : List F) (Q M : ℕ) (b : List F) (rho : F)
    (h : maEstimate x Q M = .ok (b, rho)) (z : F) (hz : 1 ≤ ‖z‖) : SchurL.polyA b z ≠ 0 := by
  intro h0
  rw [SchurL.polyA_eq _ Q (YuleL.ma_length x Q M b rho h)] at h0
  exact absurd (ma_invertible x Q M b rho h z h0) (not_lt.mpr hz)

/-- the Yule–Walker polynomial of a signal that is not the zero signal does not vanish on the
frequency grid: `A(ω^k) = 1 + Σ_j a_j (ω^k)^{j+1}` with `|ω^k| = 1` (`YuleL.yule_no_unit_zeros`) -/
theorem yule_polyAt_ne_zero (y : List F) (hy : ∃ j, j < y.length ∧ nth y j ≠ 0) (p : ℕ) {ω : F}
    {nfft : ℕ} (hn : 0 < nfft) (hω : ω ^ nfft = 1) (k : ℕ) :
    polyAt ω (aryule y p .biased).A k ≠ 0 := by
  have hlen : (aryule y p .biased).A.length = p := levRun_A_length _ _ p
  rw [polyAt_eq_polyPoint, hlen]
  exact YuleL.yule_no_unit_zeros y hy p (ω ^ k) (le_of_eq (by rw [norm_pow, norm_root_eq_one hn hω, one_pow]))

/-- **`ma`: `B` does not vanish on the frequency grid**, every `Q`, any data: for an `nfft`-th root of
unity `ω`, `B(ω^k) = 1 + Σ_j b_j ω^{(j+1)k} ≠ 0`. -/
theorem ma_no_unit_zeros (x : List F) (Q M : ℕ) (b : List F) (rho : F)
    (h : maEstimate x Q M = .ok (b, rho)) {ω : F} {nfft : ℕ} (hn : 0 < nfft) (hω : ω ^ nfft = 1)
    (k : ℕ) : polyAt ω b k ≠ 0 := by
  obtain ⟨_, _, rfl, _⟩ := (YuleL.ma_eq_two_yule x Q M b rho).mp h
  exact yule_polyAt_ne_zero _ (one_cons_nonzero (aryule x M .biased).A) Q hn hω k

/-- **`pma` is strictly positive on the whole grid, every `Q`**, for every data set that is not the
zero signal. -/
theorem ma_psd_pos (x : List F) (hx : ∃ j, j < x.length ∧ nth x j ≠ 0) (Q M : ℕ) (b : List F)
    (rho : F) (h : maEstimate x Q M = .ok (b, rho)) {ω : F} {nfft : ℕ} (hn : Q < nfft)
    (hω : ω ^ nfft = 1) (fs twoPi : F) (hfs : 0 < RCLike.re fs ∧ RCLike.im fs = 0)
    (isReal : Bool) (k : ℕ) (hk : k < psdLen isReal nfft) :
    0 < RCLike.re (nth (classPsd (arma2psd (twiddles ω nfft) none (some b) rho fs nfft) isReal nfft
        false twoPi fs) k)
    ∧ RCLike.im (nth (classPsd (arma2psd (twiddles ω nfft) none (some b) rho fs nfft) isReal nfft
        false twoPi fs) k) = 0 := by
  have hlen : b.length < nfft := (YuleL.ma_length x Q M b rho h).trans_lt hn
  have hn0 : 0 < nfft := Nat.zero_lt_of_lt hn
  have hB : optPolyAt ω (some b) k ≠ 0 := by
    rw [optPolyAt_some]
    exact ma_no_unit_zeros x Q M b rho h hn0 hω k
  have h := psd_pos_of_no_unit_zeros hn0 hω none (some b) (fun a h => by cases h)
    (fun b' h => by cases h; exact hlen) rho fs twoPi (ma_rho_pos x hx Q M b rho h) hfs isReal false
    (fun h => by cases h) k hk (by simp) hB
  exact ⟨h.1, h.2.1⟩

/-- the case `Q = 1` of `ma_psd_pos` -/
theorem ma_psd_pos_order1 (x : List F) (hx : ∃ j, j < x.length ∧ nth x j ≠ 0) (M : ℕ) (b : List F)
    (rho : F) (h : maEstimate x 1 M = .ok (b, rho)) {ω : F} {nfft : ℕ} (hn : 1 < nfft)
    (hω : ω ^ nfft = 1) (fs twoPi : F) (hfs : 0 < RCLike.re fs ∧ RCLike.im fs = 0)
    (isReal : Bool) (k : ℕ) (hk : k < psdLen isReal nfft) :
    0 < RCLike.re (nth (classPsd (arma2psd (twiddles ω nfft) none (some b) rho fs nfft) isReal nfft
        false twoPi fs) k)
    ∧ RCLike.im (nth (classPsd (arma2psd (twiddles ω nfft) none (some b) rho fs nfft) isReal nfft
        false twoPi fs) k) = 0 :=
  ma_psd_pos x hx 1 M b rho h hn hω fs twoPi hfs isReal k hk

/-- **`pyule` is strictly positive and finite on the whole grid, every order**: for a non-zero
signal the Yule–Walker polynomial has no zero on the unit circle, so the AR class PSD built from
`aryule` is a positive real number at every bin. -/
theorem yule_psd_pos (x : List F) (hx : ∃ j, j < x.length ∧ nth x j ≠ 0) (p : ℕ) {ω : F} {nfft : ℕ}
    (hn : p < nfft) (hω : ω ^ nfft = 1) (fs twoPi : F)
    (hfs : 0 < RCLike.re fs ∧ RCLike.im fs = 0) (isReal : Bool) (k : ℕ)
    (hk : k < psdLen isReal nfft) :
    0 < RCLike.re (nth (classPsd (arma2psd (twiddles ω nfft) (some (aryule x p .biased).A) none
        (aryule x p .biased).P fs nfft) isReal nfft false twoPi fs) k)
    ∧ RCLike.im (nth (classPsd (arma2psd (twiddles ω nfft) (some (aryule x p .biased).A) none
        (aryule x p .biased).P fs nfft) isReal nfft false twoPi fs) k) = 0 := by
  have hlen : (aryule x p .biased).A.length < nfft := (levRun_A_length _ _ p).trans_lt hn
  have hn0 : 0 < nfft := Nat.zero_lt_of_lt hn
  have hp := YuleL.yule_stable_params x hx p
  exact ar_psd_pos hn0 hω _ hlen _ fs twoPi
    ⟨hp.2.1, RCLike.conj_eq_iff_im.mp hp.1⟩ hfs isReal k hk
    (yule_polyAt_ne_zero x hx p hn0 hω k)

section ArmaInv
variable [IsZero F]

/-- **`arma_estimate`: the MA part is invertible, every `Q`, any data.**  The MA stage is
`ma(resid, Q, 2Q)`, whose second Levinson recursion always has `|k_i| < 1`; hence every zero of
`z^Q + b_1 z^{Q-1} + … + b_Q` lies strictly inside the unit circle, and `B(ω^k) ≠ 0` on the whole
frequency grid (no residual hypothesis is needed for this part). -/
theorem arma_ma_invertible (x : List F) (P Q lag : ℕ) (a b : List F) (rho : F)
    (h : armaEstimate x P Q lag = .ok (a, b, rho)) :
    (∀ z : F, z ^ Q + ∑ j ∈ range Q, nth b j * z ^ (Q - 1 - j) = 0 → ‖z‖ < 1)
    ∧ ∀ {ω : F} {nfft : ℕ}, 0 < nfft → ω ^ nfft = 1 → ∀ k, polyAt ω b k ≠ 0 := by
  obtain ⟨_, _, _, _, hma⟩ := (arma_stages x P Q lag a b rho).mp h
  exact ⟨fun z hz => ma_invertible _ Q (2 * Q) b rho hma z hz,
    fun hn hω k => ma_no_unit_zeros _ Q (2 * Q) b rho hma hn hω k⟩

end ArmaInv

/-- non-vacuity: `ma([1,2,0,1,3], Q=2, M=3)` succeeds (`0 < Q < M`), so `ma_invertible` applies with
`Q = 2` -/
example : ∃ b rho, maEstimate ([1, 2, 0, 1, 3] : List ℝ) 2 3 = .ok (b, rho) :=
  ⟨_, _, ((YuleL.ma_eq_two_yule _ 2 3 _ _).mpr ⟨by omega, by omega, rfl, rfl⟩)⟩

end Invertible

end SpecVerif.C15
