import SpecVerif.Proofs.Lemmas.Mtm
import Mathlib.Analysis.RCLike.Basic
import Mathlib.Tactic.NormNum
/-
  C19 — `pmtm` returns, for each taper, the `NFFT`-point DFT of `taper·data`, the taper eigenvalues and
  weights that are all `1` ('unity'), `eigenvalue/(index+1)` ('eigen') or, for 'adapt', Thomson's adaptive
  weights `λ (S/(λS + σ²(1-λ)))²` at the spectrum the iteration stopped on; the `MultiTapering` class returns
  the mean over tapers of `weight·|eigenspectrum|²` (doubled and folded for real data), which is real and
  non-negative.

  `K` is any field with an involution, `ω` an `NFFT`-th root of unity (numpy's `e^{-2πi/NFFT}`), `ReOrd K`
  (the real-part comparisons of the `while` test) stays abstract.  Where an order is needed `K = ℝ`, or an
  `RCLike` field (`ℝ`, `ℂ`) with the order `0 ≤ z ↔ 0 ≤ re z ∧ im z = 0`.

  The Slepian tapers and their eigenvalues are INPUTS of the model (`taper`, `lams`): the eigen-solver is a
  C routine.  "Supplying precomputed tapers gives the same result as letting `pmtm` compute them" is
  therefore true by construction in the model (both call paths are the same function of the same
  `taper`/`lams` arguments) and has no theorem here; it is a differential test on the Python side.

  Notation of the model: `SkA[t][f] = |Sk_t[f]|²` are the squared moduli of the eigenspectra (row `t` =
  taper), `lams[t]` the eigenvalues, `nwin = lams.length`; weights are a table `W`: `nwin × 1` for
  unity/eigen (`W[t][0]`), `nfft × nwin` for adapt (`W[f][t]`).
-/
namespace SpecVerif.C19
open Finset SpecVerif SpecVerif.MtmL

variable {K : Type} [Field K]

/-- **eigenspectrum clause**: for `N ≤ NFFT` the eigenspectrum of a taper has `NFFT` bins and bin `k` is
`Σ_{j<N} taper_j x_j ω^{jk}`, the `NFFT`-point DFT of `taper·x`. -/
theorem eigenspectrum_eq {ω : K} {nfft : ℕ} (hn : 0 < nfft) (hω : ω ^ nfft = 1) (x taper : List K)
    (hN : x.length ≤ nfft) :
    (eigenspectrum (twiddles ω nfft) x taper nfft).length = nfft ∧
    ∀ k, k < nfft →
      nth (eigenspectrum (twiddles ω nfft) x taper nfft) k
        = ∑ j ∈ range x.length, (nth taper j * nth x j) * ω ^ (j * k) :=
  ⟨eigenspectrum_length _ x taper nfft, fun _ hk => nth_eigenspectrum hn hω x taper hN hk⟩

/-- non-vacuity: `K = ℚ`, `ω = -1`, `NFFT = 2`, data `[3, 5]`, taper `[2, 7]`: bins `6 + 35`, `6 - 35`. -/
example : eigenspectrum (twiddles (-1 : ℚ) 2) [3, 5] [2, 7] 2 = [41, -29] := by
  decide +kernel

section Weights
variable [StarRing K] [ReOrd K]

/-- **unity**: one weight `1` per taper -/
theorem weights_unity (x lams : List K) (SkA : List (List K)) (nfft : ℕ) (tolc : K) :
    pmtmWeights .unity x lams SkA nfft tolc = vec lams.length (fun _ => [1]) :=
  pmtmWeights_unity x lams SkA nfft tolc

/-- **eigen**: the weight of taper `i` is `λ_i/(i+1)` -/
theorem weights_eigen (x lams : List K) (SkA : List (List K)) (nfft : ℕ) (tolc : K) :
    pmtmWeights .eigen x lams SkA nfft tolc
        = vec lams.length (fun i => [nth lams i / ((i : K) + 1)]) ∧
    ∀ i, i < lams.length →
      (pmtmWeights .eigen x lams SkA nfft tolc).getD i [] = [nth lams i / ((i : K) + 1)] := by
  refine ⟨pmtmWeights_eigen x lams SkA nfft tolc, fun i hi => ?_⟩
  rw [pmtmWeights_eigen, getD_vec_lt _ hi]

/-- unity/eigen weights are an `nwin × 1` table -/
theorem weights_shape_taper (m : MtMethod) (hm : m ≠ .adapt) (x lams : List K)
    (SkA : List (List K)) (nfft : ℕ) (tolc : K) :
    (pmtmWeights m x lams SkA nfft tolc).length = lams.length ∧
    ∀ i, i < lams.length → ((pmtmWeights m x lams SkA nfft tolc).getD i []).length = 1 := by
  cases m with
  | adapt => exact absurd rfl hm
  | unity =>
    rw [pmtmWeights_unity]
    exact ⟨vec_length _ _, fun i hi => by rw [getD_vec_lt _ hi]; rfl⟩
  | eigen =>
    rw [pmtmWeights_eigen]
    exact ⟨vec_length _ _, fun i hi => by rw [getD_vec_lt _ hi]; rfl⟩

/-- adapt weights are an `nfft × nwin` table (the loop keeps the shape of `wk`) -/
theorem weights_shape_adapt (x lams : List K) (SkA : List (List K)) (nfft : ℕ) (tolc : K) :
    (pmtmWeights .adapt x lams SkA nfft tolc).length = nfft ∧
    ∀ f, f < nfft → ((pmtmWeights .adapt x lams SkA nfft tolc).getD f []).length = lams.length := by
  rw [pmtmWeights_adapt]
  exact adaptLoop_shape SkA lams _ _ nfft lams.length 99 _ (wkShape_vec nfft lams.length _)

end Weights

/-- **one pass** of the loop started at `st`: the new weights are Thomson's formula
`λ_t (S/(λ_t S + σ²(1-λ_t)))²` at `S = st.S[f]`, the new estimate is the mean of the `|Sk_t[f]|²` weighted by
the new weights, the old estimate is kept in `S1`, the counter is incremented. -/
theorem adapt_step_formula (Sk : List (List K)) (lams : List K) (sig2 : K) (nfft nwin : ℕ)
    (st : AdaptState K) :
    (∀ f, f < nfft → ∀ t, t < nwin →
      nth ((adaptStep Sk lams sig2 nfft nwin st).wk.getD f []) t
        = nth lams t * (nth st.S f / (nth lams t * nth st.S f + sig2 * (1 - nth lams t))) ^ 2) ∧
    (∀ f, f < nfft →
      nth (adaptStep Sk lams sig2 nfft nwin st).S f
        = (∑ t ∈ range nwin,
              nth ((adaptStep Sk lams sig2 nfft nwin st).wk.getD f []) t * nth (Sk.getD t []) f)
            / ∑ t ∈ range nwin, nth ((adaptStep Sk lams sig2 nfft nwin st).wk.getD f []) t) ∧
    (adaptStep Sk lams sig2 nfft nwin st).S1 = st.S ∧
    (adaptStep Sk lams sig2 nfft nwin st).i = st.i + 1 := by
  refine ⟨fun f hf t ht => ?_, fun f hf => adaptStep_S_entry Sk lams sig2 nfft nwin st hf, rfl, rfl⟩
  rw [adaptStep_wk_entry Sk lams sig2 nfft nwin st hf ht, adaptWeight_eq]

section Loop
variable [ReOrd K]

/-- **the `while` loop**: `adaptLoop` with fuel `n` returns the `k`-th iterate of `adaptStep` where `k ≤ n`
is the first index at which the test `Σ_f|S[f]-S1[f]|/NFFT > tol` fails, or `k = n` when it never fails
(the bound of the code: `pmtm` runs one unconditional pass and then this loop with fuel 99, `i < 100`); the test
held at all earlier iterates. -/
theorem adapt_loop_iterate (Sk : List (List K)) (lams : List K) (sig2 tol : K) (nfft nwin fuel : ℕ)
    (st0 : AdaptState K) :
    ∃ k, k ≤ fuel ∧
      adaptLoop Sk lams sig2 tol nfft nwin fuel st0 = (adaptStep Sk lams sig2 nfft nwin)^[k] st0 ∧
      (∀ j, j < k →
        reGt ((∑ f ∈ range nfft,
            absRe (nth ((adaptStep Sk lams sig2 nfft nwin)^[j] st0).S f
              - nth ((adaptStep Sk lams sig2 nfft nwin)^[j] st0).S1 f)) / (nfft : K)) tol = true) ∧
      (k = fuel ∨
        reGt ((∑ f ∈ range nfft,
            absRe (nth ((adaptStep Sk lams sig2 nfft nwin)^[k] st0).S f
              - nth ((adaptStep Sk lams sig2 nfft nwin)^[k] st0).S1 f)) / (nfft : K)) tol = false) :=
  adaptLoop_iterate Sk lams sig2 tol nfft nwin fuel st0

/-- **invariant of the loop**: if the start state either has not run yet (`i = 0`) or has weights equal
to Thomson's formula at its `S1` and `S` equal to the mean of the `|Sk_t|²` with those weights, then so
has the returned state: the returned weights are the formula evaluated at the spectrum `S1` of the LAST
evaluation (the one the loop stopped on or ran out of fuel on), and the returned `S` is
`Σ_t wk[f][t]·SkA[t][f] / Σ_t wk[f][t]` with exactly those weights. -/
theorem weights_adapt_formula (Sk : List (List K)) (lams : List K) (sig2 tol : K)
    (nfft nwin fuel : ℕ) (st0 : AdaptState K)
    (h0 : st0.i = 0 ∨
      ((∀ f, f < nfft → ∀ t, t < nwin →
          nth (st0.wk.getD f []) t = adaptWeight (nth lams t) sig2 (nth st0.S1 f)) ∧
       (∀ f, f < nfft →
          nth st0.S f = (∑ t ∈ range nwin, nth (st0.wk.getD f []) t * nth (Sk.getD t []) f)
            / ∑ t ∈ range nwin, nth (st0.wk.getD f []) t))) :
    (adaptLoop Sk lams sig2 tol nfft nwin fuel st0).i = 0 ∨
      ((∀ f, f < nfft → ∀ t, t < nwin →
          nth ((adaptLoop Sk lams sig2 tol nfft nwin fuel st0).wk.getD f []) t
            = adaptWeight (nth lams t) sig2
                (nth (adaptLoop Sk lams sig2 tol nfft nwin fuel st0).S1 f)) ∧
       (∀ f, f < nfft →
          nth (adaptLoop Sk lams sig2 tol nfft nwin fuel st0).S f
            = (∑ t ∈ range nwin,
                  nth ((adaptLoop Sk lams sig2 tol nfft nwin fuel st0).wk.getD f []) t
                    * nth (Sk.getD t []) f)
              / ∑ t ∈ range nwin,
                  nth ((adaptLoop Sk lams sig2 tol nfft nwin fuel st0).wk.getD f []) t)) :=
  adaptLoop_induct Sk lams sig2 tol nfft nwin (fun st => st.i = 0 ∨ AdaptInv Sk lams sig2 nfft nwin st)
    (fun st _ => Or.inr (adaptInv_step Sk lams sig2 nfft nwin st)) fuel st0 h0

/-- **the loop stops**: the counter advanced by the number `k ≤ fuel` of passes, and either the fuel is
exhausted (`k = fuel`; in `pmtm` fuel 99 after the unconditional first pass, the code's `i < 100` bound) or the
stopping test fails at the returned state. -/
theorem weights_adapt_stop (Sk : List (List K)) (lams : List K) (sig2 tol : K) (nfft nwin fuel : ℕ)
    (st0 : AdaptState K) :
    (adaptLoop Sk lams sig2 tol nfft nwin fuel st0).i ≤ st0.i + fuel ∧
    st0.i ≤ (adaptLoop Sk lams sig2 tol nfft nwin fuel st0).i ∧
    ((adaptLoop Sk lams sig2 tol nfft nwin fuel st0).i = st0.i + fuel ∨
      reGt ((∑ f ∈ range nfft,
          absRe (nth (adaptLoop Sk lams sig2 tol nfft nwin fuel st0).S f
            - nth (adaptLoop Sk lams sig2 tol nfft nwin fuel st0).S1 f)) / (nfft : K)) tol = false) := by
  obtain ⟨k, hk, heq, _, hstop⟩ := adaptLoop_iterate Sk lams sig2 tol nfft nwin fuel st0
  rw [heq, iterate_adaptStep_i]
  refine ⟨by omega, by omega, ?_⟩
  rcases hstop with h | h
  · exact Or.inl (by rw [h])
  · exact Or.inr h

variable [StarRing K]

/-- **`pmtm(method='adapt')`** (the loop `while (i == 0 or Σ|S-S1|/NFFT > tol) and i < 100`): with
`σ² = adaptSig2 x = Σ_j x_j·conj x_j / N` (by definition), `tol = tolc·σ²/NFFT` and the start state
`S = (SkA[0]+SkA[1])/2`, `S1 = 0`, `wk[f][t] = λ_t`, `i = 0`, the returned weights are `st.wk` for the state `st`
reached by ONE UNCONDITIONAL pass followed by the conditional loop (fuel 99), and
* AT LEAST ONE AND AT MOST 100 passes were made: `1 ≤ st.i ≤ 100`, and `st.i = 100` or the stopping test fails
  at `st`;
* ALWAYS — the returned weights are never the start values (the eigenvalues) —
  `W[f][t] = λ_t (S1[f]/(λ_t S1[f] + σ²(1-λ_t)))²`, Thomson's formula at `S1`, the spectrum the last pass
  started from, and `st.S[f] = Σ_t W[f][t]·SkA[t][f] / Σ_t W[f][t]`;
* after exactly one pass `S1` is the start estimate `(SkA[0]+SkA[1])/2`. -/
theorem weights_adapt_pmtm (x lams : List K) (SkA : List (List K)) (nfft : ℕ) (tolc : K) :
    ∃ st : AdaptState K,
      st = adaptLoop SkA lams (adaptSig2 x) (tolc * adaptSig2 x / (nfft : K)) nfft lams.length 99
            (adaptStep SkA lams (adaptSig2 x) nfft lams.length (adaptInit lams SkA nfft)) ∧
      pmtmWeights .adapt x lams SkA nfft tolc = st.wk ∧
      1 ≤ st.i ∧ st.i ≤ 100 ∧
      (st.i = 100 ∨
        reGt ((∑ f ∈ range nfft, absRe (nth st.S f - nth st.S1 f)) / (nfft : K))
          (tolc * adaptSig2 x / (nfft : K)) = false) ∧
      ((∀ f, f < nfft → ∀ t, t < lams.length →
          nth (st.wk.getD f []) t
            = nth lams t
              * (nth st.S1 f / (nth lams t * nth st.S1 f + adaptSig2 x * (1 - nth lams t))) ^ 2) ∧
        (∀ f, f < nfft →
          nth st.S f = (∑ t ∈ range lams.length, nth (st.wk.getD f []) t * nth (SkA.getD t []) f)
            / ∑ t ∈ range lams.length, nth (st.wk.getD f []) t)) ∧
      (st.i = 1 → ∀ f, f < nfft →
        nth st.S1 f = (nth (SkA.getD 0 []) f + nth (SkA.getD 1 []) f) / 2) := by
  obtain ⟨k, h1, h100, heq, -, hlast⟩ := adaptLoop_step_iterate SkA lams (adaptSig2 x)
    (tolc * adaptSig2 x / (nfft : K)) nfft lams.length 99 (adaptInit lams SkA nfft)
  -- the returned state is pass `k' + 1` applied to the state after `k'` passes
  obtain ⟨k', rfl⟩ := Nat.exists_eq_add_of_le' h1
  have hi : ((adaptStep SkA lams (adaptSig2 x) nfft lams.length)^[k' + 1] (adaptInit lams SkA nfft)).i
      = k' + 1 := by rw [iterate_adaptStep_i]; exact Nat.zero_add _
  refine ⟨_, rfl, pmtmWeights_adapt x lams SkA nfft tolc, ?_⟩
  rw [heq, hi]
  refine ⟨h1, h100, hlast, ?_, ?_⟩
  · rw [Function.iterate_succ_apply']
    have h := adaptInv_step SkA lams (adaptSig2 x) nfft lams.length
      ((adaptStep SkA lams (adaptSig2 x) nfft lams.length)^[k'] (adaptInit lams SkA nfft))
    exact ⟨fun f hf t ht => by rw [h.1 f hf t ht, adaptWeight_eq], h.2⟩
  · intro hk f hf
    obtain rfl : k' = 0 := Nat.succ_injective hk
    exact adaptInit_S_entry lams SkA hf

/-- **number of passes of `pmtm(method='adapt')`**: the returned weights are those of the `k`-th iterate of the
pass map from the start state for some `1 ≤ k ≤ 100`; the stopping test held after each of the passes
`1, …, k-1` (it is NOT consulted before the first pass), and either `k = 100` or it fails after pass `k`. -/
theorem weights_adapt_pmtm_passes (x lams : List K) (SkA : List (List K)) (nfft : ℕ) (tolc : K) :
    ∃ k, 1 ≤ k ∧ k ≤ 100 ∧
      pmtmWeights .adapt x lams SkA nfft tolc
        = ((adaptStep SkA lams (adaptSig2 x) nfft lams.length)^[k] (adaptInit lams SkA nfft)).wk ∧
      (∀ j, 1 ≤ j → j < k →
        reGt ((∑ f ∈ range nfft,
            absRe (nth ((adaptStep SkA lams (adaptSig2 x) nfft lams.length)^[j] (adaptInit lams SkA nfft)).S f
              - nth ((adaptStep SkA lams (adaptSig2 x) nfft lams.length)^[j] (adaptInit lams SkA nfft)).S1 f))
            / (nfft : K)) (tolc * adaptSig2 x / (nfft : K)) = true) ∧
      (k = 100 ∨
        reGt ((∑ f ∈ range nfft,
            absRe (nth ((adaptStep SkA lams (adaptSig2 x) nfft lams.length)^[k] (adaptInit lams SkA nfft)).S f
              - nth ((adaptStep SkA lams (adaptSig2 x) nfft lams.length)^[k] (adaptInit lams SkA nfft)).S1 f))
            / (nfft : K)) (tolc * adaptSig2 x / (nfft : K)) = false) := by
  obtain ⟨k, h1, h100, heq, hall, hlast⟩ := adaptLoop_step_iterate SkA lams (adaptSig2 x)
    (tolc * adaptSig2 x / (nfft : K)) nfft lams.length 99 (adaptInit lams SkA nfft)
  exact ⟨k, h1, h100, by rw [pmtmWeights_adapt, heq], hall, hlast⟩

end Loop

/-- non-vacuity (`K = ℚ`, real-part tests `≤`, `>`): data `[1, 1]` (`σ² = 1`), eigenvalues `[1/2, 1/4]`,
`SkA = [[1, 2], [3, 4]]`, `NFFT = 2`, start estimate `[2, 3]`.  With `tolc = 100` (`tol = 50`) the start estimate `5/2`
is below the tolerance, yet the first pass is made (the test is not consulted before it):
`W[0][0] = (1/2)·(2/(1 + 1/2))² = 8/9`, not the eigenvalue `1/2`; the loop stops after it (new estimate
`[79/43, 50/17]`, change `≈ 0.11`).  With `tolc = 4` the same single pass.  With `tolc = 1/5` (`tol = 1/10 < 0.11`) a
second pass: Thomson's formula at `[79/43, 50/17]`, e.g. `W[0][0] = 6241/7442`. -/
example :
    letI : ReOrd ℚ := ⟨fun a => a ≤ 0, fun a b => a > b⟩
    pmtmWeights .adapt ([1, 1] : List ℚ) [1 / 2, 1 / 4] [[1, 2], [3, 4]] 2 100
        = [[8 / 9, 16 / 25], [9 / 8, 1]] ∧
    pmtmWeights .adapt ([1, 1] : List ℚ) [1 / 2, 1 / 4] [[1, 2], [3, 4]] 2 4
        = [[8 / 9, 16 / 25], [9 / 8, 1]] ∧
    pmtmWeights .adapt ([1, 1] : List ℚ) [1 / 2, 1 / 4] [[1, 2], [3, 4]] 2 (1 / 5)
        = [[6241 / 7442, 6241 / 10816], [5000 / 4489, 10000 / 10201]] := by
  decide +kernel

/-- **bounds**: for an eigenvalue `0 < λ ≤ 1`, a spectrum value `s ≥ 0` and data power `σ² ≥ 0`, whenever
the denominator `λ s + σ²(1-λ)` is positive, Thomson's weight lies in `[0, 1/λ]`
(`b = s/(λs+σ²(1-λ)) ≤ 1/λ`, so `λ b² ≤ 1/λ`).
Edge case: for `λ = 1` and `s = 0` the denominator is `0` whatever `σ²` is; numpy returns
`nan` there while Lean's `0/0 = 0` would give weight `0`; the hypothesis `hD` excludes it. -/
theorem weights_adapt_bounds {lam sig2 s : ℝ} (hl0 : 0 < lam) (hl1 : lam ≤ 1) (hs : 0 ≤ s)
    (hsig : 0 ≤ sig2) (hD : 0 < s * lam + sig2 * (1 - lam)) :
    0 ≤ adaptWeight lam sig2 s ∧ adaptWeight lam sig2 s ≤ 1 / lam :=
  adaptWeight_bounds hl0 hl1 hs hsig hD

/-- the denominator is positive when the spectrum value is positive, or when `λ < 1` and `σ² > 0` -/
theorem weights_adapt_den_pos {lam sig2 s : ℝ} (hl0 : 0 < lam) (hl1 : lam ≤ 1) (hs : 0 ≤ s)
    (hsig : 0 ≤ sig2) (h : 0 < s ∨ (lam < 1 ∧ 0 < sig2)) : 0 < s * lam + sig2 * (1 - lam) := by
  rcases h with h | ⟨h1, h2⟩
  · exact add_pos_of_pos_of_nonneg (mul_pos h hl0) (mul_nonneg hsig (sub_nonneg.mpr hl1))
  · exact adaptDen_pos_of_lam hl0.le h1 hs h2

/-- non-vacuity: `λ = 1/2`, `σ² = 1`, `s = 1`: denominator `1`, weight `1/2 ∈ [0, 2]` -/
example : adaptWeight (1 / 2 : ℝ) 1 1 = 1 / 2 ∧ (0 : ℝ) < 1 * (1 / 2) + 1 * (1 - 1 / 2) := by
  unfold adaptWeight
  norm_num

/-- the excluded edge: at `λ = 1`, `s = 0` the denominator vanishes for every `σ²` -/
example (sig2 : ℝ) : (0 : ℝ) * 1 + sig2 * (1 - 1) = 0 := by norm_num

/-- **bounds for `pmtm(method='adapt')`** over `ℝ` (any real-part test `ReOrd ℝ`): with at least two
tapers, eigenvalues in `(0, 1)`, non-negative `|Sk_t[f]|²` and positive data power, every returned weight
`W[f][t]` lies in `[0, 1/λ_t]`, however many passes the loop made. -/
theorem weights_adapt_bounds_pmtm [ReOrd ℝ] (x lams : List ℝ) (SkA : List (List ℝ)) (nfft : ℕ)
    (tolc : ℝ) (h2 : 2 ≤ lams.length)
    (hl : ∀ t, t < lams.length → 0 < nth lams t ∧ nth lams t < 1)
    (hSk : ∀ t, t < lams.length → ∀ f, f < nfft → 0 ≤ nth (SkA.getD t []) f)
    (hsig : 0 < (∑ j ∈ range x.length, nth x j * star (nth x j)) / (x.length : ℝ)) :
    ∀ f, f < nfft → ∀ t, t < lams.length →
      0 ≤ nth ((pmtmWeights .adapt x lams SkA nfft tolc).getD f []) t ∧
      nth ((pmtmWeights .adapt x lams SkA nfft tolc).getD f []) t ≤ 1 / nth lams t := by
  rw [pmtmWeights_adapt]
  exact (adaptLoop_induct SkA lams _ _ nfft lams.length (AdaptPos lams nfft lams.length)
    (adaptPos_step SkA lams nfft lams.length hl hsig hSk) 99 _
    (adaptPos_step SkA lams nfft lams.length hl hsig hSk _
      (adaptPos_init lams SkA nfft (fun t ht => ⟨(hl t ht).1, (hl t ht).2.le⟩) h2 hSk))).2

/-- `MultiTapering` computes `NFFT` values before folding -/
theorem class_mean_length (m : MtMethod) (SkA W : List (List K)) (nfft nwin : ℕ) :
    (mtMean m SkA W nfft nwin).length = nfft :=
  mtMean_length m SkA W nfft nwin

/-- **class mean, unity/eigen** (weights `nwin × 1`, broadcast over the frequencies): entry `f` is
`(Σ_{t<nwin} W[t][0]·SkA[t][f]) / nwin` -/
theorem class_mean_taper (m : MtMethod) (hm : m ≠ .adapt) (SkA W : List (List K)) {nfft : ℕ}
    (nwin : ℕ) {f : ℕ} (hf : f < nfft) :
    nth (mtMean m SkA W nfft nwin) f
      = (∑ t ∈ range nwin, nth (W.getD t []) 0 * nth (SkA.getD t []) f) / (nwin : K) :=
  nth_mtMean_taper m hm SkA W nwin hf

/-- **class mean, adapt** (weights `nfft × nwin`, transposed in the code): entry `f` is
`(Σ_{t<nwin} W[f][t]·SkA[t][f]) / nwin` -/
theorem class_mean_adapt (SkA W : List (List K)) {nfft : ℕ} (nwin : ℕ) {f : ℕ} (hf : f < nfft) :
    nth (mtMean .adapt SkA W nfft nwin) f
      = (∑ t ∈ range nwin, nth (W.getD f []) t * nth (SkA.getD t []) f) / (nwin : K) :=
  nth_mtMean_adapt SkA W nwin hf

section MeanWeights
variable [StarRing K] [ReOrd K]

/-- with the 'unity' weights of `pmtm` the class value is the plain mean of the `|Sk_t[f]|²` -/
theorem class_mean_unity (x lams : List K) (SkA : List (List K)) {nfft : ℕ} (tolc : K) {f : ℕ}
    (hf : f < nfft) :
    nth (mtMean .unity SkA (pmtmWeights .unity x lams SkA nfft tolc) nfft lams.length) f
      = (∑ t ∈ range lams.length, nth (SkA.getD t []) f) / (lams.length : K) := by
  rw [nth_mtMean_taper .unity (by decide) _ _ _ hf]
  refine congrArg (· / (lams.length : K)) (Finset.sum_congr rfl ?_)
  intro t ht
  rw [nth_pmtmWeights_unity x lams SkA nfft tolc (mem_range.mp ht), one_mul]

/-- with the 'eigen' weights of `pmtm` the class value is `(Σ_t λ_t/(t+1)·|Sk_t[f]|²)/nwin` -/
theorem class_mean_eigen (x lams : List K) (SkA : List (List K)) {nfft : ℕ} (tolc : K) {f : ℕ}
    (hf : f < nfft) :
    nth (mtMean .eigen SkA (pmtmWeights .eigen x lams SkA nfft tolc) nfft lams.length) f
      = (∑ t ∈ range lams.length, nth lams t / ((t : K) + 1) * nth (SkA.getD t []) f)
          / (lams.length : K) := by
  rw [nth_mtMean_taper .eigen (by decide) _ _ _ hf]
  refine congrArg (· / (lams.length : K)) (Finset.sum_congr rfl ?_)
  intro t ht
  rw [nth_pmtmWeights_eigen x lams SkA nfft tolc (mem_range.mp ht)]

end MeanWeights

/-- **sign, real data** (`K = ℝ`): non-negative weights and non-negative `|Sk_t[f]|²` give a non-negative
class mean, for both weight layouts. -/
theorem psd_nonneg (m : MtMethod) (SkA W : List (List ℝ)) {nfft nwin : ℕ}
    (hW : ∀ f, f < nfft → ∀ t, t < nwin →
      0 ≤ (match m with
            | .adapt => nth (W.getD f []) t
            | _ => nth (W.getD t []) 0))
    (hS : ∀ t, t < nwin → ∀ f, f < nfft → 0 ≤ nth (SkA.getD t []) f) :
    ∀ f, f < nfft → 0 ≤ nth (mtMean m SkA W nfft nwin) f :=
  fun f hf => nth_mtMean_nonneg m SkA W hf (hW f hf) (fun t ht => hS t ht f hf)

/-- folding, doubling and scaling by a non-negative factor keep non-negative values non-negative.  A partial order on
purpose: `ℝ`, and an `RCLike` field with `ComplexOrder` (`class_psd_nonneg_rclike`). -/
theorem nth_classPsd_nonneg {R : Type} [Field R] [PartialOrder R] [IsStrictOrderedRing R] (raw : List R)
    (h0 : ∀ k, 0 ≤ nth raw k) (isReal : Bool) (nfft : ℕ) (s : Bool) (twoPi fs : R)
    (hc : s = true → 0 ≤ twoPi / (fs / (nfft : R))) (k : ℕ) :
    0 ≤ nth (classPsd raw isReal nfft s twoPi fs) k := by
  rw [classPsd_eq, nth_scalePsd]
  refine mul_nonneg ?_ ?_
  · cases isReal
    · exact h0 k
    · rw [if_pos rfl, nth_foldReal]
      by_cases hk : k < nfft / 2 + 1
      · rw [if_pos hk]
        exact mul_nonneg zero_le_two (h0 k)
      · rw [if_neg hk]
  · cases s
    · exact zero_le_one
    · exact hc rfl

/-- **sign of the class PSD** (`K = ℝ`): if the `NFFT` raw values are non-negative then so is every
returned value of `classPsd` (folded and doubled for real data, scaled by `2π/df` when `scale_by_freq`),
provided the scale factor `2π/df` is non-negative when it is used. -/
theorem class_psd_nonneg (raw : List ℝ) {nfft : ℕ} (_hn : 0 < nfft) (hraw : raw.length = nfft)
    (h0 : ∀ f, f < nfft → 0 ≤ nth raw f) (isReal s : Bool) (twoPi fs : ℝ)
    (hc : s = true → 0 ≤ twoPi / (fs / (nfft : ℝ))) (k : ℕ)
    (_hk : k < (classPsd raw isReal nfft s twoPi fs).length) :
    0 ≤ nth (classPsd raw isReal nfft s twoPi fs) k := by
  refine nth_classPsd_nonneg raw (fun j => ?_) isReal nfft s twoPi fs hc k
  by_cases hj : j < nfft
  · exact h0 j hj
  · rw [nth_of_ge raw j (hraw ▸ not_lt.mp hj)]

/-- the two together: the values `MultiTapering` returns are non-negative -/
theorem class_psd_mt_nonneg (m : MtMethod) (SkA W : List (List ℝ)) {nfft nwin : ℕ} (hn : 0 < nfft)
    (hW : ∀ f, f < nfft → ∀ t, t < nwin →
      0 ≤ (match m with
            | .adapt => nth (W.getD f []) t
            | _ => nth (W.getD t []) 0))
    (hS : ∀ t, t < nwin → ∀ f, f < nfft → 0 ≤ nth (SkA.getD t []) f)
    (isReal s : Bool) (twoPi fs : ℝ) (hc : s = true → 0 ≤ twoPi / (fs / (nfft : ℝ))) (k : ℕ)
    (hk : k < (classPsd (mtMean m SkA W nfft nwin) isReal nfft s twoPi fs).length) :
    0 ≤ nth (classPsd (mtMean m SkA W nfft nwin) isReal nfft s twoPi fs) k :=
  class_psd_nonneg _ hn (mtMean_length m SkA W nfft nwin) (psd_nonneg m SkA W hW hS) isReal s twoPi
    fs hc k hk

/-- with the weights `pmtm` itself returns: 'unity' needs nothing beyond `|Sk_t[f]|² ≥ 0` -/
theorem psd_nonneg_pmtm_unity [ReOrd ℝ] (x lams : List ℝ) (SkA : List (List ℝ)) {nfft : ℕ} (tolc : ℝ)
    (hS : ∀ t, t < lams.length → ∀ f, f < nfft → 0 ≤ nth (SkA.getD t []) f) :
    ∀ f, f < nfft →
      0 ≤ nth (mtMean .unity SkA (pmtmWeights .unity x lams SkA nfft tolc) nfft lams.length) f := by
  intro f hf
  rw [class_mean_unity x lams SkA tolc hf]
  exact div_nonneg (Finset.sum_nonneg (fun t ht => hS t (mem_range.mp ht) f hf)) (Nat.cast_nonneg _)

/-- 'eigen' needs non-negative eigenvalues -/
theorem psd_nonneg_pmtm_eigen [ReOrd ℝ] (x lams : List ℝ) (SkA : List (List ℝ)) {nfft : ℕ} (tolc : ℝ)
    (hl : ∀ t, t < lams.length → 0 ≤ nth lams t)
    (hS : ∀ t, t < lams.length → ∀ f, f < nfft → 0 ≤ nth (SkA.getD t []) f) :
    ∀ f, f < nfft →
      0 ≤ nth (mtMean .eigen SkA (pmtmWeights .eigen x lams SkA nfft tolc) nfft lams.length) f := by
  intro f hf
  rw [class_mean_eigen x lams SkA tolc hf]
  refine div_nonneg (Finset.sum_nonneg (fun t ht => ?_)) (Nat.cast_nonneg _)
  have ht' := mem_range.mp ht
  exact mul_nonneg (div_nonneg (hl t ht') (add_nonneg (Nat.cast_nonneg _) zero_le_one)) (hS t ht' f hf)

/-- 'adapt' under the hypotheses of `weights_adapt_bounds_pmtm` -/
theorem psd_nonneg_pmtm_adapt [ReOrd ℝ] (x lams : List ℝ) (SkA : List (List ℝ)) {nfft : ℕ} (tolc : ℝ)
    (h2 : 2 ≤ lams.length) (hl : ∀ t, t < lams.length → 0 < nth lams t ∧ nth lams t < 1)
    (hS : ∀ t, t < lams.length → ∀ f, f < nfft → 0 ≤ nth (SkA.getD t []) f)
    (hsig : 0 < (∑ j ∈ range x.length, nth x j * star (nth x j)) / (x.length : ℝ)) :
    ∀ f, f < nfft →
      0 ≤ nth (mtMean .adapt SkA (pmtmWeights .adapt x lams SkA nfft tolc) nfft lams.length) f :=
  psd_nonneg .adapt SkA _
    (fun f hf t ht => (weights_adapt_bounds_pmtm x lams SkA nfft tolc h2 hl hS hsig f hf t ht).1) hS

section Complex
open scoped ComplexOrder
variable {F : Type} [RCLike F]

/-- **sign, complex data** (`F = ℂ`, or any `RCLike` field): if the table `SkA` really holds squared
moduli `z·conj z` and the weights are real and non-negative (`0 ≤ re w`, `im w = 0`), every class mean is
real and non-negative. -/
theorem psd_nonneg_rclike (m : MtMethod) (SkA W : List (List F)) {nfft nwin : ℕ}
    (hW : ∀ f, f < nfft → ∀ t, t < nwin →
      (0 ≤ RCLike.re (match m with
            | .adapt => nth (W.getD f []) t
            | _ => nth (W.getD t []) 0) ∧
       RCLike.im (match m with
            | .adapt => nth (W.getD f []) t
            | _ => nth (W.getD t []) 0) = 0))
    (hS : ∀ t, t < nwin → ∀ f, f < nfft → ∃ z : F, nth (SkA.getD t []) f = z * star z) :
    ∀ f, f < nfft →
      0 ≤ RCLike.re (nth (mtMean m SkA W nfft nwin) f) ∧
        RCLike.im (nth (mtMean m SkA W nfft nwin) f) = 0 := by
  intro f hf
  rw [← RCLike.nonneg_iff]
  refine nth_mtMean_nonneg m SkA W hf (fun t ht => RCLike.nonneg_iff.mpr (hW f hf t ht)) ?_
  intro t ht
  obtain ⟨z, hz⟩ := hS t ht f hf
  rw [hz]
  exact mul_star_self_nonneg z

/-- **sign of the class PSD, complex data**: if the raw values are real and non-negative, so are the
returned ones when the scale factor `2π/df` (if used) is real and non-negative. -/
theorem class_psd_nonneg_rclike (raw : List F)
    (h0 : ∀ f, f < raw.length → 0 ≤ RCLike.re (nth raw f) ∧ RCLike.im (nth raw f) = 0)
    (isReal s : Bool) (nfft : ℕ) (twoPi fs : F)
    (hc : s = true → 0 ≤ RCLike.re (twoPi / (fs / (nfft : F))) ∧
      RCLike.im (twoPi / (fs / (nfft : F))) = 0) (k : ℕ)
    (_hk : k < (classPsd raw isReal nfft s twoPi fs).length) :
    0 ≤ RCLike.re (nth (classPsd raw isReal nfft s twoPi fs) k) ∧
      RCLike.im (nth (classPsd raw isReal nfft s twoPi fs) k) = 0 := by
  rw [← RCLike.nonneg_iff]
  refine nth_classPsd_nonneg raw (fun j => ?_) isReal nfft s twoPi fs
    (fun hs => RCLike.nonneg_iff.mpr (hc hs)) k
  by_cases hj : j < raw.length
  · exact RCLike.nonneg_iff.mpr (h0 j hj)
  · rw [nth_of_ge raw j (not_lt.mp hj)]

end Complex

/-! amplitude scaling: the next two belong to property C03 -/

/-- **eigenspectra are homogeneous**: scaling the data by `c` scales every eigenspectrum by `c`
(any twiddle table) -/
theorem mt_scale (tw x taper : List K) (nfft : ℕ) (c : K) :
    eigenspectrum tw (x.map (fun v => c * v)) taper nfft
      = (eigenspectrum tw x taper nfft).map (fun v => c * v) :=
  eigenspectrum_smul tw x taper nfft c

/-- **adaptive weights are scale-free**: scaling the spectrum value and the data power by the same
`c ≠ 0` (what `x ↦ a·x` does with `c = |a|²`) leaves Thomson's weight unchanged -/
theorem mt_scale_weight (lam sig2 s c : K) (hc : c ≠ 0) :
    adaptWeight lam (c * sig2) (c * s) = adaptWeight lam sig2 s :=
  adaptWeight_scale lam sig2 s c hc

end SpecVerif.C19
