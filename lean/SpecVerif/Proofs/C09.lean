import SpecVerif.Proofs.Lemmas.Correlation
import SpecVerif.Proofs.Lemmas.Norm
import Mathlib.Analysis.Complex.Basic
import SpecVerif.Proofs.Lemmas.CRatField
/-
  C09 — the correlation function (`CORRELATION`, `xcorr`) and the data matrix `corrmtx`.

  `K` is any field with an involution (`ℂ` with `star = conj` in particular); the order-dependent
  clauses (`r[0] ≥ |r[k]|`, positive semi-definiteness) are stated for `ℂ`.

  Remark on divisors: the definition clauses are equalities of quotients with the *same* divisor on
  both sides (`n`, `n-k`, or `rms2`), so they need no non-vanishing hypothesis; every clause whose
  truth would depend on a divisor being non-zero (`correlation_coeff_eq_ratio`, `xcorr_coeff_lag0`,
  `gram_autocorr`, `toeplitz_quadratic_form`, `toeplitz_psd`, `r0_ge_abs_rk`) states that hypothesis explicitly.
-/
namespace SpecVerif.C09
open Finset SpecVerif

section Generic
variable {K : Type} [Field K] [StarRing K]

/-- `CORRELATION` returns lags `0..maxlags` -/
theorem correlation_length (x y : List K) (maxlags : ℕ) (norm : Norm) (rms2 : K) :
    (correlation x y maxlags norm rms2).length = maxlags + 1 :=
  vec_length _ _

/-- `xcorr` returns lags `-L..L` -/
theorem xcorr_length (x y : List K) (L : ℕ) (norm : Norm) (rms2 : K) :
    (xcorr x y L norm rms2).length = 2 * L + 1 :=
  vec_length _ _

/-- biased: `r[k] = Σ_{j<n-k} x[j+k]·conj y[j] / n`, the shorter input zero padded to `n` -/
theorem correlation_def_biased (x y : List K) (maxlags k : ℕ) (hk : k ≤ maxlags) (rms2 : K) :
    nth (correlation x y maxlags .biased rms2) k
      = (∑ j ∈ range (max x.length y.length - k), nth x (j + k) * star (nth y j))
          / ((max x.length y.length : ℕ) : K) := by
  rw [nth_correlation x y maxlags .biased rms2 k hk, corrRaw_eq]

/-- unbiased: the same sum divided by `n - k` -/
theorem correlation_def_unbiased (x y : List K) (maxlags k : ℕ) (hk : k ≤ maxlags) (rms2 : K) :
    nth (correlation x y maxlags .unbiased rms2) k
      = (∑ j ∈ range (max x.length y.length - k), nth x (j + k) * star (nth y j))
          / ((max x.length y.length - k : ℕ) : K) := by
  rw [nth_correlation x y maxlags .unbiased rms2 k hk, corrRaw_eq]

/-- `norm=None`: the raw sum -/
theorem correlation_def_none (x y : List K) (maxlags k : ℕ) (hk : k ≤ maxlags) (rms2 : K) :
    nth (correlation x y maxlags .none rms2) k
      = ∑ j ∈ range (max x.length y.length - k), nth x (j + k) * star (nth y j) := by
  rw [nth_correlation x y maxlags .none rms2 k hk, corrRaw_eq]

/-- coeff-normalised autocorrelation (`rms2 = rms(x)² = Σ|x|²/N`): `1` at lag 0 and
`Σ_{j<N-k} x[j+k]·conj x[j] / rms(x)² / N` at lags `k ≥ 1` -/
theorem correlation_def_coeff (x : List K) (maxlags k : ℕ) (hk : k ≤ maxlags) :
    nth (correlation x x maxlags .coeff (meanPow x x.length)) k
      = if k = 0 then 1
        else (∑ j ∈ range (x.length - k), nth x (j + k) * star (nth x j))
          / ((∑ j ∈ range x.length, nth x j * star (nth x j)) / (x.length : K)) / (x.length : K) := by
  rw [nth_correlation x x maxlags .coeff _ k hk, corrRaw_eq, meanPow_eq, Nat.max_self]

/-- for a non-empty signal of non-zero energy the coeff-normalised autocorrelation is the ratio
`r[k]/r[0]` of raw lag sums at every lag (in particular `1` at lag 0) -/
theorem correlation_coeff_eq_ratio (x : List K) (maxlags k : ℕ) (hk : k ≤ maxlags)
    (hN : (x.length : K) ≠ 0) (hP : ∑ j ∈ range x.length, nth x j * star (nth x j) ≠ 0) :
    nth (correlation x x maxlags .coeff (meanPow x x.length)) k
      = (∑ j ∈ range (x.length - k), nth x (j + k) * star (nth x j))
          / (∑ j ∈ range x.length, nth x j * star (nth x j)) := by
  rw [correlation_def_coeff x maxlags k hk]
  by_cases h0 : k = 0
  · subst h0
    simp only [if_true, Nat.sub_zero, Nat.add_zero]
    rw [div_self hP]
  · rw [if_neg h0, div_div, div_mul_cancel₀ _ hN]

/-- non-negative lags of `xcorr` (equal lengths): entry `L+k` is lag `k` of `CORRELATION`, for the
biased / unbiased / None norms at every `k ≤ L` and for coeff at `k ≥ 1` -/
theorem xcorr_nonneg_lag (x y : List K) (hxy : x.length = y.length) (L k : ℕ) (hk : k ≤ L)
    (norm : Norm) (rms2 : K) (hc : norm ≠ .coeff ∨ 1 ≤ k) :
    nth (xcorr x y L norm rms2) (L + k) = nth (correlation x y L norm rms2) k := by
  have hc' : norm ≠ .coeff ∨ k ≠ 0 := hc.imp_right (fun h => by omega)
  rw [nth_xcorr_of_le x y L norm rms2 (Nat.le_add_right L k) (by omega),
    nth_correlation_normLag x y L norm rms2 hk hc', Nat.add_sub_cancel_left, ← hxy, Nat.max_self]

/-- lag 0 of the coeff-normalised two-sided autocorrelation is `1` (non-empty signal of non-zero
energy), as for `CORRELATION` -/
theorem xcorr_coeff_lag0 (x : List K) (L : ℕ)
    (hN : (x.length : K) ≠ 0) (hP : ∑ j ∈ range x.length, nth x j * star (nth x j) ≠ 0) :
    nth (xcorr x x L .coeff (meanPow x x.length)) L = 1 := by
  rw [nth_xcorr_of_le x x L .coeff _ (Nat.le_refl L) (by omega), Nat.sub_self]
  show corrRaw x x x.length 0 / meanPow x x.length / (x.length : K) = 1
  rw [corrRaw_zero_eq, meanPow_eq, div_div, div_mul_cancel₀ _ hN, div_self hP]

/-- negative lags of `xcorr` (equal lengths): entry `L-k`, `1 ≤ k ≤ L`, is `conj(r_yx[k])`, the
conjugate of lag `k` of `CORRELATION(y, x)`.  For the biased / unbiased / None norms the `rms2`
arguments are irrelevant; for coeff the two normalisations must be conjugate (equal when real). -/
theorem xcorr_neg_lag (x y : List K) (hxy : x.length = y.length) (L k : ℕ) (hk1 : 1 ≤ k)
    (hk : k ≤ L) (norm : Norm) (rms2 : K) :
    nth (xcorr x y L norm rms2) (L - k) = star (nth (correlation y x L norm (star rms2)) k) := by
  rw [nth_xcorr_of_lt x y L norm rms2 (Nat.sub_lt (Nat.lt_of_lt_of_le hk1 hk) hk1),
    nth_correlation_normLag y x L norm _ hk (Or.inr (Nat.ne_of_gt hk1)), star_normLag, star_star,
    Nat.sub_sub_self hk, ← hxy, Nat.max_self]

/-- `xcorr_neg_lag` for the biased / unbiased / None norms with an arbitrary `rms2'` on the
`CORRELATION` side (these norms do not read it) -/
theorem xcorr_neg_lag_norms (x y : List K) (hxy : x.length = y.length) (L k : ℕ) (hk1 : 1 ≤ k)
    (hk : k ≤ L) (norm : Norm) (hc : norm ≠ .coeff) (rms2 rms2' : K) :
    nth (xcorr x y L norm rms2) (L - k) = star (nth (correlation y x L norm rms2') k) := by
  rw [xcorr_neg_lag x y hxy L k hk1 hk norm rms2,
    nth_correlation_normLag y x L norm _ hk (Or.inr (Nat.ne_of_gt hk1)),
    nth_correlation_normLag y x L norm _ hk (Or.inr (Nat.ne_of_gt hk1)), normLag_rms2 hc]

/-- `r[0] = mean |x|²` for the biased autocorrelation, and `r[0]` is self-adjoint (real) -/
theorem biased_r0_eq_meanPow (x : List K) (maxlags : ℕ) (rms2 : K) :
    nth (correlation x x maxlags .biased rms2) 0 = meanPow x x.length
      ∧ star (nth (correlation x x maxlags .biased rms2) 0)
          = nth (correlation x x maxlags .biased rms2) 0 :=
  SpecVerif.biased_r0_eq_meanPow x maxlags rms2

theorem corrmtx_rows (x : List K) (m : ℕ) (method : CorrMtx) :
    (corrmtx x m method).length =
      (match method with
        | .autocorrelation => x.length + m
        | .prewindowed => x.length
        | .postwindowed => x.length
        | .covariance => x.length - m
        | .modified => 2 * (x.length - m)) := by
  cases method <;> exact vec_length _ _

theorem corrmtx_cols (x : List K) (m : ℕ) (method : CorrMtx) (row : List K)
    (hrow : row ∈ corrmtx x m method) : row.length = m + 1 := by
  cases method
  all_goals obtain ⟨i, _, rfl⟩ := mem_vec.mp hrow
  · exact vec_length _ _
  · exact vec_length _ _
  · exact vec_length _ _
  · exact vec_length _ _
  · split
    · exact vec_length _ _
    · exact vec_length _ _

/-- 'autocorrelation': entry `(i,j)`, `i < N+m`, `j ≤ m`, is the zero-padded `x[i-j]` -/
theorem corrmtx_autocorrelation_entry (x : List K) (m i j : ℕ) (hi : i < x.length + m)
    (hj : j ≤ m) :
    mentry (corrmtx x m .autocorrelation) i j = if j ≤ i then nth x (i - j) else 0 :=
  mentry_autocorrelation x m i j hi hj

/-- 'prewindowed': the first `N` rows of the autocorrelation matrix -/
theorem corrmtx_prewindowed_entry (x : List K) (m i j : ℕ) (hi : i < x.length) (hj : j ≤ m) :
    mentry (corrmtx x m .prewindowed) i j = if j ≤ i then nth x (i - j) else 0 :=
  mentry_vec_vec _ _ _ i j hi (Nat.lt_succ_of_le hj)

/-- 'postwindowed': rows `m..N+m-1` of the autocorrelation matrix, entry `x[i+m-j]` -/
theorem corrmtx_postwindowed_entry (x : List K) (m i j : ℕ) (hi : i < x.length) (hj : j ≤ m) :
    mentry (corrmtx x m .postwindowed) i j = nth x (i + m - j) :=
  (mentry_vec_vec _ _ _ i j hi (Nat.lt_succ_of_le hj)).trans (if_pos (by omega))

/-- 'covariance': rows `m..N-1` of the autocorrelation matrix (no zero padding is read) -/
theorem corrmtx_covariance_entry (x : List K) (m i j : ℕ) (hi : i < x.length - m) (hj : j ≤ m) :
    mentry (corrmtx x m .covariance) i j = nth x (i + m - j) ∧ i + m - j < x.length :=
  ⟨mentry_covariance x m i j hi hj, by omega⟩

/-- 'modified': the covariance block on top of the conjugated, index-reversed block
`conj x[i+j]` -/
theorem corrmtx_modified_entry (x : List K) (m i j : ℕ) (hi : i < x.length - m) (hj : j ≤ m) :
    mentry (corrmtx x m .modified) i j = nth x (i + m - j)
      ∧ mentry (corrmtx x m .modified) (x.length - m + i) j = star (nth x (i + j)) :=
  ⟨mentry_modified_top x m i j hi hj, mentry_modified_bottom x m i j hi hj⟩

/-- **`XᴴX = N·T`**: for `X = corrmtx(x, m, 'autocorrelation')` and every `a, b ≤ m`,
`Σ_{i<N+m} conj(X[i][a])·X[i][b] = N·T[a][b]`, `T` the Hermitian Toeplitz matrix of the biased
autocorrelation `r` (`T[a][b] = r[a-b]` for `b ≤ a`, `conj r[b-a]` for `a < b`). -/
theorem gram_autocorr (x : List K) (m : ℕ) (rms2 : K) (hN : (x.length : K) ≠ 0) (a b : ℕ)
    (ha : a ≤ m) (hb : b ≤ m) :
    ∑ i ∈ range (x.length + m),
        star (mentry (corrmtx x m .autocorrelation) i a) * mentry (corrmtx x m .autocorrelation) i b
      = (x.length : K) * hermToep (correlation x x m .biased rms2) a b :=
  gram_autocorrelation x m rms2 hN a b ha hb

theorem toeplitz_hermitian (x : List K) (m : ℕ) (rms2 : K) (a b : ℕ) :
    star (hermToep (correlation x x m .biased rms2) a b)
      = hermToep (correlation x x m .biased rms2) b a :=
  hermToep_star _ (biased_r0_eq_meanPow x m rms2).2 a b

/-- quadratic form of `N·T` as a sum of "squares": for every vector `v`,
`N·Σ_a Σ_b conj(v_a) T[a][b] v_b = Σ_i conj((Xv)_i)·(Xv)_i` -/
theorem toeplitz_quadratic_form (x : List K) (m : ℕ) (rms2 : K) (hN : (x.length : K) ≠ 0)
    (v : ℕ → K) :
    (x.length : K) * ∑ a ∈ range (m + 1), ∑ b ∈ range (m + 1),
        star (v a) * hermToep (correlation x x m .biased rms2) a b * v b
      = ∑ i ∈ range (x.length + m),
          star (∑ b ∈ range (m + 1), mentry (corrmtx x m .autocorrelation) i b * v b)
            * (∑ b ∈ range (m + 1), mentry (corrmtx x m .autocorrelation) i b * v b) :=
  SpecVerif.toeplitz_quadratic_form x m rms2 hN v

end Generic

section Cplx

theorem sum_shift_le (g : ℕ → ℝ) (hg : ∀ j, 0 ≤ g j) (n k : ℕ) :
    ∑ j ∈ range (n - k), g (j + k) ≤ ∑ j ∈ range n, g j := by
  have h : ∑ j ∈ range (n - k), g (j + k) = ∑ j ∈ Ico k n, g j := by
    rw [Finset.sum_Ico_eq_sum_range]
    exact Finset.sum_congr rfl (fun j _ => by rw [add_comm])
  rw [h]
  apply Finset.sum_le_sum_of_subset_of_nonneg
  · intro j hj
    exact mem_range.mpr (mem_Ico.mp hj).2
  · intro j _ _
    exact hg j

theorem corrRaw_zero_complex (x : List ℂ) (n : ℕ) :
    corrRaw x x n 0 = ((∑ j ∈ range n, ‖nth x j‖ ^ 2 : ℝ) : ℂ) := by
  rw [corrRaw_zero_eq]
  exact_mod_cast sum_mul_star_eq_ofReal (𝕜 := ℂ) (range n) (fun j => nth x j)

/-- termwise `2ab ≤ a² + b²`; each of the two shifted sums of squares is at most the full sum -/
theorem norm_corrRaw_le (x : List ℂ) (n k : ℕ) :
    ‖corrRaw x x n k‖ ≤ ∑ j ∈ range n, ‖nth x j‖ ^ 2 := by
  have hg : ∀ j, 0 ≤ ‖nth x j‖ ^ 2 := fun j => sq_nonneg _
  have h1 : ‖corrRaw x x n k‖ ≤ ∑ j ∈ range (n - k), ‖nth x (j + k)‖ * ‖nth x j‖ := by
    rw [corrRaw_eq]
    refine (norm_sum_le _ _).trans (le_of_eq ?_)
    apply Finset.sum_congr rfl
    intro j _
    rw [Complex.norm_mul, Complex.star_def, Complex.norm_conj]
  have h2 : ∑ j ∈ range (n - k), ‖nth x (j + k)‖ * ‖nth x j‖
      ≤ ∑ j ∈ range (n - k), (‖nth x (j + k)‖ ^ 2 + ‖nth x j‖ ^ 2) / 2 := by
    apply Finset.sum_le_sum
    intro j _
    rw [le_div_iff₀' two_pos, ← mul_assoc]
    exact two_mul_le_add_sq ‖nth x (j + k)‖ ‖nth x j‖
  have h3 : ∑ j ∈ range (n - k), ‖nth x (j + k)‖ ^ 2 ≤ ∑ j ∈ range n, ‖nth x j‖ ^ 2 :=
    sum_shift_le (fun j => ‖nth x j‖ ^ 2) hg n k
  have h4 : ∑ j ∈ range (n - k), ‖nth x j‖ ^ 2 ≤ ∑ j ∈ range n, ‖nth x j‖ ^ 2 :=
    Finset.sum_le_sum_of_subset_of_nonneg (Finset.range_mono (Nat.sub_le n k)) (fun j _ _ => hg j)
  calc ‖corrRaw x x n k‖
      ≤ ∑ j ∈ range (n - k), ‖nth x (j + k)‖ * ‖nth x j‖ := h1
    _ ≤ ∑ j ∈ range (n - k), (‖nth x (j + k)‖ ^ 2 + ‖nth x j‖ ^ 2) / 2 := h2
    _ = (∑ j ∈ range (n - k), ‖nth x (j + k)‖ ^ 2 + ∑ j ∈ range (n - k), ‖nth x j‖ ^ 2) / 2 := by
        rw [← Finset.sum_add_distrib, Finset.sum_div]
    _ ≤ (∑ j ∈ range n, ‖nth x j‖ ^ 2 + ∑ j ∈ range n, ‖nth x j‖ ^ 2) / 2 :=
        div_le_div_of_nonneg_right (add_le_add h3 h4) two_pos.le
    _ = ∑ j ∈ range n, ‖nth x j‖ ^ 2 := by rw [← two_mul, mul_div_cancel_left₀ _ two_ne_zero]

/-- raw form: `|Σ_{j<n-k} x[j+k]·conj x[j]| ≤ Σ_{j<n} |x[j]|² = r_raw[0]` for every lag -/
theorem r0_ge_abs_rk_raw (x : List ℂ) (n k : ℕ) :
    ‖corrRaw x x n k‖ ≤ (corrRaw x x n 0).re := by
  rw [corrRaw_zero_complex, Complex.ofReal_re]
  exact norm_corrRaw_le x n k

/-- **`r[0] ≥ |r[k]|`** for the biased autocorrelation of a non-empty complex signal -/
theorem r0_ge_abs_rk (x : List ℂ) (hN : 0 < x.length) (maxlags k : ℕ) (hk : k ≤ maxlags)
    (rms2 : ℂ) :
    ‖nth (correlation x x maxlags .biased rms2) k‖
      ≤ (nth (correlation x x maxlags .biased rms2) 0).re := by
  rw [nth_correlation_biased x x maxlags rms2 hk,
    nth_correlation_biased x x maxlags rms2 (Nat.zero_le _), Nat.max_self, corrRaw_zero_complex, Complex.norm_div, Complex.norm_natCast, ← Complex.ofReal_natCast,
    ← Complex.ofReal_div, Complex.ofReal_re]
  have hpos : (0 : ℝ) < (x.length : ℝ) := by exact_mod_cast hN
  exact div_le_div_of_nonneg_right (norm_corrRaw_le x x.length k) hpos.le

/-- **positive semi-definiteness**: for a non-empty complex signal and every vector `v`,
`Σ_a Σ_b conj(v_a) T[a][b] v_b = ‖X v‖²/N`, a non-negative real number -/
theorem toeplitz_psd (x : List ℂ) (hN : 0 < x.length) (m : ℕ) (rms2 : ℂ) (v : ℕ → ℂ) :
    ∑ a ∈ range (m + 1), ∑ b ∈ range (m + 1),
        star (v a) * hermToep (correlation x x m .biased rms2) a b * v b
      = (((∑ i ∈ range (x.length + m),
            ‖∑ b ∈ range (m + 1), mentry (corrmtx x m .autocorrelation) i b * v b‖ ^ 2)
          / (x.length : ℝ) : ℝ) : ℂ)
    ∧ 0 ≤ (∑ i ∈ range (x.length + m),
            ‖∑ b ∈ range (m + 1), mentry (corrmtx x m .autocorrelation) i b * v b‖ ^ 2)
          / (x.length : ℝ) := by
  have hNC : ((x.length : ℕ) : ℂ) ≠ 0 := by
    exact_mod_cast hN.ne'
  constructor
  · have h := toeplitz_quadratic_form x m rms2 hNC v
    rw [sum_star_mul_self_eq (𝕜 := ℂ)] at h
    rw [Complex.ofReal_div, Complex.ofReal_natCast, eq_div_iff hNC, mul_comm, h]
    norm_cast
  · apply div_nonneg
    · exact Finset.sum_nonneg (fun i _ => sq_nonneg _)
    · exact Nat.cast_nonneg _

end Cplx

/-- the hypotheses (`k ≤ maxlags`, non-zero length and energy) are met by `x = [1,2,3]` over `ℚ`:
the biased lag-1 autocorrelation is `(2·1 + 3·2)/3` -/
example : nth (correlation ([1, 2, 3] : List ℚ) [1, 2, 3] 2 .biased 0) 1 = 8 / 3 := by
  rw [correlation_def_biased _ _ 2 1 (by norm_num)]
  decide +kernel

example : (([1, 2, 3] : List ℚ).length : ℚ) ≠ 0
    ∧ ∑ j ∈ range ([1, 2, 3] : List ℚ).length,
        nth ([1, 2, 3] : List ℚ) j * star (nth ([1, 2, 3] : List ℚ) j) ≠ 0 := by
  decide +kernel

example : 0 < ([1, Complex.I] : List ℂ).length := by simp

/-! instantiation at `CRat`: plain application, see `Lemmas/CRatField.lean`; the `example … := rfl`
lines check that the `Field` path elaborates to the model's own instances -/
section CRatInstantiation

theorem correlation_def_biased_CRat (x y : List CRat) (maxlags k : ℕ) (hk : k ≤ maxlags) (rms2 : CRat) :
    nth (correlation x y maxlags .biased rms2) k
      = (∑ j ∈ range (max x.length y.length - k), nth x (j + k) * conj (nth y j))
          / ((max x.length y.length : ℕ) : CRat) :=
  correlation_def_biased x y maxlags k hk rms2

theorem correlation_def_coeff_CRat (x : List CRat) (maxlags k : ℕ) (hk : k ≤ maxlags) :
    nth (correlation x x maxlags .coeff (meanPow x x.length)) k
      = if k = 0 then 1
        else (∑ j ∈ range (x.length - k), nth x (j + k) * conj (nth x j))
          / ((∑ j ∈ range x.length, nth x j * conj (nth x j)) / (x.length : CRat))
          / (x.length : CRat) :=
  correlation_def_coeff x maxlags k hk

example : (fun (K : Type) [Field K] [StarRing K] => (correlation : List K → _)) CRat
    = @correlation CRat CRat.instAdd CRat.instMul CRat.instDiv CRat.instOfNatOfNatNat
        CRat.instOfNatOfNatNat_1 CRat.instNatCast CRat.instConj := rfl
example : @correlation CRat CRat.instAdd CRat.instMul CRat.instDiv CRat.instOfNatOfNatNat
    CRat.instOfNatOfNatNat_1 CRat.instNatCast CRat.instConj = correlation := rfl

end CRatInstantiation

end SpecVerif.C09
