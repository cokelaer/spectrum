import SpecVerif.Proofs.Lemmas.DFTOrth
import SpecVerif.Proofs.Lemmas.WienerKhinchin
import SpecVerif.Proofs.Lemmas.CRatField
/-
  C01 — the periodogram equals the windowed-DFT definition and conserves power.

  `K` is any field with an involution (`ℂ` with `star = conj` in particular), `ω` a primitive `NFFT`-th root of unity with `star ω = ω⁻¹`
  (numpy's `e^{-2πi/NFFT}`); the FFT is a parameter of the model specified as the DFT sum.
-/
namespace SpecVerif.C01
open Finset SpecVerif

variable {K : Type} [Field K] [StarRing K]

/-- the windowed DFT of the definition: `Σ_{j<N} x_j w_j ω^{jk}` -/
def wdft (ω : K) (x w : List K) (k : ℕ) : K :=
  ∑ j ∈ range x.length, (nth x j * nth w j) * ω ^ (j * k)

/-- number of returned bins: `NFFT/2+1` for real data (either parity), `NFFT` for complex data -/
theorem periodogram_length (tw x w : List K) (nfft : ℕ) (isReal : Bool) :
    (speriodogram tw x w nfft isReal).length = if isReal then nfft / 2 + 1 else nfft :=
  vec_length _ _

/-- **definition clause**: for any data, window and `NFFT ≥ N`, every returned bin `k` of the model of
`speriodogram` equals `|DFT_NFFT(x·w)[k]|² / N`. -/
theorem periodogram_eq_def {ω : K} {nfft : ℕ} (hn : 0 < nfft) (hω : ω ^ nfft = 1) (x w : List K)
    (hN : x.length ≤ nfft) (isReal : Bool) (k : ℕ)
    (hk : k < (if isReal then nfft / 2 + 1 else nfft)) :
    nth (speriodogram (twiddles ω nfft) x w nfft isReal) k
      = wdft ω x w k * star (wdft ω x w k) / (x.length : K) := by
  unfold wdft
  rw [nth_speriodogram _ x w nfft isReal hk, abs2_eq, dftBin_eq hn hω, vec_length,
    Nat.min_eq_left hN]
  have : ∀ j ∈ range x.length,
      nth (vec x.length fun j => nth x j * nth w j) j * ω ^ (j * k)
        = (nth x j * nth w j) * ω ^ (j * k) := by
    intro j hj
    rw [nth_vec_lt _ (mem_range.mp hj)]
  rw [Finset.sum_congr rfl this]

/-- 2-D input: column `c` of the result is the 1-D periodogram of column `c` with the *same* window -/
theorem periodogram2_column (tw : List K) (cols : List (List K)) (w : List K) (nfft : ℕ)
    (isReal : Bool) (c : ℕ) (hc : c < cols.length) :
    (speriodogram2 tw cols w nfft isReal)[c]'(by simpa [speriodogram2] using hc)
      = speriodogram tw cols[c] w nfft isReal := by
  simp [speriodogram2]

/-- **Parseval clause** (complex data, all `NFFT` bins): the mean of the returned values equals
`Σ|x_j w_j|²/N`. -/
theorem periodogram_parseval {ω : K} {nfft : ℕ} (hn : 0 < nfft) (hω : IsPrimitiveRoot ω nfft)
    (hstar : star ω = ω⁻¹) (x w : List K) (hN : x.length ≤ nfft) :
    (∑ k ∈ range nfft, nth (speriodogram (twiddles ω nfft) x w nfft false) k) / (nfft : K)
      = (∑ j ∈ range x.length, (nth x j * nth w j) * star (nth x j * nth w j)) / (x.length : K) := by
  -- a primitive `NFFT`-th root of unity exists in `K` only if `NFFT ≠ 0` in `K`
  have hnK : (nfft : K) ≠ 0 := by
    have : NeZero nfft := ⟨hn.ne'⟩
    exact (hω.neZero').ne
  have h1 : ∀ k ∈ range nfft, nth (speriodogram (twiddles ω nfft) x w nfft false) k
      = wdft ω x w k * star (wdft ω x w k) / (x.length : K) := by
    intro k hk
    exact periodogram_eq_def hn hω.pow_eq_one x w hN false k (by simpa using mem_range.mp hk)
  rw [Finset.sum_congr rfl h1, ← Finset.sum_div]
  unfold wdft
  rw [parseval_fun hω hN hstar (fun j => nth x j * nth w j)]
  rw [mul_div_assoc, mul_div_cancel_left₀ _ hnK]

/-- **Wiener–Khinchin clause**: autocorrelation of `N ≥ 1` samples, rectangular lag window (`w_i = 1`
for `i < N-1`), `lag = N-1`, biased normalisation and `NFFT ≥ 2N-1`: every bin `k < NFFT` of the model
of `CORRELOGRAMPSD` equals the same bin of the model of `speriodogram` with the all-ones data window
(`|Σ_j x_j ω^{jk}|²/N` by `periodogram_eq_def`).  `ω` is any `NFFT`-th root of unity with
`star ω = ω⁻¹`; the `coeff`-only argument `rms2` is arbitrary.  `CharZero K` makes the divisions by `N`
and by `2` (in `rePart`) meaningful; only `(2 : K) ≠ 0` is used by the proof.
The bound `2N-1 ≤ NFFT` is the no-wrap-around condition: the positive lags `1..N-1` and the negative
lags stored at `NFFT-(N-1)..NFFT-1` must not collide (see the counter-example below). -/
theorem correlogram_eq_periodogram [CharZero K] {ω : K} {nfft : ℕ} (x w ones : List K) (rms2 : K)
    (hN : 1 ≤ x.length) (hnfft : 2 * x.length - 1 ≤ nfft) (hω : ω ^ nfft = 1)
    (hstar : star ω = ω⁻¹) (hw : ∀ i, i < x.length - 1 → nth w i = 1)
    (hones : ∀ j, j < x.length → nth ones j = 1) (k : ℕ) (hk : k < nfft) :
    nth (correlogram (twiddles ω nfft) x x w (x.length - 1) nfft .biased rms2) k
      = nth (speriodogram (twiddles ω nfft) x ones nfft false) k := by
  have hNn : x.length ≤ nfft := by omega
  rw [correlogram_bin_eq x w rms2 hN hnfft hω hstar hw two_ne_zero k hk,
    periodogram_eq_def (Nat.lt_of_lt_of_le hN hNn) hω x ones hNn false k hk]
  have : wdft ω x ones k = ∑ j ∈ range x.length, nth x j * ω ^ (j * k) := by
    unfold wdft
    apply Finset.sum_congr rfl
    intro j hj
    rw [hones j (mem_range.mp hj), mul_one]
  rw [this]

/-- the same with the rectangular windows written out (`N-1` ones for the lags, `N` ones for the data) -/
theorem correlogram_eq_periodogram_rect [CharZero K] {ω : K} {nfft : ℕ} (x : List K) (rms2 : K)
    (hN : 1 ≤ x.length) (hnfft : 2 * x.length - 1 ≤ nfft) (hω : ω ^ nfft = 1)
    (hstar : star ω = ω⁻¹) (k : ℕ) (hk : k < nfft) :
    nth (correlogram (twiddles ω nfft) x x (vec (x.length - 1) fun _ => 1) (x.length - 1) nfft
        .biased rms2) k
      = nth (speriodogram (twiddles ω nfft) x (vec x.length fun _ => 1) nfft false) k :=
  correlogram_eq_periodogram x _ _ rms2 hN hnfft hω hstar
    (fun i hi => by rw [nth_vec, if_pos hi]) (fun j hj => by rw [nth_vec, if_pos hj]) k hk

/-- non-vacuity: `K = ℚ` (trivial involution), `ω = -1`, `NFFT = 4 ≥ 2N-1 = 3`, `x = [3, 2]`, bin `1`:
both sides are `|3 - 2|²/2`. -/
example : nth (correlogram (twiddles (-1 : ℚ) 4) [3, 2] [3, 2] [1] 1 4 .biased 0) 1
    = nth (speriodogram (twiddles (-1 : ℚ) 4) [3, 2] [1, 1] 4 false) 1 :=
  correlogram_eq_periodogram (ω := -1) [3, 2] [1] [1, 1] 0 (by simp) (by simp) (by norm_num)
    (by simp)
    (by
      intro i hi
      have : i = 0 := by simpa using hi
      subst this
      rfl)
    (by
      intro j hj
      simp at hj
      interval_cases j <;> rfl)
    1 (by norm_num)

/-- the bound `2N-1 ≤ NFFT` cannot be dropped: with `N = 2`, `NFFT = 2`, `ω = -1`, `x = [1, 1]` the
negative lag `-1` is written at index `NFFT-1 = 1` over the positive lag `1` (wrap-around) and bin `0`
is `3/2` instead of `|1+1|²/2 = 2`. -/
example : nth (correlogram (twiddles (-1 : ℚ) 2) [1, 1] [1, 1] [1] 1 2 .biased 0) 0
    ≠ nth (speriodogram (twiddles (-1 : ℚ) 2) [1, 1] [1, 1] 2 false) 0 := by
  decide +kernel

/-- the model evaluated at `ω = 1`, `NFFT = 1`: `|3·2|²/1` -/
example : nth (speriodogram (twiddles (1 : ℚ) 1) [3] [2] 1 false) 0 = 36 := by
  decide +kernel

/-! instantiation at `CRat`: plain application, see `Lemmas/CRatField.lean`; the `example … := rfl`
lines check that the `Field` path elaborates to the model's own instances -/
section CRatInstantiation

theorem periodogram_eq_def_CRat {ω : CRat} {nfft : ℕ} (hn : 0 < nfft) (hω : ω ^ nfft = 1)
    (x w : List CRat) (hN : x.length ≤ nfft) (isReal : Bool) (k : ℕ)
    (hk : k < (if isReal then nfft / 2 + 1 else nfft)) :
    nth (speriodogram (twiddles ω nfft) x w nfft isReal) k
      = wdft ω x w k * conj (wdft ω x w k) / (x.length : CRat) :=
  periodogram_eq_def hn hω x w hN isReal k hk

example : (fun (K : Type) [Field K] [StarRing K] => (speriodogram : List K → _)) CRat
    = @speriodogram CRat CRat.instAdd CRat.instMul CRat.instDiv CRat.instOfNatOfNatNat CRat.instNatCast
        CRat.instConj := rfl
example : @speriodogram CRat CRat.instAdd CRat.instMul CRat.instDiv CRat.instOfNatOfNatNat
    CRat.instNatCast CRat.instConj = speriodogram := rfl
example : (fun (K : Type) [Field K] [StarRing K] => (twiddles : K → _)) CRat
    = @twiddles CRat CRat.instMul CRat.instOfNatOfNatNat_1 := rfl

/-- non-vacuity at `CRat`: `ω = i` is a 4th root of unity of the executed scalar type -/
example : ((⟨0, 1⟩ : CRat) ^ 4 = 1) := by
  ext <;> simp [pow_succ, CRatL.mul_re, CRatL.mul_im]

end CRatInstantiation

end SpecVerif.C01
