import SpecVerif.Proofs.Lemmas.Arma
import SpecVerif.Proofs.Lemmas.GaussJordan
/-
  For C15: `armaEstimate` as its four stages, `armaLagSeq` entry-wise through the two-sided lag `lagZ`,
  and `optPolyAt` (`None` ↦ 1) so that AR, MA and ARMA are one `arma2psd` formula.
-/
-- the end results of this file carry the instance variables of their sections, used or not
set_option linter.unusedSectionVars false

namespace SpecVerif.ArmaEstL
open Finset SpecVerif SpecVerif.ArmaL

/-- exact zero test on `ℚ` (for the non-vacuity examples of C15; scoped to this namespace) -/
scoped instance ratIsZero : IsZero ℚ := ⟨fun q => decide (q = 0)⟩

section Solver
variable {K : Type} [Field K] [StarRing K] [IsZero K]

theorem gjStep_length (n w : ℕ) (M : Mat K) (col : ℕ) (M' : Mat K)
    (h : gjStep n w M col = some M') : M'.length = n := by
  rw [GJL.gjStep_eq, Option.map_eq_some_iff] at h
  obtain ⟨p, _, rfl⟩ := h
  exact vec_length _ _

theorem gjStep_row_length (n w : ℕ) (M : Mat K) (col : ℕ) (M' : Mat K)
    (h : gjStep n w M col = some M') (row : List K) (hrow : row ∈ M') : row.length = w := by
  rw [GJL.gjStep_eq, Option.map_eq_some_iff] at h
  obtain ⟨p, _, rfl⟩ := h
  obtain ⟨i, _, rfl⟩ := mem_vec.mp hrow
  exact vec_length _ _

theorem solveMat_shape (A B : Mat K) (n m : ℕ) (X : Mat K) (h : solveMat A B n m = some X) :
    X.length = n ∧ ∀ row, row ∈ X → row.length = m := by
  unfold solveMat at h
  simp only [Option.map_eq_some_iff] at h
  obtain ⟨M, _, rfl⟩ := h
  refine ⟨vec_length _ _, ?_⟩
  intro row hrow
  obtain ⟨i, _, rfl⟩ := mem_vec.mp hrow
  exact vec_length _ _

/-- the first column and the negated remaining columns that `lsFit` hands to `lstsq`
(`LSL.rhsX1`, `LSL.negXc` written with `mentry`) -/
def lsRhs (X : Mat K) (rows : ℕ) : List K := vec rows (fun i => mentry X i 0)

def lsNegXc (X : Mat K) (rows p : ℕ) : Mat K :=
  vec rows (fun i => vec p (fun j => -(mentry X i (j + 1))))

theorem lsRhs_eq (X : Mat K) (rows : ℕ) : lsRhs X rows = LSL.rhsX1 X rows := rfl

theorem lsNegXc_eq (X : Mat K) (rows p : ℕ) : lsNegXc X rows p = LSL.negXc X rows p := rfl

theorem ls_row_residual (X : Mat K) (rows p : ℕ) (a : ℕ → K) (i : ℕ) (hi : i < rows) :
    nth (lsRhs X rows) i - ∑ j ∈ range p, mentry (lsNegXc X rows p) i j * a j
      = mentry X i 0 + ∑ j ∈ range p, mentry X i (j + 1) * a j := by
  unfold lsRhs lsNegXc
  rw [nth_vec, if_pos hi, sub_eq_add_neg, ← Finset.sum_neg_distrib]
  refine congrArg (mentry X i 0 + ·) (Finset.sum_congr rfl (fun j hj => ?_))
  rw [mentry_vec_vec _ _ (fun i j => -(mentry X i (j + 1))) i j hi (Finset.mem_range.mp hj),
    neg_mul, neg_neg]

end Solver

section Stages
variable {K : Type} [Field K] [StarRing K] [IsZero K]

/-- the sequence handed to the MA stage: `e[i] = x[i+P] + Σ_{j<P} a_j x[i+P-1-j]`, `i < N-P` -/
def armaResid (x a : List K) (P : ℕ) : List K :=
  vec (x.length - P) (fun i => nth x (i + P) + ∑ j ∈ range P, nth a j * nth x (i + P - j - 1))

theorem armaResid_length (x a : List K) (P : ℕ) : (armaResid x a P).length = x.length - P :=
  vec_length _ _

theorem nth_armaResid (x a : List K) (P i : ℕ) (hi : i < x.length - P) :
    nth (armaResid x a P) i = nth x (i + P) + ∑ j ∈ range P, nth a j * nth x (i + P - j - 1) := by
  unfold armaResid; rw [nth_vec, if_pos hi]

theorem armaResid_eq (x a : List K) (P : ℕ) :
    vec (x.length - P) (fun i => nth x (i + P)
        + sumR P (fun j => nth a j * nth x (i + P - j - 1))) = armaResid x a P := by
  unfold armaResid
  apply vec_ext
  intro i _
  rw [sumR_eq_sum]

theorem armaEstimate_eq (x : List K) (P Q lag : ℕ) :
    armaEstimate x P Q lag =
      if lag ≥ x.length then .error "assert"
      else if lag + P < Q ∨ lag + P - Q > x.length - P then .error "index"
      else match arcovar (armaLagSeq (correlation x x lag .unbiased 1) P Q lag) P with
        | none => .error "singular"
        | some (a, _) =>
          (maEstimate (armaResid x a P) Q (2 * Q)).map (fun br => (a, br.1, br.2)) := by
  unfold armaEstimate
  simp only [armaResid_eq]
  split_ifs
  · rfl
  · rfl
  · cases arcovar (armaLagSeq (correlation x x lag .unbiased 1) P Q lag) P with
    | none => rfl
    | some ae =>
      obtain ⟨a, e⟩ := ae
      show (match maEstimate (armaResid x a P) Q (2 * Q) with
        | .error e => Except.error e
        | .ok (b, rho) => Except.ok (a, b, rho))
        = (maEstimate (armaResid x a P) Q (2 * Q)).map (fun br => (a, br.1, br.2))
      cases maEstimate (armaResid x a P) Q (2 * Q) <;> rfl

end Stages

section Lags
variable {K : Type} [Field K] [StarRing K]

/-- the two-sided lag function of a one-sided autocorrelation list `R = [r(0), r(1), …]`:
`r(d) = R[d]` for `d ≥ 0` and `conj R[-d]` for `d < 0` -/
def lagZ (R : List K) (d : ℤ) : K :=
  if 0 ≤ d then nth R d.toNat else star (nth R (-d).toNat)

theorem lagZ_ofNat (R : List K) (n : ℕ) : lagZ R (n : ℤ) = nth R n := by
  unfold lagZ
  rw [if_pos (Int.natCast_nonneg n), Int.toNat_natCast]

theorem armaLagSeq_length (R : List K) (P Q lag : ℕ) : (armaLagSeq R P Q lag).length = lag :=
  vec_length _ _

theorem nth_armaLagSeq (R : List K) (P Q lag k : ℕ) (hk : k < lag) (hk' : k < lag + P - Q) :
    nth (armaLagSeq R P Q lag) k
      = if k + Q + 1 < P then star (nth R (P - (k + Q + 1))) else nth R (k + Q + 1 - P) := by
  unfold armaLagSeq
  simp only [nth_vec, if_pos hk, if_pos hk', conj_eq_star]

/-- entries between `lag + P - Q` and `lag` (only when `Q > P`) are the zero padding of the resize -/
theorem nth_armaLagSeq_pad (R : List K) (P Q lag k : ℕ) (hk' : lag + P - Q ≤ k) :
    nth (armaLagSeq R P Q lag) k = 0 := by
  unfold armaLagSeq
  simp only [nth_vec, if_neg (Nat.not_lt.mpr hk'), ite_self]

theorem nth_armaLagSeq_lagZ (R : List K) (P Q lag k : ℕ) (hk : k < lag) (hk' : k < lag + P - Q) :
    nth (armaLagSeq R P Q lag) k = lagZ R ((k : ℤ) + Q + 1 - P) := by
  rw [nth_armaLagSeq R P Q lag k hk hk']
  unfold lagZ
  by_cases h : k + Q + 1 < P
  · rw [if_pos h, if_neg (by omega)]
    congr 2
    omega
  · rw [if_neg h, if_pos (by omega)]
    congr 1
    omega

theorem armaLagSeq_diag (R : List K) (P lag : ℕ) :
    armaLagSeq R P P lag = vec lag (fun k => nth R (k + 1)) := by
  unfold armaLagSeq
  apply vec_ext
  intro k hk
  rw [if_pos (by omega), if_neg (by omega)]
  congr 1
  omega

end Lags

section Psd
variable {K : Type} [Field K] [StarRing K]

def optPolyAt (ω : K) (c : Option (List K)) (k : ℕ) : K :=
  match c with
  | some c => polyAt ω c k
  | none => 1

@[simp] theorem optPolyAt_some (ω : K) (c : List K) (k : ℕ) :
    optPolyAt ω (some c) k = polyAt ω c k := rfl

@[simp] theorem optPolyAt_none (ω : K) (k : ℕ) : optPolyAt ω (none : Option (List K)) k = 1 := rfl

theorem armaFactor_opt {ω : K} {nfft : ℕ} (hω : ω ^ nfft = 1) (C : Option (List K))
    (hC : ∀ c, C = some c → c.length < nfft) (k : ℕ) :
    armaFactor (twiddles ω nfft) C nfft k = optPolyAt ω C k * star (optPolyAt ω C k) := by
  cases C with
  | none => rw [armaFactor_none, optPolyAt_none, star_one, mul_one]
  | some c => exact armaFactor_some hω c (hC c rfl) k

theorem nth_arma2psd_opt {ω : K} {nfft : ℕ} (hω : ω ^ nfft = 1) (A B : Option (List K))
    (hA : ∀ a, A = some a → a.length < nfft) (hB : ∀ b, B = some b → b.length < nfft)
    (rho T : K) (k : ℕ) (hk : k < nfft) :
    nth (arma2psd (twiddles ω nfft) A B rho T nfft) k
      = rho / T * (optPolyAt ω B k * star (optPolyAt ω B k))
          / (optPolyAt ω A k * star (optPolyAt ω A k)) := by
  rw [nth_arma2psd _ A B rho T nfft hk, armaFactor_opt hω A hA, armaFactor_opt hω B hB]

/-- number of values a class returns: one-sided for real data, `NFFT` otherwise -/
def psdLen (isReal : Bool) (nfft : ℕ) : ℕ :=
  if isReal then (if nfft % 2 = 0 then nfft / 2 + 1 else (nfft + 1) / 2) else nfft

theorem psdLen_le (isReal : Bool) {nfft : ℕ} (hn : 0 < nfft) : psdLen isReal nfft ≤ nfft := by
  unfold psdLen
  cases isReal
  · simp
  · simp only [if_true]
    split_ifs <;> omega

theorem nth_classPsd (raw : List K) (isReal : Bool) (nfft : ℕ) (s : Bool) (twoPi fs : K) (k : ℕ)
    (hk : k < psdLen isReal nfft) :
    nth (classPsd raw isReal nfft s twoPi fs) k
      = (if isReal then 2 else 1) * nth raw k * (if s then twoPi / (fs / (nfft : K)) else 1) := by
  rw [classPsd_eq, nth_scalePsd]
  cases isReal
  · rw [if_neg Bool.false_ne_true, if_neg Bool.false_ne_true, one_mul]
  · rw [if_pos rfl, if_pos rfl, nth_foldReal, if_pos]
    rw [psdLen, if_pos rfl, oneSided_len] at hk
    exact hk

end Psd

/-- the sequence `[1, a_1, …]` handed to the second Yule–Walker fit of `ma` is never the zero signal -/
theorem one_cons_nonzero {F : Type} [MulZeroOneClass F] [Nontrivial F] (A : List F) :
    ∃ j, j < ((1 : F) :: A).length ∧ nth ((1 : F) :: A) j ≠ 0 :=
  ⟨0, Nat.succ_pos _, by rw [nth_cons_zero]; exact one_ne_zero⟩

end SpecVerif.ArmaEstL
