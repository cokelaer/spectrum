import SpecVerif.Proofs.Lemmas.Arma
import SpecVerif.Model.ClassGlue
/-
  Equations of the `__call__` glue (`takeReal`, `classCall`): how many values are stored, and what is stored at a
  kept index for the `fold2` and `take` kinds, real and complex data.  A kept index is `j < NFFT/2+1` for real data
  (the code's `NFFT/2+1` / `(NFFT+1)/2` is `NFFT/2+1` for either parity) and `j < NFFT` for complex data.
  The `eigen` kind reorders as well: here only `classCall .eigen … = scalePsd (eigenClassFold …)`; the entries of
  `eigenClassFold` are in `Lemmas/Eigen.lean` and C17.
-/
namespace SpecVerif.GlueL
open SpecVerif SpecVerif.ArmaL

variable {K : Type} [Field K]

theorem takeReal_length (raw : List K) (n : ℕ) : (takeReal raw n).length = n / 2 + 1 :=
  vec_length _ _

theorem nth_takeReal (raw : List K) (n k : ℕ) :
    nth (takeReal raw n) k = if k < n / 2 + 1 then nth raw k else 0 :=
  nth_vec _ _ _

theorem classCall_fold2 (raw : List K) (isReal : Bool) (n : ℕ) (s : Bool) (twoPi fs : K) :
    classCall .fold2 raw isReal n s twoPi fs = classPsd raw isReal n s twoPi fs := rfl

theorem classCall_take (raw : List K) (isReal : Bool) (n : ℕ) (s : Bool) (twoPi fs : K) :
    classCall .take raw isReal n s twoPi fs
      = scalePsd (if isReal then takeReal raw n else raw) s twoPi fs n := rfl

theorem classCall_eigen (raw : List K) (isReal : Bool) (n : ℕ) (s : Bool) (twoPi fs : K) :
    classCall .eigen raw isReal n s twoPi fs = scalePsd (eigenClassFold raw isReal n) s twoPi fs n := rfl

theorem classCall_eigen_false (raw : List K) (isReal : Bool) (n : ℕ) (twoPi fs : K) :
    classCall .eigen raw isReal n false twoPi fs = eigenClassFold raw isReal n := rfl

theorem classCall_take_false (raw : List K) (isReal : Bool) (n : ℕ) (twoPi fs : K) :
    classCall .take raw isReal n false twoPi fs = if isReal then takeReal raw n else raw := rfl

theorem kept_lt {isReal : Bool} {n j : ℕ} (hn : 0 < n) (hj : j < if isReal then n / 2 + 1 else n) :
    j < n := by
  cases isReal
  · rw [if_neg Bool.false_ne_true] at hj
    exact hj
  · rw [if_pos rfl] at hj
    exact lt_of_lt_of_le hj (Nat.succ_le_of_lt (Nat.div_lt_self hn Nat.one_lt_two))

theorem oneSided_lt {n j : ℕ} (hn : 0 < n) (hj : j < if n % 2 = 0 then n / 2 + 1 else (n + 1) / 2) :
    j < n := by
  rw [oneSided_len] at hj
  exact kept_lt (isReal := true) hn hj

theorem nth_classCall_fold2 (raw : List K) (isReal : Bool) (n : ℕ) (twoPi fs : K) {j : ℕ}
    (hj : j < if isReal then n / 2 + 1 else n) :
    nth (classCall .fold2 raw isReal n false twoPi fs) j = (if isReal then 2 else 1) * nth raw j := by
  rw [classCall_fold2, classPsd_false]
  cases isReal
  · rw [if_neg Bool.false_ne_true, if_neg Bool.false_ne_true, one_mul]
  · rw [if_pos rfl] at hj
    rw [if_pos rfl, if_pos rfl, nth_foldReal, if_pos hj]

theorem nth_classCall_take (raw : List K) (isReal : Bool) (n : ℕ) (twoPi fs : K) {j : ℕ}
    (hj : j < if isReal then n / 2 + 1 else n) :
    nth (classCall .take raw isReal n false twoPi fs) j = nth raw j := by
  rw [classCall_take_false]
  cases isReal
  · rw [if_neg Bool.false_ne_true]
  · rw [if_pos rfl] at hj
    rw [if_pos rfl, nth_takeReal, if_pos hj]

/-- with scaling off, the `fold2` and `take` glues store at a kept index a fixed multiple of the raw value at
    that index: raw estimates that agree at kept indices of two grids give class outputs that agree there -/
theorem classCall_congr (kind : GlueKind) (hk : kind ≠ .eigen) (raw₁ raw₂ : List K) (isReal : Bool)
    (n₁ n₂ : ℕ) (twoPi₁ fs₁ twoPi₂ fs₂ : K) {k₁ k₂ : ℕ}
    (h₁ : k₁ < if isReal then n₁ / 2 + 1 else n₁) (h₂ : k₂ < if isReal then n₂ / 2 + 1 else n₂)
    (hraw : nth raw₁ k₁ = nth raw₂ k₂) :
    nth (classCall kind raw₁ isReal n₁ false twoPi₁ fs₁) k₁
      = nth (classCall kind raw₂ isReal n₂ false twoPi₂ fs₂) k₂ := by
  cases kind
  · rw [nth_classCall_fold2 raw₁ isReal n₁ twoPi₁ fs₁ h₁, nth_classCall_fold2 raw₂ isReal n₂ twoPi₂ fs₂ h₂, hraw]
  · rw [nth_classCall_take raw₁ isReal n₁ twoPi₁ fs₁ h₁, nth_classCall_take raw₂ isReal n₂ twoPi₂ fs₂ h₂, hraw]
  · exact absurd rfl hk

theorem eigenClassFold_length (psd : List K) (isReal : Bool) (n : ℕ) (h : psd.length = n) :
    (eigenClassFold psd isReal n).length
      = if isReal then (if n % 2 = 0 then n / 2 + 1 else (n + 1) / 2) else n := by
  cases isReal
  · simp [eigenClassFold, ifftshift, h]
  · simp [eigenClassFold]

/-- what any class stores for a raw estimate of `NFFT` values has the one-sided length for real data, `NFFT` values
    for complex data -/
theorem classCall_length (kind : GlueKind) (raw : List K) (isReal : Bool) (n : ℕ) (s : Bool)
    (twoPi fs : K) (hraw : raw.length = n) :
    (classCall kind raw isReal n s twoPi fs).length
      = if isReal then (if n % 2 = 0 then n / 2 + 1 else (n + 1) / 2) else n := by
  cases kind
  · rw [classCall_fold2, classPsd_eq, scalePsd_length]
    cases isReal
    · exact hraw
    · exact foldReal_length raw n
  · rw [classCall_take, scalePsd_length]
    cases isReal
    · exact hraw
    · exact (takeReal_length raw n).trans (oneSided_len n).symm
  · rw [classCall_eigen, scalePsd_length, eigenClassFold_length _ _ _ hraw]

end SpecVerif.GlueL
