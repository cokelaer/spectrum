import SpecVerif.Proofs.Lemmas.Minvar
import SpecVerif.Proofs.Lemmas.Mtm
/-
  The idea behind C05 ("NFFT only chooses the sampling grid"): when no sample / coefficient / lag is cut off or wrapped
  around, bin `k` of an `nfft`-point DFT of a sequence of `L ≤ nfft` samples is the polynomial `Σ_{t<L} x_t z^t` at
  `z = ω^k`, so it depends on `(ω, nfft, k)` only through the point `z = ω^k` of the unit circle (the physical
  frequency).  Two grids `(ω₁, n₁)`, `(ω₂, n₂)` and two bins with `ω₁^k₁ = ω₂^k₂` therefore give the same value.
  `Ω^c = ω`, `k₁ = c·j`, `k₂ = j` is the nested-grid case.
-/
namespace SpecVerif.GridL
open Finset SpecVerif SpecVerif.ArmaL

variable {K : Type} [Field K]

theorem coarse_pow_eq_one {Ω ω : K} {c n : ℕ} (hΩ : Ω ^ (c * n) = 1) (hΩω : Ω ^ c = ω) :
    ω ^ n = 1 := by
  rw [← hΩω, ← pow_mul]; exact hΩ

theorem fine_pow_eq {Ω ω : K} {c : ℕ} (hΩω : Ω ^ c = ω) (j : ℕ) : Ω ^ (c * j) = ω ^ j := by
  rw [pow_mul, hΩω]

theorem fine_pow_mul_eq {Ω ω : K} {c : ℕ} (hΩω : Ω ^ c = ω) (t j : ℕ) :
    Ω ^ (t * (c * j)) = ω ^ (t * j) := by
  rw [← hΩω, ← pow_mul]
  congr 1
  ring

/-- a kept bin of `rfft` (`j ≤ n/2`) maps to a kept bin of the fine `rfft` -/
theorem half_index_fine {c n j : ℕ} (hj : j < n / 2 + 1) : c * j < (c * n) / 2 + 1 := by
  have h : j * 2 ≤ n := (Nat.le_div_iff_mul_le Nat.two_pos).mp (Nat.le_of_lt_succ hj)
  refine Nat.lt_succ_of_le ((Nat.le_div_iff_mul_le Nat.two_pos).mpr ?_)
  rw [Nat.mul_assoc]
  exact Nat.mul_le_mul_left c h

theorem dftBin_same_freq {ω₁ ω₂ : K} {n₁ n₂ k₁ k₂ : ℕ} (hn₁ : 0 < n₁) (hn₂ : 0 < n₂)
    (h₁ : ω₁ ^ n₁ = 1) (h₂ : ω₂ ^ n₂ = 1) (hz : ω₁ ^ k₁ = ω₂ ^ k₂) (x : List K)
    (hx₁ : x.length ≤ n₁) (hx₂ : x.length ≤ n₂) :
    dftBin (twiddles ω₁ n₁) n₁ x k₁ = dftBin (twiddles ω₂ n₂) n₂ x k₂ := by
  rw [dftBin_eq_eval hn₁ h₁ x hx₁, dftBin_eq_eval hn₂ h₂ x hx₂, hz]

theorem eigenspectrum_same_freq {ω₁ ω₂ : K} {n₁ n₂ k₁ k₂ : ℕ} (hn₁ : 0 < n₁) (hn₂ : 0 < n₂)
    (h₁ : ω₁ ^ n₁ = 1) (h₂ : ω₂ ^ n₂ = 1) (hz : ω₁ ^ k₁ = ω₂ ^ k₂) (x taper : List K)
    (hx₁ : x.length ≤ n₁) (hx₂ : x.length ≤ n₂) (hk₁ : k₁ < n₁) (hk₂ : k₂ < n₂) :
    nth (eigenspectrum (twiddles ω₁ n₁) x taper n₁) k₁
      = nth (eigenspectrum (twiddles ω₂ n₂) x taper n₂) k₂ := by
  rw [MtmL.nth_eigenspectrum_raw _ x taper n₁ hk₁, MtmL.nth_eigenspectrum_raw _ x taper n₂ hk₂,
    dftBin_same_freq hn₁ hn₂ h₁ h₂ hz _ ((vec_length _ _).trans_le hx₁) ((vec_length _ _).trans_le hx₂)]

/-- the two coefficient sequences differ (by the amount of zero padding); their DFT values at a common frequency
    do not -/
theorem dftBin_polySeq_same_freq {ω₁ ω₂ : K} {n₁ n₂ k₁ k₂ : ℕ} (h₁ : ω₁ ^ n₁ = 1)
    (h₂ : ω₂ ^ n₂ = 1) (hz : ω₁ ^ k₁ = ω₂ ^ k₂) (c : List K) (hc₁ : c.length < n₁)
    (hc₂ : c.length < n₂) :
    dftBin (twiddles ω₁ n₁) n₁ (polySeq c n₁) k₁ = dftBin (twiddles ω₂ n₂) n₂ (polySeq c n₂) k₂ := by
  rw [dftBin_polySeq h₁ c hc₁, dftBin_polySeq h₂ c hc₂, polyAt_eq_polyPoint, polyAt_eq_polyPoint, hz]

theorem two_sided_same_freq {ω₁ ω₂ : K} {k₁ k₂ : ℕ} (hz : ω₁ ^ k₁ = ω₂ ^ k₂) (c₀ : K) (s : Finset ℕ)
    (a b : ℕ → K) :
    c₀ + ∑ m ∈ s, (a m * ω₁ ^ (m * k₁) + b m * ω₁⁻¹ ^ (m * k₁))
      = c₀ + ∑ m ∈ s, (a m * ω₂ ^ (m * k₂) + b m * ω₂⁻¹ ^ (m * k₂)) := by
  refine congrArg (c₀ + ·) (Finset.sum_congr rfl ?_)
  intro m _
  rw [pow_mul' ω₁, pow_mul' ω₂, inv_pow_mul_eq_point ω₁, inv_pow_mul_eq_point ω₂, hz]

section Star
variable [StarRing K]

theorem armaFactor_same_freq {ω₁ ω₂ : K} {n₁ n₂ k₁ k₂ : ℕ} (h₁ : ω₁ ^ n₁ = 1)
    (h₂ : ω₂ ^ n₂ = 1) (hz : ω₁ ^ k₁ = ω₂ ^ k₂) (C : Option (List K))
    (hC₁ : ∀ c, C = some c → c.length < n₁) (hC₂ : ∀ c, C = some c → c.length < n₂) :
    armaFactor (twiddles ω₁ n₁) C n₁ k₁ = armaFactor (twiddles ω₂ n₂) C n₂ k₂ := by
  cases C with
  | none => rfl
  | some c =>
    unfold armaFactor
    simp only
    rw [dftBin_polySeq_same_freq h₁ h₂ hz c (hC₁ c rfl) (hC₂ c rfl)]

theorem dftBin_correlogramSeq_same_freq {ω₁ ω₂ : K} {n₁ n₂ k₁ k₂ L : ℕ} (hL₁ : 2 * L + 1 ≤ n₁)
    (hL₂ : 2 * L + 1 ≤ n₂) (h₁ : ω₁ ^ n₁ = 1) (h₂ : ω₂ ^ n₂ = 1) (hz : ω₁ ^ k₁ = ω₂ ^ k₂)
    (rxy ryx w : List K) :
    dftBin (twiddles ω₁ n₁) n₁ (correlogramSeq rxy ryx w L n₁) k₁
      = dftBin (twiddles ω₂ n₂) n₂ (correlogramSeq rxy ryx w L n₂) k₂ := by
  rw [dftBin_correlogramSeq hL₁ h₁, dftBin_correlogramSeq hL₂ h₂]
  exact two_sided_same_freq hz _ _ _ _

theorem dftBin_minvarPsi_same_freq {ω₁ ω₂ : K} {n₁ n₂ k₁ k₂ : ℕ} (h₁ : ω₁ ^ n₁ = 1)
    (h₂ : ω₂ ^ n₂ = 1) (hz : ω₁ ^ k₁ = ω₂ ^ k₂) (a : List K) (P : K) (ha : 0 < a.length)
    (hno₁ : 2 * a.length ≤ n₁ + 1) (hno₂ : 2 * a.length ≤ n₂ + 1) :
    dftBin (twiddles ω₁ n₁) n₁ (minvarPsi a P n₁) k₁
      = dftBin (twiddles ω₂ n₂) n₂ (minvarPsi a P n₂) k₂ := by
  rw [dftBin_eq_full (by omega) h₁, dftBin_eq_full (by omega) h₂,
    MinvarL.dft_minvarPsi h₁ a P ha hno₁, MinvarL.dft_minvarPsi h₂ a P ha hno₂]
  exact two_sided_same_freq hz _ _ _ _

theorem mtSkA_same_freq {ω₁ ω₂ : K} {n₁ n₂ k₁ k₂ : ℕ} (hn₁ : 0 < n₁) (hn₂ : 0 < n₂)
    (h₁ : ω₁ ^ n₁ = 1) (h₂ : ω₂ ^ n₂ = 1) (hz : ω₁ ^ k₁ = ω₂ ^ k₂) (x : List K)
    (tapers : List (List K)) (hx₁ : x.length ≤ n₁) (hx₂ : x.length ≤ n₂) (hk₁ : k₁ < n₁)
    (hk₂ : k₂ < n₂) (t : ℕ) :
    nth ((mtSkA (twiddles ω₁ n₁) x tapers n₁).getD t []) k₁
      = nth ((mtSkA (twiddles ω₂ n₂) x tapers n₂).getD t []) k₂ := by
  rw [AdaptL.mtSkA_eq_mtSkAbs2, AdaptL.mtSkA_eq_mtSkAbs2, ShiftL.nth_mtSkAbs2, ShiftL.nth_mtSkAbs2,
    eigenspectrum_same_freq hn₁ hn₂ h₁ h₂ hz x (tapers.getD t []) hx₁ hx₂ hk₁ hk₂]

end Star

end SpecVerif.GridL
