import SpecVerif.Proofs.Lemmas.Glue
import SpecVerif.Proofs.Lemmas.Sides
import SpecVerif.Model.Object
/-
  Helper lemmas for C02: the length of the default frequency axis and index arithmetic of the centre-DC axis.
-/
namespace SpecVerif.PlaceL
open Finset SpecVerif SpecVerif.ArmaL SpecVerif.GlueL

theorem oneSided_len_le {nfft : ℕ} (hn : 0 < nfft) :
    (if nfft % 2 = 0 then nfft / 2 + 1 else (nfft + 1) / 2) ≤ nfft := by
  rw [oneSided_len]
  exact Nat.succ_le_of_lt (Nat.div_lt_self hn Nat.one_lt_two)

theorem defaultAxis_length (isReal : Bool) (nfft : ℕ) :
    (rangeBins (defaultSide (!isReal)) nfft).length
      = if isReal then (if nfft % 2 = 0 then nfft / 2 + 1 else (nfft + 1) / 2) else nfft := by
  cases isReal <;> simp [defaultSide, rangeBins]

section Glue
variable {K : Type} [Field K]

theorem nth_scalePsd (p : List K) (s : Bool) (twoPi fs : K) (n k : ℕ) :
    nth (scalePsd p s twoPi fs n) k = nth p k * (if s then twoPi / (fs / (n : K)) else 1) :=
  _root_.SpecVerif.nth_scalePsd p s twoPi fs n k

end Glue

/-- the centre-DC index `(j + n/2) mod n` reports the frequency bin `j` (mod `n`) -/
theorem center_index_bin {n j : ℕ} (hj : j < n) :
    ∃ h : (j + n / 2) % n < (rangeBins .center n).length,
      binIdx n ((rangeBins .center n)[(j + n / 2) % n]) = j := by
  have hlen : (rangeBins .center n).length = n := rangeBins_length .center n
  refine ⟨hlen.symm ▸ Nat.mod_lt _ (Nat.zero_lt_of_lt hj), ?_⟩
  -- modulo `n` the reported bin is `(j + n/2) - n/2 = j`
  unfold binIdx
  rw [rangeBins_center_getElem, Int.natCast_mod, Int.emod_sub_emod, Nat.cast_add, add_sub_cancel_right,
    Int.emod_eq_of_lt (Int.natCast_nonneg j) (Int.ofNat_lt.mpr hj), Int.toNat_natCast]

/-- the centre-DC index `n/2 - j` reports the frequency bin `-j` -/
theorem center_index_neg {n j : ℕ} (hn : 0 < n) (hj : j ≤ n / 2) :
    ∃ h : n / 2 - j < (rangeBins .center n).length,
      (rangeBins .center n)[n / 2 - j] = -(j : Int) := by
  have hlen : (rangeBins .center n).length = n := rangeBins_length .center n
  refine ⟨hlen.symm ▸ lt_of_le_of_lt (Nat.sub_le _ _) (Nat.div_lt_self hn Nat.one_lt_two), ?_⟩
  rw [rangeBins_center_getElem, Nat.cast_sub hj, sub_sub_cancel_left]

end SpecVerif.PlaceL
