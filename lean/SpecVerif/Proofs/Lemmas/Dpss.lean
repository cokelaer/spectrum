import SpecVerif.Proofs.Lemmas.Basic
import SpecVerif.Proofs.Lemmas.RealFn
import SpecVerif.Proofs.Lemmas.WienerKhinchin
import SpecVerif.Proofs.Lemmas.Eval
import SpecVerif.Model.Dpss
/-
  Helper lemmas for C18 (`dpss` glue): entries of the scaled / flipped taper, invariance of the
  autocovariance under negation, the sinc concentration kernel and the "sum by diagonals" identity
  `Σ_d acvs_d · r_d = tᵀ K t`.  `sincKernel`, `rho` and their algebra are defined here (the integrals are in
  `SincKernel.lean`).  Everything at `R := ℝ` (instance `instRealFnReal`).
-/
namespace SpecVerif.DpssL
open Finset SpecVerif

theorem getD_map_neg (t : List ℝ) (n : ℕ) :
    (t.map (fun v => -v)).getD n 0 = -(t.getD n 0) := by
  show nth (t.map (fun v => -v)) n = -nth t n
  exact nth_map _ neg_zero t n

/-- the column of the C routine rescaled by `1/√N` (before the sign flip) -/
noncomputable def scaled (N : ℕ) (raw : List ℝ) : List ℝ :=
  vec N (fun n => raw.getD n 0 / Real.sqrt (N : ℝ))

theorem scaled_length (N : ℕ) (raw : List ℝ) : (scaled N raw).length = N := vec_length _ _

theorem getD_scaled {N : ℕ} (raw : List ℝ) {n : ℕ} (h : n < N) :
    (scaled N raw).getD n 0 = raw.getD n 0 / Real.sqrt (N : ℝ) := by
  rw [scaled, getD_vec_lt _ h]

theorem absMax_eq_foldl (t : List ℝ) : absMax t = t.foldl (fun m v => max m |v|) 0 := by
  unfold absMax
  congr 1
  funext m v
  simp only [lt_real, abs_real]
  by_cases h : m < |v|
  · simp [h, max_eq_right h.le]
  · simp [h, max_eq_left (not_lt.mp h)]

/-- the running maximum, started at an arbitrary `m` for the sake of the induction (three lemmas) -/
theorem le_foldl_max (t : List ℝ) (m : ℝ) : m ≤ t.foldl (fun m v => max m |v|) m := by
  induction t generalizing m with
  | nil => simp
  | cons a t ih => exact le_trans (le_max_left m |a|) (ih (max m |a|))

theorem mem_le_foldl_max (t : List ℝ) (m : ℝ) {v : ℝ} (hv : v ∈ t) :
    |v| ≤ t.foldl (fun m v => max m |v|) m := by
  induction t generalizing m with
  | nil => simp at hv
  | cons a t ih =>
    rcases List.mem_cons.mp hv with rfl | h
    · exact le_trans (le_max_right m |v|) (le_foldl_max t _)
    · exact ih _ h

theorem foldl_max_attained (t : List ℝ) (m : ℝ) :
    t.foldl (fun m v => max m |v|) m = m ∨ ∃ v ∈ t, t.foldl (fun m v => max m |v|) m = |v| := by
  induction t generalizing m with
  | nil => simp
  | cons a t ih =>
    rcases ih (max m |a|) with h | ⟨v, hv, h⟩
    · rcases max_choice m |a| with h' | h'
      · left; rw [List.foldl_cons, h, h']
      · right; exact ⟨a, List.mem_cons_self, by rw [List.foldl_cons, h, h']⟩
    · right; exact ⟨v, List.mem_cons_of_mem _ hv, h⟩

theorem absMax_nonneg (t : List ℝ) : 0 ≤ absMax t := by
  rw [absMax_eq_foldl]; exact le_foldl_max t 0

theorem abs_le_absMax {t : List ℝ} {v : ℝ} (hv : v ∈ t) : |v| ≤ absMax t := by
  rw [absMax_eq_foldl]; exact mem_le_foldl_max t 0 hv

theorem absMax_attained (t : List ℝ) : absMax t = 0 ∨ ∃ v ∈ t, absMax t = |v| := by
  rw [absMax_eq_foldl]; exact foldl_max_attained t 0

theorem absMax_map_neg (t : List ℝ) : absMax (t.map (fun v => -v)) = absMax t := by
  rw [absMax_eq_foldl, absMax_eq_foldl, List.foldl_map]
  simp only [abs_neg]

theorem firstSignificant_eq (t : List ℝ) :
    firstSignificant t = (t.find? (fun v => decide (absMax t / 100 < |v|))).getD 0 := by
  simp [firstSignificant, lt_real, abs_real]

/-- the same position is found in the negated list -/
theorem firstSignificant_map_neg (t : List ℝ) :
    firstSignificant (t.map (fun v => -v)) = -firstSignificant t := by
  rw [firstSignificant_eq, firstSignificant_eq, absMax_map_neg, List.find?_map]
  have hp : ((fun v : ℝ => decide (absMax t / 100 < |v|)) ∘ fun v => -v)
      = fun v : ℝ => decide (absMax t / 100 < |v|) := by
    funext v; simp [Function.comp]
  rw [hp]
  cases t.find? (fun v => decide (absMax t / 100 < |v|)) <;> simp

theorem firstSignificant_spec {t : List ℝ} (h : firstSignificant t ≠ 0) :
    ∃ k, k < t.length ∧ t.getD k 0 = firstSignificant t ∧ absMax t / 100 < |firstSignificant t| ∧
      ∀ j, j < k → |t.getD j 0| ≤ absMax t / 100 := by
  rw [firstSignificant_eq] at h ⊢
  cases hf : t.find? (fun v => decide (absMax t / 100 < |v|)) with
  | none => rw [hf] at h; simp at h
  | some b =>
    obtain ⟨hb, k, hk, hkb, hlt⟩ := List.find?_eq_some_iff_getElem.mp hf
    refine ⟨k, hk, ?_, ?_, ?_⟩
    · simp [List.getD_eq_getElem?_getD, hk, hkb]
    · simpa using hb
    · intro j hj
      have := hlt j hj
      have hj' : j < t.length := lt_trans hj hk
      simpa [List.getD_eq_getElem?_getD, hj'] using this

theorem firstSignificant_mem {t : List ℝ} (h : firstSignificant t ≠ 0) : firstSignificant t ∈ t := by
  obtain ⟨k, hk, hkb, _⟩ := firstSignificant_spec h
  rw [← hkb, List.getD_eq_getElem?_getD, List.getElem?_eq_getElem hk]
  simp

theorem firstSignificant_ne_zero_iff (t : List ℝ) : firstSignificant t ≠ 0 ↔ ∃ v ∈ t, v ≠ 0 := by
  constructor
  · intro h; exact ⟨_, firstSignificant_mem h, h⟩
  · rintro ⟨v, hv, hv0⟩
    have hpos : 0 < absMax t := lt_of_lt_of_le (abs_pos.mpr hv0) (abs_le_absMax hv)
    -- the largest sample passes the 1 % test, so `find?` succeeds, and what it finds passes the test too
    obtain h0 | ⟨w, hw, hwe⟩ := absMax_attained t
    · exact absurd h0 hpos.ne'
    have hw' : decide (absMax t / 100 < |w|) = true :=
      decide_eq_true (by rw [← hwe]; exact div_lt_self hpos (by norm_num))
    obtain ⟨b, hb⟩ := Option.isSome_iff_exists.mp
      ((List.find?_isSome (p := fun v => decide (absMax t / 100 < |v|))).mpr ⟨w, hw, hw'⟩)
    have hb' := List.find?_some hb
    rw [decide_eq_true_eq] at hb'
    rw [firstSignificant_eq, hb, Option.getD_some]
    intro hb0
    rw [hb0, abs_zero] at hb'
    exact absurd hb' (not_lt.mpr (div_nonneg hpos.le (by norm_num)))

/-- `dpssTaper` with its `let`s read through `scaled` -/
theorem dpssTaper_eq (N i : ℕ) (raw : List ℝ) (ts : ℝ) :
    dpssTaper N i raw ts
      = if (if i % 2 = 0 then RealFn.lt ts 0 else RealFn.lt (firstSignificant (scaled N raw)) 0) = true
        then (scaled N raw).map (fun v => -v) else scaled N raw := rfl

theorem dpssTaper_even {N i : ℕ} (raw : List ℝ) (ts : ℝ) (hi : i % 2 = 0) :
    dpssTaper N i raw ts
      = if ts < 0 then (scaled N raw).map (fun v => -v) else scaled N raw := by
  simp only [dpssTaper_eq, if_pos hi, lt_real, decide_eq_true_eq]

theorem dpssTaper_odd {N i : ℕ} (raw : List ℝ) (ts : ℝ) (hi : i % 2 ≠ 0) :
    dpssTaper N i raw ts
      = if firstSignificant (scaled N raw) < 0 then (scaled N raw).map (fun v => -v) else scaled N raw := by
  simp only [dpssTaper_eq, if_neg hi, lt_real, decide_eq_true_eq]

theorem firstSignificant_dpssTaper_odd {N i : ℕ} (raw : List ℝ) (ts : ℝ) (hi : i % 2 ≠ 0) :
    firstSignificant (dpssTaper N i raw ts) = |firstSignificant (scaled N raw)| := by
  rw [dpssTaper_odd raw ts hi]
  split
  · next h => rw [firstSignificant_map_neg, abs_of_neg h]
  · next h => rw [abs_of_nonneg (not_lt.mp h)]

theorem scaled_exists_ne_zero {N : ℕ} (raw : List ℝ) (h : ∃ n, n < N ∧ raw.getD n 0 ≠ 0) :
    ∃ v ∈ scaled N raw, v ≠ 0 := by
  obtain ⟨n, hn, hne⟩ := h
  exact ⟨_, mem_vec.mpr ⟨n, hn, rfl⟩,
    div_ne_zero hne (Real.sqrt_pos.mpr (Nat.cast_pos.mpr (Nat.zero_lt_of_lt hn))).ne'⟩

theorem exists_getD_of_mem {t : List ℝ} {v : ℝ} (hv : v ∈ t) : ∃ m, m < t.length ∧ t.getD m 0 = v := by
  obtain ⟨m, hm, rfl⟩ := List.getElem_of_mem hv
  exact ⟨m, hm, by simp [List.getD_eq_getElem?_getD, hm]⟩

theorem getD_mem_or_zero (t : List ℝ) (n : ℕ) : t.getD n 0 ∈ t ∨ t.getD n 0 = 0 := by
  by_cases h : n < t.length
  · left; rw [List.getD_eq_getElem?_getD, List.getElem?_eq_getElem h]; simp
  · right; simp [List.getD_eq_getElem?_getD, not_lt.mp h]

theorem abs_getD_le_absMax (t : List ℝ) (n : ℕ) : |t.getD n 0| ≤ absMax t := by
  rcases getD_mem_or_zero t n with h | h
  · exact abs_le_absMax h
  · rw [h, abs_zero]; exact absMax_nonneg t

theorem dpssTaper_eq_or (N i : ℕ) (raw : List ℝ) (ts : ℝ) :
    dpssTaper N i raw ts = scaled N raw ∨
      dpssTaper N i raw ts = (scaled N raw).map (fun v => -v) := by
  by_cases hi : i % 2 = 0
  · rw [dpssTaper_even raw ts hi]; split <;> simp
  · rw [dpssTaper_odd raw ts hi]; split <;> simp

theorem dpssTaper_length (N i : ℕ) (raw : List ℝ) (ts : ℝ) :
    (dpssTaper N i raw ts).length = N := by
  rcases dpssTaper_eq_or N i raw ts with h | h <;> rw [h] <;> simp [scaled_length]

/-- entries of the output taper: a multiple `c · raw[n]` of the raw column, `c = ±1/√N` -/
theorem dpssTaper_getD (N i : ℕ) (raw : List ℝ) (ts : ℝ) :
    ∃ c : ℝ, c * c = 1 / (N : ℝ) ∧ ∀ n, n < N → (dpssTaper N i raw ts).getD n 0 = c * raw.getD n 0 := by
  have hs : (1 / Real.sqrt (N : ℝ)) * (1 / Real.sqrt (N : ℝ)) = 1 / (N : ℝ) := by
    rw [div_mul_div_comm, one_mul, Real.mul_self_sqrt (Nat.cast_nonneg N)]
  rcases dpssTaper_eq_or N i raw ts with h | h
  · refine ⟨1 / Real.sqrt (N : ℝ), hs, fun n hn => ?_⟩
    rw [h, getD_scaled raw hn, one_div, mul_comm, div_eq_mul_inv]
  · refine ⟨-(1 / Real.sqrt (N : ℝ)), by rw [neg_mul_neg, hs], fun n hn => ?_⟩
    rw [h, getD_map_neg, getD_scaled raw hn, one_div, neg_mul, mul_comm, div_eq_mul_inv]

theorem glue_tapers_eq (N : ℕ) (NW : ℝ) (raws : List (List ℝ)) (tapsum : List ℝ) :
    (dpssGlue N NW raws tapsum).1
      = vec raws.length (fun i => dpssTaper N i (raws.getD i []) (tapsum.getD i 0)) := rfl

theorem glue_eigvals_eq (N : ℕ) (NW : ℝ) (raws : List (List ℝ)) (tapsum : List ℝ) :
    (dpssGlue N NW raws tapsum).2
      = vec raws.length (fun i => dpssEigval N (NW / (N : ℝ)) (dpssTaper N i (raws.getD i []) (tapsum.getD i 0))) :=
  map_vec _ _ _

theorem glue_taper_getD (N : ℕ) (NW : ℝ) (raws : List (List ℝ)) (tapsum : List ℝ) {i : ℕ}
    (hi : i < raws.length) :
    (dpssGlue N NW raws tapsum).1.getD i [] = dpssTaper N i (raws.getD i []) (tapsum.getD i 0) :=
  getD_vec_lt _ hi _

theorem acvs_eq (t : List ℝ) (d : ℕ) :
    acvs t d = ∑ n ∈ range (t.length - d), t.getD n 0 * t.getD (n + d) 0 :=
  sumR_eq_sum _ _

theorem dpssEigval_eq (N : ℕ) (W : ℝ) (t : List ℝ) :
    dpssEigval N W t = ∑ d ∈ range N, acvs t d * sincSeq W d :=
  sumR_eq_sum _ _

/-- `K[n,m] = sin(2πW(n-m)) / (π(n-m))`, `2W` on the diagonal -/
noncomputable def sincKernel (W : ℝ) (n m : ℕ) : ℝ :=
  if n = m then 2 * W
  else Real.sin (2 * Real.pi * W * ((n : ℝ) - (m : ℝ))) / (Real.pi * ((n : ℝ) - (m : ℝ)))

/-- the kernel as a function of the real lag: `ρ(x) = sin(2πWx)/(πx)`, `2W` at `x = 0` -/
noncomputable def rho (W x : ℝ) : ℝ :=
  if x = 0 then 2 * W else Real.sin (2 * Real.pi * W * x) / (Real.pi * x)

theorem sincKernel_eq_rho (W : ℝ) (n m : ℕ) : sincKernel W n m = rho W ((n : ℝ) - (m : ℝ)) := by
  unfold sincKernel rho
  simp only [sub_eq_zero, Nat.cast_inj]

theorem rho_neg (W x : ℝ) : rho W (-x) = rho W x := by
  unfold rho
  simp only [neg_eq_zero, mul_neg, Real.sin_neg, neg_div_neg_eq]

theorem sincKernel_diag (W : ℝ) (n : ℕ) : sincKernel W n n = 2 * W := by
  simp [sincKernel]

theorem sincKernel_symm (W : ℝ) (n m : ℕ) : sincKernel W n m = sincKernel W m n := by
  rw [sincKernel_eq_rho, sincKernel_eq_rho, ← rho_neg, neg_sub]

theorem sincKernel_add_left (W : ℝ) (n m : ℕ) : sincKernel W (n + m) n = rho W m := by
  rw [sincKernel_eq_rho, Nat.cast_add, add_sub_cancel_left]

theorem sincSeq_zero (W : ℝ) : sincSeq W 0 = 2 * W := by
  simp [sincSeq]

/-- `r_d = 4W·sinc(2Wd) = 2ρ(d)` for `d ≥ 1` (also at `W = 0`, where both sides vanish) -/
theorem sincSeq_pos (W : ℝ) {d : ℕ} (hd : 1 ≤ d) : sincSeq W d = 2 * rho W d := by
  have hd0 : d ≠ 0 := by omega
  have hdR : (d : ℝ) ≠ 0 := Nat.cast_ne_zero.mpr hd0
  rw [sincSeq, if_neg hd0, sinc_real, rho, if_neg hdR]
  push_cast
  by_cases hW : W = 0
  · subst hW; simp
  · have hx : 2 * W * (d : ℝ) ≠ 0 := mul_ne_zero (mul_ne_zero two_ne_zero hW) hdR
    rw [if_neg hx]
    -- cancel `2W`: `4W · S/(2W·πd) = 2 · S/(πd)`
    rw [mul_left_comm Real.pi (2 * W) d, show 2 * Real.pi * W * (d : ℝ) = 2 * W * (Real.pi * d) by ring,
      show (4 : ℝ) * W = 2 * (2 * W) by ring, mul_assoc 2 (2 * W), ← mul_div_assoc (2 * W),
      mul_div_mul_left _ _ (mul_ne_zero two_ne_zero hW)]

/-- sum by diagonals (`sum_square_by_diag`): lag `d ≥ 1` of the autocovariance meets the `d`-th diagonal of `K` twice, hence
`r_d = 2ρ(d)` -/
theorem eigval_eq_quadform (N : ℕ) (W : ℝ) (t : List ℝ) (ht : t.length = N) :
    dpssEigval N W t
      = ∑ n ∈ range N, ∑ m ∈ range N, t.getD n 0 * sincKernel W n m * t.getD m 0 := by
  rcases Nat.eq_zero_or_pos N with h0 | hpos
  · subst h0; simp [dpssEigval_eq]
  rw [sum_square_by_diag N (fun n m => t.getD n 0 * sincKernel W n m * t.getD m 0),
    dpssEigval_eq, Finset.sum_range_eq_add_Ico _ hpos]
  congr 1
  · rw [acvs_eq, sincSeq_zero, ht, Nat.sub_zero, Finset.sum_mul]
    apply Finset.sum_congr rfl
    intro n _
    rw [sincKernel_diag, Nat.add_zero]; ring
  · apply Finset.sum_congr rfl
    intro d hd
    have hd1 : 1 ≤ d := (Finset.mem_Ico.mp hd).1
    rw [acvs_eq, sincSeq_pos W hd1, ht, Finset.sum_mul]
    apply Finset.sum_congr rfl
    intro n _
    rw [sincKernel_add_left, sincKernel_symm W n (n + d), sincKernel_add_left]; ring

theorem sum_scaled (N : ℕ) (raw : List ℝ) :
    ∑ n ∈ range N, (scaled N raw).getD n 0 = (∑ n ∈ range N, raw.getD n 0) / Real.sqrt (N : ℝ) := by
  rw [Finset.sum_div]
  apply Finset.sum_congr rfl
  intro n hn
  rw [getD_scaled raw (Finset.mem_range.mp hn)]

theorem sum_map_neg (N : ℕ) (t : List ℝ) :
    ∑ n ∈ range N, (t.map (fun v => -v)).getD n 0 = -∑ n ∈ range N, t.getD n 0 := by
  rw [← Finset.sum_neg_distrib]
  apply Finset.sum_congr rfl
  intro n _
  rw [getD_map_neg]

theorem sum_mul_mul_mul (N : ℕ) (c d : ℝ) (a b : ℕ → ℝ) :
    ∑ n ∈ range N, c * a n * (d * b n) = c * d * ∑ n ∈ range N, a n * b n := by
  rw [Finset.mul_sum]
  exact Finset.sum_congr rfl (fun n _ => by ring)

theorem normsq_dpssTaper (N i : ℕ) (raw : List ℝ) (ts : ℝ) :
    ∑ n ∈ range N, (dpssTaper N i raw ts).getD n 0 * (dpssTaper N i raw ts).getD n 0
      = (∑ n ∈ range N, raw.getD n 0 * raw.getD n 0) / (N : ℝ) := by
  obtain ⟨c, hcc, hc⟩ := dpssTaper_getD N i raw ts
  rw [Finset.sum_congr rfl (fun n hn => by rw [hc n (Finset.mem_range.mp hn)]),
    sum_mul_mul_mul, hcc, one_div, inv_mul_eq_div]

theorem eigvec_dpssTaper (N i : ℕ) (K : ℕ → ℕ → ℝ) (μ : ℝ) (raw : List ℝ) (ts : ℝ)
    (hev : ∀ n, n < N → ∑ m ∈ range N, K n m * raw.getD m 0 = μ * raw.getD n 0) :
    ∀ n, n < N → ∑ m ∈ range N, K n m * (dpssTaper N i raw ts).getD m 0
      = μ * (dpssTaper N i raw ts).getD n 0 := by
  obtain ⟨c, _, hc⟩ := dpssTaper_getD N i raw ts
  intro n hn
  rw [Finset.sum_congr rfl (fun m hm => by rw [hc m (Finset.mem_range.mp hm), mul_left_comm]),
    ← Finset.mul_sum, hev n hn, hc n hn, mul_left_comm]

theorem quadform_of_eigvec (N : ℕ) (K : ℕ → ℕ → ℝ) (μ : ℝ) (t : ℕ → ℝ)
    (hev : ∀ n, n < N → ∑ m ∈ range N, K n m * t m = μ * t n)
    (hunit : ∑ n ∈ range N, t n * t n = 1) :
    ∑ n ∈ range N, ∑ m ∈ range N, t n * K n m * t m = μ := by
  have h : ∀ n ∈ range N, ∑ m ∈ range N, t n * K n m * t m = μ * (t n * t n) := fun n hn => by
    rw [Finset.sum_congr rfl (fun m _ => mul_assoc (t n) (K n m) (t m)), ← Finset.mul_sum,
      hev n (Finset.mem_range.mp hn), mul_left_comm]
  rw [Finset.sum_congr rfl h, ← Finset.mul_sum, hunit, mul_one]

theorem exists_ne_zero_of_normsq {N : ℕ} (v : ℕ → ℝ) (h : ∑ n ∈ range N, v n * v n ≠ 0) :
    ∃ i, i < N ∧ v i ≠ 0 := by
  by_contra hcon
  push Not at hcon
  exact h (Finset.sum_eq_zero (fun n hn => by rw [hcon n (Finset.mem_range.mp hn), mul_zero]))

/-- the test taper of two examples of C18: largest magnitude `1`, first significant sample `-1` -/
theorem taper_example : absMax ([1 / 1000000000, -1, 1, 0] : List ℝ) = 1 ∧
    firstSignificant ([1 / 1000000000, -1, 1, 0] : List ℝ) = -1 := by
  have hM : absMax ([1 / 1000000000, -1, 1, 0] : List ℝ) = 1 := by
    simp only [absMax_eq_foldl, spec_eval]
    norm_num
  refine ⟨hM, ?_⟩
  simp only [firstSignificant_eq, hM, spec_eval]
  norm_num

end SpecVerif.DpssL
