import SpecVerif.Proofs.Lemmas.WienerKhinchin
import SpecVerif.Proofs.Lemmas.DFTOrth
import SpecVerif.Proofs.Lemmas.Similarity
import SpecVerif.Model.Lpc
/-
  `lpc` (lpc.py): `ifft ∘ fft = id` for the model's DFT tables plus Wiener–Khinchin give the FFT
  autocorrelation `lpcAcf` in closed form (no wrap-around for `nfft ≥ 2m−1`); `levRun` reads only the
  first `p` lags and is scale invariant, so `lpc` is Levinson on `m/(m−1)` times the biased lags
  (`lpc_eq_scaleLev`).
-/
namespace SpecVerif.LpcL
open Finset SpecVerif

section IDFT
variable {K : Type} [Field K]

theorem idft_dft_fun {ω : K} {n : ℕ} (hω : IsPrimitiveRoot ω n) (hn0 : (n : K) ≠ 0) (s : ℕ → K)
    (d : ℕ) (hd : d < n) :
    (∑ k ∈ range n, (∑ j ∈ range n, s j * ω ^ (j * k)) * ω⁻¹ ^ (k * d)) / (n : K) = s d := by
  have h : ∑ k ∈ range n, (∑ j ∈ range n, s j * ω ^ (j * k)) * ω⁻¹ ^ (k * d) = (n : K) * s d := by
    simp only [Finset.sum_mul]
    rw [Finset.sum_comm]
    have : ∀ j ∈ range n, ∑ k ∈ range n, s j * ω ^ (j * k) * ω⁻¹ ^ (k * d)
        = s j * (if j = d then (n : K) else 0) := by
      intro j hj
      rw [← sum_pow_mul_inv_pow hω j d (mem_range.mp hj) hd, Finset.mul_sum]
      apply Finset.sum_congr rfl
      intro k _
      rw [pow_mul, mul_comm k d, pow_mul, mul_assoc]
    rw [Finset.sum_congr rfl this, Finset.sum_eq_single d, if_pos rfl, mul_comm]
    · intro j _ hjd
      rw [if_neg hjd, mul_zero]
    · intro h
      exact absurd (mem_range.mpr hd) h
  rw [h, mul_div_cancel_left₀ _ hn0]

/-- `ifft(fft(s, n))[d] = s[d]`: `fft` uses the table of `ω`, `ifft` that of `ω⁻¹` and the factor `1/n` -/
theorem idft_dft {ω : K} {n : ℕ} (hω : IsPrimitiveRoot ω n) (hn0 : (n : K) ≠ 0) (s : List K)
    (d : ℕ) (hd : d < n) :
    dftBin (twiddles ω⁻¹ n) n (vec n (fun k => dftBin (twiddles ω n) n s k)) d / (n : K)
      = nth s d := by
  have hn : 0 < n := by omega
  have h1 : ω ^ n = 1 := hω.pow_eq_one
  have h1' : ω⁻¹ ^ n = 1 := by rw [inv_pow, h1, inv_one]
  rw [dftBin_eq_full hn h1']
  have : ∀ k ∈ range n, nth (vec n (fun k => dftBin (twiddles ω n) n s k)) k * ω⁻¹ ^ (k * d)
      = (∑ j ∈ range n, nth s j * ω ^ (j * k)) * ω⁻¹ ^ (k * d) := by
    intro k hk
    rw [nth_vec, if_pos (mem_range.mp hk), dftBin_eq_full hn h1]
  rw [Finset.sum_congr rfl this]
  exact idft_dft_fun hω hn0 (nth s) d hd

end IDFT

section Acf
variable {K : Type} [Field K] [StarRing K]

theorem rawCorr_star_real (N : ℕ) (x : ℕ → K) (hx : ∀ n, star (x n) = x n) (d : ℕ) :
    star (rawCorr N x d) = rawCorr N x d := by
  unfold rawCorr
  rw [star_sum]
  apply Finset.sum_congr rfl
  intro n _
  rw [star_mul', star_star, hx (n + d), hx n]

/-- Wiener–Khinchin on the grid: `|fft(x, nfft)[k]|²` is bin `k` of the DFT of the two-sided raw lags -/
theorem abs2_dftBin_eq_dft_lagSeq {ω : K} {nfft : ℕ} (hω : IsPrimitiveRoot ω nfft)
    (hstar : star ω = ω⁻¹) (x : List K) (hm : 1 ≤ x.length) (hnfft : 2 * x.length - 1 ≤ nfft)
    (k : ℕ) :
    abs2 (dftBin (twiddles ω nfft) nfft x k)
      = dftBin (twiddles ω nfft) nfft
          (correlogramSeq (vec x.length (rawCorr x.length (nth x)))
            (vec x.length (rawCorr x.length (nth x))) (vec (x.length - 1) (fun _ => (1 : K)))
            (x.length - 1) nfft) k := by
  have hn : 0 < nfft := by omega
  have h1 : ω ^ nfft = 1 := hω.pow_eq_one
  have hω0 : ω ≠ 0 := hω.ne_zero hn.ne'
  rw [dftBin_correlogramSeq (by omega) h1, abs2_eq, dftBin_eq hn h1,
    Nat.min_eq_left (by omega : x.length ≤ nfft), wiener_khinchin_root hω0 hstar,
    Nat.sub_add_cancel hm, nth_vec_lt _ (by omega : 0 < x.length)]
  refine congrArg (_ + ·) (Finset.sum_congr rfl ?_)
  intro l hl
  have hl' := Finset.mem_Ico.mp hl
  rw [nth_vec_lt _ hl'.2, nth_vec_lt _ (by omega : l - 1 < x.length - 1), mul_one, mul_one]

/-- `real(ifft(|fft(x, nfft)|²))/(m-1)`: no circular wrap-around at the lags `d < m` when `2m-1 ≤ nfft` -/
theorem lpcAcf_eq {ω : K} {nfft : ℕ} (hω : IsPrimitiveRoot ω nfft) (hstar : star ω = ω⁻¹)
    (hn0 : (nfft : K) ≠ 0) (x : List K) (hnfft : 2 * x.length - 1 ≤ nfft) (d : ℕ)
    (hd : d < x.length) :
    nth (lpcAcf (twiddles ω nfft) (twiddles ω⁻¹ nfft) x nfft) d
      = rePart (rawCorr x.length (nth x) d) / ((x.length - 1 : ℕ) : K) := by
  have hm : 1 ≤ x.length := by omega
  have hdn : d < nfft := by omega
  unfold lpcAcf
  rw [nth_vec, if_pos hdn]
  have hX2 : vec nfft (fun k => abs2 (dftBin (twiddles ω nfft) nfft x k))
      = vec nfft (fun k => dftBin (twiddles ω nfft) nfft
          (correlogramSeq (vec x.length (rawCorr x.length (nth x)))
            (vec x.length (rawCorr x.length (nth x))) (vec (x.length - 1) (fun _ => (1 : K)))
            (x.length - 1) nfft) k) :=
    vec_ext (fun k _ => abs2_dftBin_eq_dft_lagSeq hω hstar x hm hnfft k)
  rw [hX2, idft_dft hω hn0 _ d hdn]
  have hL : 2 * (x.length - 1) + 1 ≤ nfft := by omega
  rcases Nat.eq_zero_or_pos d with h0 | hpos
  · subst h0
    rw [nth_correlogramSeq_zero hL, nth_vec, if_pos hd]
  · rw [nth_correlogramSeq_pos hL _ _ _ hpos (by omega), nth_vec, if_pos hd, nth_vec,
      if_pos (by omega : d - 1 < x.length - 1), mul_one]

theorem lpcAcf_real {ω : K} {nfft : ℕ} (hω : IsPrimitiveRoot ω nfft) (hstar : star ω = ω⁻¹)
    (h2 : (2 : K) ≠ 0) (hn0 : (nfft : K) ≠ 0) (x : List K)
    (hreal : ∀ n, star (nth x n) = nth x n) (hm : (x.length : K) ≠ 0)
    (hnfft : 2 * x.length - 1 ≤ nfft) (d : ℕ) (hd : d < x.length) :
    nth (lpcAcf (twiddles ω nfft) (twiddles ω⁻¹ nfft) x nfft) d
      = (x.length : K) / ((x.length - 1 : ℕ) : K)
        * (rawCorr x.length (nth x) d / (x.length : K)) := by
  rw [lpcAcf_eq hω hstar hn0 x hnfft d hd, rePart_of_star_eq h2 (rawCorr_star_real _ _ hreal d),
    div_mul_div_comm, mul_comm, mul_div_mul_right _ _ hm]

end Acf

section Lev
variable {K : Type} [Field K] [StarRing K]

theorem levStep_congr (T T' : List K) (s : LevState K) (k : ℕ)
    (h : ∀ j, j ≤ k → nth T j = nth T' j) : levStep T s k = levStep T' s k := by
  have hs : nth T k + sumR k (fun j => nth s.A j * nth T (k - j - 1))
      = nth T' k + sumR k (fun j => nth s.A j * nth T' (k - j - 1)) := by
    rw [sumR_eq_sum, sumR_eq_sum, h k le_rfl]
    congr 1
    apply Finset.sum_congr rfl
    intro j _
    rw [h (k - j - 1) (by omega)]
  unfold levStep
  simp only [hs]

theorem levRun_congr (r0 : K) (T T' : List K) (p : ℕ) (h : ∀ j, j < p → nth T j = nth T' j) :
    levRun r0 T p = levRun r0 T' p := by
  induction p with
  | zero => rfl
  | succ p ih =>
    show levStep T (levRun r0 T p) p = levStep T' (levRun r0 T' p) p
    rw [ih (fun j hj => h j (by omega))]
    exact levStep_congr T T' _ p (fun j hj => h j (by omega))

/-- `r` is any list whose entries `0..p` are the biased lags `rawCorr_d / m` (the one `aryule` uses
has `p + 1` entries) -/
theorem lpc_eq_scaleLev {ω : K} {nfft : ℕ} (hω : IsPrimitiveRoot ω nfft) (hstar : star ω = ω⁻¹)
    (h2 : (2 : K) ≠ 0) (hn0 : (nfft : K) ≠ 0) (x : List K)
    (hreal : ∀ n, star (nth x n) = nth x n)
    (hm1 : ((x.length - 1 : ℕ) : K) ≠ 0) (hm : (x.length : K) ≠ 0)
    (hnfft : 2 * x.length - 1 ≤ nfft) (p : ℕ) (hp : p ≤ x.length - 1) (r : List K)
    (hr : ∀ d, d ≤ p → nth r d = rawCorr x.length (nth x) d / (x.length : K)) :
    lpc (twiddles ω nfft) (twiddles ω⁻¹ nfft) x nfft p
      = ScaleL.scaleLev ((x.length : K) / ((x.length - 1 : ℕ) : K)) (levRun (nth r 0) r.tail p) := by
  have hlen : 2 ≤ x.length := by
    by_contra hc
    have : x.length - 1 = 0 := by omega
    rw [this] at hm1
    exact hm1 Nat.cast_zero
  have ht0 : (x.length : K) / ((x.length - 1 : ℕ) : K) ≠ 0 := div_ne_zero hm hm1
  have hR := fun d hd => lpcAcf_real hω hstar h2 hn0 x hreal hm hnfft d hd
  have hR0 : rePart (nth (lpcAcf (twiddles ω nfft) (twiddles ω⁻¹ nfft) x nfft) 0)
      = (x.length : K) / ((x.length - 1 : ℕ) : K) * nth r 0 := by
    rw [hR 0 (by omega), hr 0 (Nat.zero_le _)]
    apply rePart_of_star_eq h2
    rw [star_mul', star_div₀, star_div₀, star_natCast, star_natCast,
      rawCorr_star_real _ _ hreal 0]
  unfold lpc
  dsimp only
  rw [hR0, ← ScaleL.levRun_smul ht0]
  apply levRun_congr
  intro j hj
  rw [nth_tail, hR (j + 1) (by omega), nth_map_mul_left, nth_tail, hr (j + 1) (by omega)]

end Lev

end SpecVerif.LpcL
