import SpecVerif.Proofs.Lemmas.Basic
import SpecVerif.Proofs.Lemmas.RealFn
import SpecVerif.Model.Window
import Mathlib.Analysis.SpecialFunctions.Trigonometric.Bounds
/-
  The window generators of `Model/Window.lean` at `R := ℝ` (instance `instRealFnReal`).  A generator is `vec N f` or the
  guarded `if N = 1 then [1] else vec N f`; symmetry, maximum and centre sample of the list are reduced to the sample
  formula `f` (`symm_vec`, `max_guard`, …), and `f` is an even function of an equally spaced abscissa.  Every such
  abscissa is a `numpy.linspace`, whose mirror image, centre and range are proved once.
-/
namespace SpecVerif.WinL
open Finset SpecVerif

theorem two_real : (two : ℝ) = 2 := by simp [two]
theorem dec_real (m d : ℕ) : (dec m d : ℝ) = (m : ℝ) / 10 ^ d := by simp [dec]

theorem theta_real (N n : ℕ) : (theta N n : ℝ) = 2 * Real.pi * n / ((N - 1 : ℕ) : ℝ) := by
  rw [theta, two_real, pi_real]

theorem cosSum_real (a0 a1 a2 a3 a4 x : ℝ) :
    cosSum a0 a1 a2 a3 a4 x
      = a0 - a1 * Real.cos x + a2 * Real.cos (2 * x) - a3 * Real.cos (3 * x) + a4 * Real.cos (4 * x) := by
  simp only [cosSum, two_real, cos_real, Nat.cast_ofNat]

theorem nth_guard (N : ℕ) (f : ℕ → ℝ) (n : ℕ) (hn : n < N) :
    nth (if N = 1 then [1] else vec N f) n = if N = 1 then 1 else f n := by
  by_cases h : N = 1
  · rw [if_pos h, if_pos h, show n = 0 by omega]
    rfl
  · rw [if_neg h, if_neg h, nth_vec_lt _ hn]

theorem length_guard (N : ℕ) (f : ℕ → ℝ) : (if N = 1 then [1] else vec N f).length = N := by
  by_cases h : N = 1
  · rw [if_pos h, h]
    rfl
  · rw [if_neg h, vec_length]

theorem length_flattop (N : ℕ) (p : Bool) : (wFlattop (R := ℝ) N p).length = N := by
  unfold wFlattop
  split
  · next h => simp [h.2]
  · exact vec_length _ _

theorem symm_vec (N : ℕ) (f : ℕ → ℝ) (h : 2 ≤ N → ∀ n, n < N → f n = f (N - 1 - n))
    (n : ℕ) (hn : n < N) :
    nth (vec N f) n = nth (vec N f) (N - 1 - n) := by
  by_cases h2 : 2 ≤ N
  · rw [nth_vec_lt _ hn, nth_vec_lt _ (show N - 1 - n < N by omega)]
    exact h h2 n hn
  · rw [show N - 1 - n = n by omega]

theorem symm_guard (N : ℕ) (f : ℕ → ℝ) (h : 2 ≤ N → ∀ n, n < N → f n = f (N - 1 - n))
    (n : ℕ) (hn : n < N) :
    nth (if N = 1 then [1] else vec N f) n = nth (if N = 1 then [1] else vec N f) (N - 1 - n) := by
  by_cases h1 : N = 1
  · rw [show N - 1 - n = n by omega]
  · rw [if_neg h1]
    exact symm_vec N f h n hn

theorem max_vec (N : ℕ) (f : ℕ → ℝ) (h : ∀ n, n < N → f n ≤ 1) (n : ℕ) (hn : n < N) :
    nth (vec N f) n ≤ 1 := by
  rw [nth_vec_lt _ hn]
  exact h n hn

theorem max_guard (N : ℕ) (f : ℕ → ℝ) (h : 2 ≤ N → ∀ n, n < N → f n ≤ 1) (n : ℕ) (hn : n < N) :
    nth (if N = 1 then [1] else vec N f) n ≤ 1 := by
  by_cases h1 : N = 1
  · rw [if_pos h1, show n = 0 by omega]
    exact le_refl (1 : ℝ)
  · rw [if_neg h1]
    exact max_vec N f (h (by omega)) n hn

theorem centre_vec (N : ℕ) (h3 : 3 ≤ N) (f : ℕ → ℝ) :
    nth (vec N f) ((N - 1) / 2) = f ((N - 1) / 2) :=
  nth_vec_lt _ (by omega)

theorem centre_guard (N : ℕ) (h3 : 3 ≤ N) (f : ℕ → ℝ) :
    nth (if N = 1 then [1] else vec N f) ((N - 1) / 2) = f ((N - 1) / 2) := by
  rw [if_neg (by omega)]
  exact centre_vec N h3 f

theorem enbw_real (w : List ℝ) :
    enbw w = (w.length : ℝ) * (∑ i ∈ range w.length, nth w i ^ 2) / (∑ i ∈ range w.length, nth w i) ^ 2 := by
  simp only [enbw, sumR_eq_sum, nth, pow_two]

theorem cast_pred_ne (N : ℕ) (h : 2 ≤ N) : ((N - 1 : ℕ) : ℝ) ≠ 0 := by
  have : N - 1 ≠ 0 := by omega
  exact_mod_cast this

theorem cast_pred_pos (N : ℕ) (h : 2 ≤ N) : (0 : ℝ) < ((N - 1 : ℕ) : ℝ) := by
  have : 0 < N - 1 := by omega
  exact_mod_cast this

theorem cast_mirror (N n : ℕ) (hn : n < N) : ((N - 1 - n : ℕ) : ℝ) = ((N - 1 : ℕ) : ℝ) - n := by
  rw [Nat.cast_sub (by omega)]

theorem cast_half (N : ℕ) (hodd : N % 2 = 1) :
    (((N - 1) / 2 : ℕ) : ℝ) = ((N - 1 : ℕ) : ℝ) / 2 := by
  rw [eq_div_iff two_ne_zero]
  exact_mod_cast Nat.div_mul_cancel ((Nat.dvd_iff_mod_eq_zero).mpr (by omega : (N - 1) % 2 = 0))

theorem linspace_of_two_le (a b : ℝ) (N n : ℕ) (h : 2 ≤ N) :
    linspace a b N n = a + (n : ℝ) * ((b - a) / ((N - 1 : ℕ) : ℝ)) := by
  unfold linspace
  rw [if_neg (by omega)]

theorem linspace_of_le_one (a b : ℝ) (N n : ℕ) (h : N ≤ 1) : linspace a b N n = a := by
  unfold linspace
  rw [if_pos h]

theorem linspace_mirror (a b : ℝ) (N n : ℕ) (h : 2 ≤ N) (hn : n < N) :
    linspace a b N (N - 1 - n) = a + b - linspace a b N n := by
  rw [linspace_of_two_le _ _ _ _ h, linspace_of_two_le _ _ _ _ h, cast_mirror N n hn, sub_mul,
    mul_div_cancel₀ _ (cast_pred_ne N h)]
  ring

theorem linspace_centre (a b : ℝ) (N : ℕ) (h3 : 3 ≤ N) (hodd : N % 2 = 1) :
    linspace a b N ((N - 1) / 2) = (a + b) / 2 := by
  rw [linspace_of_two_le _ _ _ _ (by omega), cast_half N hodd, div_mul_div_comm, mul_comm,
    mul_div_mul_right _ _ (cast_pred_ne N (by omega))]
  ring

theorem linspace_mem (a b : ℝ) (hab : a ≤ b) (N n : ℕ) (hn : n < N) :
    a ≤ linspace a b N n ∧ linspace a b N n ≤ b := by
  by_cases h : 2 ≤ N
  · have hp := cast_pred_pos N h
    have hle : (n : ℝ) ≤ ((N - 1 : ℕ) : ℝ) := Nat.cast_le.mpr (by omega)
    have hba : 0 ≤ b - a := sub_nonneg.mpr hab
    rw [linspace_of_two_le _ _ _ _ h]
    constructor
    · exact le_add_of_nonneg_right (mul_nonneg (Nat.cast_nonneg n) (div_nonneg hba hp.le))
    · rw [← le_sub_iff_add_le', ← mul_div_assoc, div_le_iff₀ hp, mul_comm]
      exact mul_le_mul_of_nonneg_left hle hba
  · rw [linspace_of_le_one _ _ _ _ (by omega)]
    exact ⟨le_rfl, hab⟩

/-! the abscissae the model writes out by hand, as `linspace`s -/

theorem theta_eq_linspace (N n : ℕ) (h : 2 ≤ N) : (theta N n : ℝ) = linspace 0 (2 * Real.pi) N n := by
  rw [theta_real, linspace_of_two_le _ _ _ _ h]
  ring

theorem centred_eq_linspace (N n : ℕ) (h : 2 ≤ N) :
    (two : ℝ) * (n : ℝ) / ((N - 1 : ℕ) : ℝ) - 1 = linspace (-1) 1 N n := by
  rw [two_real, linspace_of_two_le _ _ _ _ h]
  ring

theorem frac_eq_linspace (N n : ℕ) (h : 2 ≤ N) :
    (n : ℝ) / ((N - 1 : ℕ) : ℝ) = linspace 0 1 N n := by
  rw [linspace_of_two_le _ _ _ _ h]
  ring

theorem theta_mirror (N n : ℕ) (h : 2 ≤ N) (hn : n < N) :
    (theta N (N - 1 - n) : ℝ) = 2 * Real.pi - theta N n := by
  rw [theta_eq_linspace _ _ h, theta_eq_linspace _ _ h, linspace_mirror _ _ N n h hn, zero_add]

theorem theta_centre (N : ℕ) (h3 : 3 ≤ N) (hodd : N % 2 = 1) :
    (theta N ((N - 1) / 2) : ℝ) = Real.pi := by
  rw [theta_eq_linspace _ _ (by omega), linspace_centre _ _ N h3 hodd, zero_add,
    mul_div_cancel_left₀ _ two_ne_zero]

theorem linspace_neg_mirror (a : ℝ) (N n : ℕ) (h : 2 ≤ N) (hn : n < N) :
    linspace (-a) a N (N - 1 - n) = - linspace (-a) a N n := by
  rw [linspace_mirror _ _ N n h hn, neg_add_cancel, zero_sub]

theorem linspace_neg_centre (a : ℝ) (N : ℕ) (h3 : 3 ≤ N) (hodd : N % 2 = 1) :
    linspace (-a) a N ((N - 1) / 2) = 0 := by
  rw [linspace_centre _ _ N h3 hodd, neg_add_cancel, zero_div]

theorem linspace_abs_le (a : ℝ) (ha : 0 ≤ a) (N n : ℕ) (hn : n < N) : |linspace (-a) a N n| ≤ a :=
  abs_le.mpr (linspace_mem (-a) a (neg_le_self ha) N n hn)

theorem tHalf_mirror (N n : ℕ) (h : 2 ≤ N) (hn : n < N) :
    (tHalf N (N - 1 - n) : ℝ) = - tHalf N n :=
  linspace_neg_mirror _ N n h hn

theorem tHalf_centre (N : ℕ) (h3 : 3 ≤ N) (hodd : N % 2 = 1) :
    (tHalf N ((N - 1) / 2) : ℝ) = 0 :=
  linspace_neg_centre _ N h3 hodd

theorem cos_mul_mirror (k : ℕ) (x : ℝ) :
    Real.cos ((k : ℝ) * (2 * Real.pi - x)) = Real.cos ((k : ℝ) * x) := by
  rw [mul_sub, Real.cos_nat_mul_two_pi_sub]

theorem cosSum_mirror (a0 a1 a2 a3 a4 x : ℝ) :
    cosSum a0 a1 a2 a3 a4 (2 * Real.pi - x) = cosSum a0 a1 a2 a3 a4 x := by
  rw [cosSum_real, cosSum_real, Real.cos_two_pi_sub]
  have h2 := cos_mul_mirror 2 x
  have h3 := cos_mul_mirror 3 x
  have h4 := cos_mul_mirror 4 x
  norm_num at h2 h3 h4
  rw [h2, h3, h4]

theorem cosSum_le (a0 a1 a2 a3 a4 x : ℝ) (h1 : 0 ≤ a1) (h2 : 0 ≤ a2) (h3 : 0 ≤ a3) (h4 : 0 ≤ a4) :
    cosSum a0 a1 a2 a3 a4 x ≤ a0 + a1 + a2 + a3 + a4 := by
  rw [cosSum_real]
  have e1 := mul_le_mul_of_nonneg_left (Real.neg_one_le_cos x) h1
  have e2 := mul_le_mul_of_nonneg_left (Real.cos_le_one (2 * x)) h2
  have e3 := mul_le_mul_of_nonneg_left (Real.neg_one_le_cos (3 * x)) h3
  have e4 := mul_le_mul_of_nonneg_left (Real.cos_le_one (4 * x)) h4
  linarith

theorem cosSum_pi (a0 a1 a2 a3 a4 : ℝ) :
    cosSum a0 a1 a2 a3 a4 Real.pi = a0 + a1 + a2 + a3 + a4 := by
  rw [cosSum_real]
  have e2 : Real.cos (2 * Real.pi) = 1 := Real.cos_two_pi
  have e3 : Real.cos (3 * Real.pi) = -1 := by
    rw [show (3 : ℝ) * Real.pi = ((3 : ℕ) : ℝ) * Real.pi by norm_num, Real.cos_nat_mul_pi]; norm_num
  have e4 : Real.cos (4 * Real.pi) = 1 := by
    rw [show (4 : ℝ) * Real.pi = ((4 : ℕ) : ℝ) * Real.pi by norm_num, Real.cos_nat_mul_pi]; norm_num
  rw [Real.cos_pi, e2, e3, e4]
  ring

theorem dec_nonneg (m d : ℕ) : (0 : ℝ) ≤ dec m d := by
  rw [dec_real]; positivity

/-- `a0 - a1 cos θ + a2 cos 2θ - a3 cos 3θ + a4 cos 4θ` at `θ = 2πn/(N-1)`, `[1]` for `N = 1`: the common form of `wHamming`,
`wHann`, `wBlackman`, `wCoeff4` and the symmetric `wFlattop` -/
noncomputable def cosWin (N : ℕ) (a0 a1 a2 a3 a4 : ℝ) : List ℝ :=
  if N = 1 then [1] else vec N (fun n => cosSum a0 a1 a2 a3 a4 (theta N n))

theorem symm_cosWin (N : ℕ) (a0 a1 a2 a3 a4 : ℝ) (n : ℕ) (hn : n < N) :
    nth (cosWin N a0 a1 a2 a3 a4) n = nth (cosWin N a0 a1 a2 a3 a4) (N - 1 - n) := by
  unfold cosWin
  refine symm_guard N _ (fun h n hn => ?_) n hn
  rw [theta_mirror N n h hn, cosSum_mirror]

/-- the bound `c` is left free: the flat-top's published coefficients sum to `1.000000003` -/
theorem max_cosWin (N : ℕ) (a0 a1 a2 a3 a4 : ℝ) (h1 : 0 ≤ a1) (h2 : 0 ≤ a2) (h3 : 0 ≤ a3) (h4 : 0 ≤ a4)
    {c : ℝ} (hs : a0 + a1 + a2 + a3 + a4 ≤ c) (hc : 1 ≤ c) (n : ℕ) (hn : n < N) :
    nth (cosWin N a0 a1 a2 a3 a4) n ≤ c := by
  unfold cosWin
  rw [nth_guard N _ n hn]
  split_ifs
  · exact hc
  · exact (cosSum_le a0 a1 a2 a3 a4 _ h1 h2 h3 h4).trans hs

theorem centre_cosWin (N : ℕ) (a0 a1 a2 a3 a4 : ℝ) (h3 : 3 ≤ N) (hodd : N % 2 = 1) :
    nth (cosWin N a0 a1 a2 a3 a4) ((N - 1) / 2) = a0 + a1 + a2 + a3 + a4 := by
  unfold cosWin
  rw [centre_guard N h3, theta_centre N h3 hodd, cosSum_pi]

theorem wCoeff4_eq (N : ℕ) (a0 a1 a2 a3 : ℝ) : wCoeff4 N a0 a1 a2 a3 = cosWin N a0 a1 a2 a3 0 := rfl

theorem wHamming_eq (N : ℕ) : wHamming (R := ℝ) N = cosWin N (dec 54 2) (dec 46 2) 0 0 0 := by
  simp [wHamming, cosWin, cosSum]

theorem wHann_eq (N : ℕ) : wHann (R := ℝ) N = cosWin N (dec 5 1) (dec 5 1) 0 0 0 := by
  simp [wHann, cosWin, cosSum]

theorem wBlackman_eq (N : ℕ) (alpha : ℝ) :
    wBlackman N alpha = cosWin N ((1 - alpha) / two) (dec 5 1) (alpha / two) 0 0 := by
  simp [wBlackman, cosWin, cosSum]

theorem wFlattop_eq (N : ℕ) :
    wFlattop (R := ℝ) N false
      = cosWin N (dec 21557895 8) (dec 41663158 8) (dec 277263158 9) (dec 83578947 9) (dec 6947368 9) := by
  simp [wFlattop, cosWin]

theorem wFlattop_periodic_eq (N : ℕ) :
    wFlattop (R := ℝ) N true =
      vec N (fun n => cosSum (dec 21557895 8) (dec 41663158 8) (dec 277263158 9) (dec 83578947 9)
        (dec 6947368 9) (2 * Real.pi * (n : ℝ) / (N : ℝ))) := by
  simp [wFlattop, two_real, pi_real]

theorem sinc_neg (x : ℝ) : RealFn.sinc (-x) = RealFn.sinc x := by
  rw [sinc_real, sinc_real]
  by_cases h : x = 0
  · simp [h]
  · simp [h, Real.sin_neg]

theorem sinc_le_one (x : ℝ) : RealFn.sinc x ≤ 1 := by
  rw [sinc_real]
  split_ifs with h
  · exact le_rfl
  · have hpx : Real.pi * x ≠ 0 := mul_ne_zero Real.pi_ne_zero h
    refine (le_abs_self _).trans ?_
    rw [abs_div]
    exact div_le_one_of_le₀ Real.abs_sin_le_abs (abs_nonneg _)

theorem sinc_zero : RealFn.sinc (0 : ℝ) = 1 := by
  rw [sinc_real, if_pos rfl]

theorem bohman_le_one (x : ℝ) (h0 : 0 ≤ x) (h1 : x ≤ 1) :
    (1 - x) * Real.cos (Real.pi * x) + 1 / Real.pi * Real.sin (Real.pi * x) ≤ 1 := by
  have hpi := Real.pi_pos
  have e1 : (1 - x) * Real.cos (Real.pi * x) ≤ (1 - x) :=
    mul_le_of_le_one_right (sub_nonneg.mpr h1) (Real.cos_le_one _)
  have e2 : Real.sin (Real.pi * x) ≤ Real.pi * x := Real.sin_le (mul_nonneg hpi.le h0)
  have e3 : 1 / Real.pi * Real.sin (Real.pi * x) ≤ 1 / Real.pi * (Real.pi * x) :=
    mul_le_mul_of_nonneg_left e2 (one_div_pos.mpr hpi).le
  have e4 : 1 / Real.pi * (Real.pi * x) = x := by rw [one_div, inv_mul_cancel_left₀ hpi.ne']
  exact (add_le_add e1 (e3.trans_eq e4)).trans_eq (sub_add_cancel 1 x)

/-- the outer Parzen cubic on the range where the code uses it: `2v³ ≤ 1` for `v = 1 - u ≤ 3/4` -/
theorem parzen_outer_le (u : ℝ) (h0 : 1 / 4 ≤ u) (h1 : u ≤ 1) :
    2 * ((1 - u) * (1 - u) * (1 - u)) ≤ 1 := by
  have hv0 : 0 ≤ 1 - u := sub_nonneg.mpr h1
  have hv1 : 1 - u ≤ 3 / 4 := sub_le_comm.mp (le_trans (by norm_num) h0)
  have h2 : (1 - u) * (1 - u) ≤ 3 / 4 * (3 / 4) := mul_le_mul hv1 hv1 hv0 (le_trans hv0 hv1)
  have h3 : (1 - u) * (1 - u) * (1 - u) ≤ 3 / 4 * (3 / 4) * (3 / 4) :=
    mul_le_mul h2 hv1 hv0 (le_trans (mul_nonneg hv0 hv0) h2)
  calc 2 * ((1 - u) * (1 - u) * (1 - u)) ≤ 2 * (3 / 4 * (3 / 4) * (3 / 4)) :=
        mul_le_mul_of_nonneg_left h3 zero_le_two
    _ ≤ 1 := by norm_num

theorem parzen_inner_le (u : ℝ) (h1 : u ≤ 1) :
    1 - 6 * (u * u) + 6 * (u * u * u) ≤ 1 := by
  nlinarith [mul_nonneg (mul_self_nonneg u) (sub_nonneg.mpr h1)]

theorem nth_poisson_nonneg (N : ℕ) (alpha : ℝ) (n : ℕ) : 0 ≤ nth (wPoisson N alpha) n := by
  unfold wPoisson
  rw [nth_vec]
  split_ifs
  · exact (Real.exp_pos _).le
  · exact le_rfl

/-- the `let L` of `wTukey` (Model/Window), named; tied to the model by `wTukey_lobes` -/
noncomputable def tukeyL (N : ℕ) (r : ℝ) : ℕ :=
  ((List.range N).filter (fun n => RealFn.lt (linspace (0 : ℝ) 1 N n) (r / two))).length

/-- the `let lobe` of `wTukey`, named -/
noncomputable def tukeyLobe (N : ℕ) (r : ℝ) (n : ℕ) : ℝ :=
  dec 5 1 * (1 + RealFn.cos (two * RealFn.pi / r * (linspace (0 : ℝ) 1 N n - r / two)))

theorem wTukey_lobes (N : ℕ) (r : ℝ) (h1 : N ≠ 1) :
    wTukey N r false false =
      vec N (fun n => if n < tukeyL N r then tukeyLobe N r n
        else if N - tukeyL N r ≤ n then tukeyLobe N r (N - 1 - n) else 1) := by
  unfold wTukey
  rw [if_neg h1, if_neg Bool.false_ne_true, if_neg Bool.false_ne_true]
  -- what is left are the model's `let x`, `let L`, `let lobe`: `tukeyL`, `tukeyLobe` unfolded
  rfl

theorem wTukey_cases (P : List ℝ → Prop) (N : ℕ) (r : ℝ) (z o : Bool) (h1 : N = 1 → P [1])
    (hz : N ≠ 1 → P (vec N (fun _ => 1))) (ho : N ≠ 1 → P (wHann N))
    (hl : N ≠ 1 → P (wTukey N r false false)) : P (wTukey N r z o) := by
  by_cases hN : N = 1
  · rw [wTukey, if_pos hN]
    exact h1 hN
  · cases z
    · cases o
      · exact hl hN
      · rw [wTukey, if_neg hN, if_neg Bool.false_ne_true, if_pos rfl]
        exact ho hN
    · rw [wTukey, if_neg hN, if_pos rfl]
      exact hz hN

theorem length_tukey (N : ℕ) (r : ℝ) (z o : Bool) : (wTukey N r z o).length = N := by
  refine wTukey_cases (fun w => w.length = N) N r z o (fun h => h.symm) (fun _ => vec_length _ _)
    (fun _ => length_guard _ _) (fun h => ?_)
  rw [wTukey_lobes N r h]
  exact vec_length _ _

theorem tukey_shape_symm (N L : ℕ) (lobe : ℕ → ℝ) (h2L : 2 * L ≤ N) (n : ℕ) (hn : n < N) :
    (if n < L then lobe n else if N - L ≤ n then lobe (N - 1 - n) else 1)
      = (if N - 1 - n < L then lobe (N - 1 - n)
          else if N - L ≤ N - 1 - n then lobe (N - 1 - (N - 1 - n)) else 1) := by
  have e : N - 1 - (N - 1 - n) = n := Nat.sub_sub_self (Nat.le_sub_one_of_lt hn)
  -- a sample lies in the right lobe exactly when its mirror image lies in the left one
  have hr : ∀ k, k < N → (N - L ≤ k ↔ N - 1 - k < L) := fun k hk => by omega
  -- the lobes do not overlap
  have hx : ¬ (n < L ∧ N - 1 - n < L) := by omega
  simp only [hr n hn, hr (N - 1 - n) (by omega), e]
  by_cases h1 : n < L <;> by_cases h2 : N - 1 - n < L
  · exact absurd ⟨h1, h2⟩ hx
  · rw [if_pos h1, if_neg h2, if_pos h1]
  · rw [if_neg h1, if_pos h2, if_pos h2]
  · rw [if_neg h1, if_neg h2, if_neg h2, if_neg h1]

theorem filter_length_le (N K : ℕ) (p : ℕ → Bool) (h : ∀ n, n < N → p n = true → n < K) :
    ((List.range N).filter p).length ≤ K := by
  have hnd : ((List.range N).filter p).Nodup := List.Nodup.filter _ List.nodup_range
  rw [← List.toFinset_card_of_nodup hnd]
  calc ((List.range N).filter p).toFinset.card ≤ (Finset.range K).card := by
        apply Finset.card_le_card
        intro x hx
        rw [List.mem_toFinset, List.mem_filter, List.mem_range] at hx
        exact Finset.mem_range.mpr (h x hx.1 hx.2)
    _ = K := Finset.card_range K

/-- for `r ≤ 1` the two lobes do not overlap: a lobe sample has `n/(N-1) < 1/2` -/
theorem tukeyL_le (N : ℕ) (r : ℝ) (hr : r ≤ 1) (hN : 2 ≤ N) : 2 * tukeyL N r ≤ N := by
  have := filter_length_le N (N / 2) (fun n => RealFn.lt (linspace (0 : ℝ) 1 N n) (r / two)) (by
    intro n _ hp
    rw [lt_real, decide_eq_true_eq, ← frac_eq_linspace N n hN, two_real] at hp
    have h2 := (div_lt_div_iff₀ (cast_pred_pos N hN) two_pos).mp
      (lt_of_lt_of_le hp (div_le_div_of_nonneg_right hr zero_le_two))
    rw [one_mul] at h2
    have h3 : n * 2 < N - 1 := by exact_mod_cast h2
    omega)
  exact (Nat.mul_comm 2 _).trans_le ((Nat.le_div_iff_mul_le two_pos).mp this)

theorem tukeyLobe_le_one (N : ℕ) (r : ℝ) (n : ℕ) : tukeyLobe N r n ≤ 1 := by
  unfold tukeyLobe
  refine (mul_le_mul_of_nonneg_left ((add_le_add_iff_left 1).mpr (Real.cos_le_one _)) (dec_nonneg 5 1)).trans
    (le_of_eq ?_)
  rw [dec_real]
  norm_num

end SpecVerif.WinL
