import SpecVerif.Proofs.Lemmas.Levinson
/-
  The linear-prediction conversions between lags, polynomial and reflection coefficients
  (`rc2ac`, `poly2ac` against `levRun`; the step-up/step-down maps themselves are in `StepUp.lean`).
-/
namespace SpecVerif
open Finset

section
variable {K : Type}

/-- `acFold g e0 m` = `[e0] ++ [g R 0] ++ …`: each step appends `g (lags so far) m` — the shape of the `foldl` in
`poly2ac` -/
def acFold (g : List K → ℕ → K) (e0 : K) (m : ℕ) : List K :=
  (List.range m).foldl (fun R m => R ++ [g R m]) [e0]

theorem acFold_zero (g : List K → ℕ → K) (e0 : K) : acFold g e0 0 = [e0] := rfl

theorem acFold_succ (g : List K → ℕ → K) (e0 : K) (m : ℕ) :
    acFold g e0 (m + 1) = acFold g e0 m ++ [g (acFold g e0 m) m] := by
  unfold acFold
  rw [List.range_succ, List.foldl_append]
  rfl

theorem acFold_length (g : List K → ℕ → K) (e0 : K) (m : ℕ) : (acFold g e0 m).length = m + 1 := by
  induction m with
  | zero => rfl
  | succ m ih => rw [acFold_succ, List.length_append, ih, List.length_singleton]

theorem vec_take_append_singleton {β : Type} (F : List K → β) (kr : List K) (k : K) :
    vec (kr.length + 1) (fun i => F ((kr ++ [k]).take (i + 1)))
      = vec kr.length (fun i => F (kr.take (i + 1))) ++ [F (kr ++ [k])] := by
  rw [vec_succ]
  congr 1
  · apply vec_ext
    intro i hi
    rw [List.take_append_of_le_length (by omega)]
  · rw [List.take_of_length_le (by rw [List.length_append, List.length_singleton])]

variable [Zero K]

theorem take_succ_nth (kr : List K) (m : ℕ) (h : m < kr.length) :
    kr.take (m + 1) = kr.take m ++ [nth kr m] := by
  rw [nth_of_lt kr m h]; exact List.take_succ_eq_append_getElem h

theorem nth_acFold_stable (g : List K → ℕ → K) (e0 : K) (m m' j : ℕ) (hj : j ≤ m) (hm : m ≤ m') :
    nth (acFold g e0 m') j = nth (acFold g e0 m) j := by
  induction m' with
  | zero =>
    have : m = 0 := by omega
    subst this; rfl
  | succ n ih =>
    by_cases h : m = n + 1
    · subst h; rfl
    · rw [acFold_succ, nth_append_left _ _ _ (by rw [acFold_length]; omega)]
      exact ih (by omega)

theorem nth_acFold_succ (g : List K → ℕ → K) (e0 : K) (m p : ℕ) (h : m < p) :
    nth (acFold g e0 p) (m + 1) = g (acFold g e0 m) m := by
  rw [nth_acFold_stable g e0 (m + 1) p (m + 1) le_rfl h, acFold_succ]
  have := nth_append_length (acFold g e0 m) (g (acFold g e0 m) m)
  rwa [acFold_length] at this

theorem nth_acFold_zero (g : List K → ℕ → K) (e0 : K) (p : ℕ) : nth (acFold g e0 p) 0 = e0 := by
  rw [nth_acFold_stable g e0 0 p 0 le_rfl (Nat.zero_le _)]; rfl

end

section Forward
variable {K : Type} [Field K] [StarRing K]

/-- the lag `R_{m+1}` that `poly2ac` appends at step `m`, from the lags `R` found so far -/
def acNext (polys : List (List K)) (errs : List K) (k1 e0 : K) (R : List K) (m : ℕ) : K :=
  if m = 0 then -k1 * e0
  else -(sumR m (fun i => nth (polys.getD (m - 1) []) i * nth R (m - i)))
        - nth (polys.getD m []) m * nth errs (m - 1)

theorem poly2ac_eq_acFold (a : List K) (efinal : K) :
    poly2ac a efinal =
      let polys := (stepDowns a a.length).reverse
      let errs := (stepDownErrs a efinal a.length).reverse
      let k1 := nth (polys.getD 0 []) 0
      let e0 := nth errs 0 / (1 - abs2 k1)
      acFold (acNext polys errs k1 e0) e0 a.length := by
  unfold poly2ac acFold acNext
  dsimp only
  congr 1
  funext R m
  split <;> rfl

/-- the lower-order polynomials and errors of `rc2poly kr` are those of the prefixes of `kr` -/
theorem stepDowns_rc2poly (kr : List K) (r0 : K) (hk : ∀ k ∈ kr, 1 - k * star k ≠ 0) :
    (stepDowns (rc2poly kr r0).1 kr.length).reverse
      = vec kr.length (fun i => (rc2poly (kr.take (i + 1)) r0).1) ∧
    (stepDownErrs (rc2poly kr r0).1 (rc2poly kr r0).2 kr.length).reverse
      = vec kr.length (fun i => (rc2poly (kr.take (i + 1)) r0).2) := by
  induction kr using List.reverseRecOn with
  | nil => exact ⟨rfl, rfl⟩
  | append_singleton kr k ih =>
    have hk1 : 1 - k * star k ≠ 0 := hk k (List.mem_append_right _ (List.mem_singleton_self k))
    have hk2 : 1 - star k * k ≠ 0 := by rw [mul_comm]; exact hk1
    obtain ⟨ih1, ih2⟩ := ih (fun k' hk' => hk k' (List.mem_append_left _ hk'))
    rw [List.length_append, List.length_singleton,
      vec_take_append_singleton (fun l => (rc2poly l r0).1),
      vec_take_append_singleton (fun l => (rc2poly l r0).2), rc2poly_append_singleton]
    simp only [stepDowns, stepDownErrs, List.reverse_cons]
    rw [levdown_levup' _ _ hk1, levup_length, Nat.add_sub_cancel, nth_levup_last, conj_eq_star,
      mul_div_cancel_left₀ _ hk2, ih1, ih2]
    exact ⟨rfl, rfl⟩

theorem rc2poly_snd_ne_zero (kr : List K) (r0 : K) (hr0 : r0 ≠ 0)
    (hk : ∀ k ∈ kr, 1 - k * star k ≠ 0) : (rc2poly kr r0).2 ≠ 0 := by
  induction kr using List.reverseRecOn with
  | nil => exact hr0
  | append_singleton kr k ih =>
    rw [rc2poly_append_singleton]
    have hk' : 1 - star k * k ≠ 0 := by
      rw [mul_comm]
      exact hk k (List.mem_append_right _ (List.mem_singleton_self k))
    exact mul_ne_zero hk' (ih (fun k' hk' => hk k' (List.mem_append_left _ hk')))

theorem rc2poly_take_succ (kr : List K) (r0 : K) (m : ℕ) (h : m < kr.length) :
    rc2poly (kr.take (m + 1)) r0
      = (levup (rc2poly (kr.take m) r0).1 (nth kr m),
         (1 - star (nth kr m) * nth kr m) * (rc2poly (kr.take m) r0).2) := by
  rw [take_succ_nth kr m h, rc2poly_append_singleton]

theorem rc2poly_take_length (kr : List K) (r0 : K) (m : ℕ) (h : m ≤ kr.length) :
    (rc2poly (kr.take m) r0).1.length = m := by
  rw [rc2poly_length', List.length_take, Nat.min_eq_left h]

/-- `rc2ac` as the fold, with the step-down data replaced by the prefixes' `rc2poly`; the first
coefficient is `k_1` and the zero lag `E_1 / (1 - |k_1|²)` is `r0` again -/
theorem rc2ac_eq_acFold (kr : List K) (r0 : K) (hp : 0 < kr.length)
    (hk : ∀ k ∈ kr, 1 - k * star k ≠ 0) :
    rc2ac kr r0 =
      acFold (acNext (vec kr.length (fun i => (rc2poly (kr.take (i + 1)) r0).1))
          (vec kr.length (fun i => (rc2poly (kr.take (i + 1)) r0).2)) (nth kr 0) r0) r0 kr.length := by
  have h1 : nth ((vec kr.length (fun i => (rc2poly (kr.take (i + 1)) r0).1)).getD 0 []) 0
      = nth kr 0 := by
    rw [getD_vec, if_pos hp, rc2poly_take_succ kr r0 0 hp]
    exact nth_levup_last ([] : List K) (nth kr 0)
  have hne : 1 - nth kr 0 * star (nth kr 0) ≠ 0 := by
    apply hk
    rw [nth_of_lt kr 0 hp]
    exact List.getElem_mem hp
  have h2 : nth (vec kr.length (fun i => (rc2poly (kr.take (i + 1)) r0).2)) 0
      / (1 - abs2 (nth kr 0)) = r0 := by
    rw [nth_vec, if_pos hp, rc2poly_take_succ kr r0 0 hp, abs2_eq]
    show (1 - star (nth kr 0) * nth kr 0) * r0 / (1 - nth kr 0 * star (nth kr 0)) = r0
    rw [mul_comm (star (nth kr 0)), mul_div_cancel_left₀ _ hne]
  rw [rc2ac_eq, poly2ac_eq_acFold]
  dsimp only
  rw [rc2poly_length', (stepDowns_rc2poly kr r0 hk).1, (stepDowns_rc2poly kr r0 hk).2, h1, h2]

theorem nth_rc2ac_zero (kr : List K) (r0 : K) (hp : 0 < kr.length)
    (hk : ∀ k ∈ kr, 1 - k * star k ≠ 0) : nth (rc2ac kr r0) 0 = r0 := by
  rw [rc2ac_eq_acFold kr r0 hp hk, nth_acFold_zero]

theorem rc2ac_length' (kr : List K) (r0 : K) (hk : ∀ k ∈ kr, 1 - k * star k ≠ 0) :
    (rc2ac kr r0).length = kr.length + 1 := by
  rcases Nat.eq_zero_or_pos kr.length with h | h
  · rw [List.length_eq_zero_iff.mp h]
    rfl
  · rw [rc2ac_eq_acFold kr r0 h hk, acFold_length]

/-- the lags produced by `rc2ac` satisfy the (inverse) Levinson recursion with the prefixes'
polynomials and errors -/
theorem nth_rc2ac_succ (kr : List K) (r0 : K) (hk : ∀ k ∈ kr, 1 - k * star k ≠ 0)
    (m : ℕ) (hm : m < kr.length) :
    nth (rc2ac kr r0) (m + 1)
      = -(∑ i ∈ range m, nth (rc2poly (kr.take m) r0).1 i * nth (rc2ac kr r0) (m - i))
        - nth kr m * (rc2poly (kr.take m) r0).2 := by
  have hR := rc2ac_eq_acFold kr r0 (by omega) hk
  rw [hR, nth_acFold_succ _ _ m kr.length hm]
  unfold acNext
  by_cases h0 : m = 0
  · subst h0
    rw [if_pos rfl, Finset.sum_range_zero, neg_zero, zero_sub, neg_mul]
    rfl
  · rw [if_neg h0]
    have hm1 : m - 1 + 1 = m := Nat.sub_add_cancel (Nat.pos_of_ne_zero h0)
    rw [getD_vec, if_pos (by omega), getD_vec, if_pos hm, nth_vec, if_pos (by omega), hm1,
      rc2poly_take_succ kr r0 m hm, sumR_eq_sum]
    have hlast : nth (levup (rc2poly (kr.take m) r0).1 (nth kr m)) m = nth kr m := by
      have := nth_levup_last (rc2poly (kr.take m) r0).1 (nth kr m)
      rwa [rc2poly_take_length kr r0 m (by omega)] at this
    rw [hlast]
    refine congrArg (-· - nth kr m * (rc2poly (kr.take m) r0).2) (Finset.sum_congr rfl ?_)
    intro i hi
    have := mem_range.mp hi
    rw [nth_acFold_stable _ _ m kr.length (m - i) (by omega) (by omega)]

/-- **`ac2rc ∘ rc2ac`**: Levinson run on the lags produced by `rc2ac` retraces the reflection
coefficients stage by stage -/
theorem levRun_rc2ac_ref (kr : List K) (r0 : K) (hr0 : r0 ≠ 0)
    (hk : ∀ k ∈ kr, 1 - k * star k ≠ 0) (m : ℕ) (hm : m ≤ kr.length) :
    (levRun r0 (rc2ac kr r0).tail m).ref = kr.take m ∧
    (levRun r0 (rc2ac kr r0).tail m).A = (rc2poly (kr.take m) r0).1 ∧
    (levRun r0 (rc2ac kr r0).tail m).P = (rc2poly (kr.take m) r0).2 := by
  have key : ∀ m, m ≤ kr.length → (levRun r0 (rc2ac kr r0).tail m).ref = kr.take m := by
    intro m hm
    induction m with
    | zero => rfl
    | succ m ih =>
      have ih := ih (by omega)
      have hm' : m < kr.length := hm
      -- by `ih` the state after `m` stages is the step-up run of the prefix `kr.take m`
      have hAP := rc2poly_levRun_ref r0 (rc2ac kr r0).tail m
      rw [ih] at hAP
      have hA : (levRun r0 (rc2ac kr r0).tail m).A = (rc2poly (kr.take m) r0).1 :=
        (congrArg Prod.fst hAP).symm
      have hP : (levRun r0 (rc2ac kr r0).tail m).P = (rc2poly (kr.take m) r0).2 :=
        (congrArg Prod.snd hAP).symm
      have hE : (rc2poly (kr.take m) r0).2 ≠ 0 :=
        rc2poly_snd_ne_zero _ r0 hr0 (fun k hk' => hk k (List.mem_of_mem_take hk'))
      have hsum : ∀ j ∈ range m,
          nth (rc2poly (kr.take m) r0).1 j * nth (rc2ac kr r0).tail (m - j - 1)
            = nth (rc2poly (kr.take m) r0).1 j * nth (rc2ac kr r0) (m - j) := by
        intro j hj
        have := mem_range.mp hj
        rw [nth_tail, Nat.sub_add_cancel (Nat.sub_pos_of_lt this)]
      rw [levRun_succ_ref, ih, take_succ_nth kr m hm', levK_eq, hA, hP, nth_tail,
        nth_rc2ac_succ kr r0 hk m hm', sumR_eq_sum, Finset.sum_congr rfl hsum]
      congr 2
      -- `R_{m+1}` replaced by the lag recursion: what is left is `-(−S − k·E + S)/E = k`
      field_simp
      ring
  have hAP := rc2poly_levRun_ref r0 (rc2ac kr r0).tail m
  rw [key m hm] at hAP
  exact ⟨key m hm, (congrArg Prod.fst hAP).symm, (congrArg Prod.snd hAP).symm⟩

end Forward

section Inverse
variable {K : Type} [Field K] [StarRing K]

theorem nth_rc2ac_levRun (r0 : K) (T : List K) (p : ℕ) (hP : (levRun r0 T p).P ≠ 0)
    (m : ℕ) (hm : m < p) :
    nth (rc2ac (levRun r0 T p).ref r0) (m + 1) = nth T m := by
  have hk := levRun_ref_ne r0 T p hP
  induction m using Nat.strong_induction_on with
  | _ m ih =>
    have hPm := levRun_P_ne_zero r0 T p hP m (by omega)
    rw [nth_rc2ac_succ _ r0 hk m (by rw [levRun_ref_length]; exact hm),
      ← levRun_ref_take r0 T m p (by omega), rc2poly_levRun_ref, nth_levRun_ref r0 T p m hm,
      levK_eq, sumR_eq_sum]
    have : ∀ i ∈ range m, nth (levRun r0 T m).A i * nth (rc2ac (levRun r0 T p).ref r0) (m - i)
        = nth (levRun r0 T m).A i * nth T (m - i - 1) := by
      intro i hi
      have := mem_range.mp hi
      have e : m - i = (m - i - 1) + 1 := (Nat.sub_add_cancel (Nat.sub_pos_of_lt this)).symm
      rw [e, ih (m - i - 1) (by omega) (by omega)]
      rfl
    rw [Finset.sum_congr rfl this]
    dsimp only
    rw [div_mul_cancel₀ _ hPm]
    ring

theorem rc2ac_levRun (r0 : K) (T : List K) (hT : T ≠ []) (hP : (levRun r0 T T.length).P ≠ 0) :
    rc2ac (levRun r0 T T.length).ref r0 = r0 :: T := by
  have hpos : 0 < T.length := List.length_pos_iff.mpr hT
  have hk := levRun_ref_ne r0 T T.length hP
  have hlen : (rc2ac (levRun r0 T T.length).ref r0).length = T.length + 1 := by
    rw [rc2ac_length' _ r0 hk, levRun_ref_length]
  rw [eq_vec_nth (rc2ac (levRun r0 T T.length).ref r0), eq_vec_nth (r0 :: T), hlen,
    List.length_cons]
  apply vec_ext
  intro i hi
  cases i with
  | zero =>
    rw [nth_cons_zero, nth_rc2ac_zero _ r0 (by rw [levRun_ref_length]; exact hpos) hk]
  | succ i =>
    rw [nth_cons_succ, nth_rc2ac_levRun r0 T T.length hP i (by omega)]

theorem prod_one_sub_ne_zero (kr : List K) (hk : ∀ k ∈ kr, 1 - k * star k ≠ 0) :
    (kr.map (fun k => 1 - star k * k)).prod ≠ 0 := by
  have := rc2poly_snd_ne_zero kr (1 : K) one_ne_zero hk
  rwa [rc2poly_error', one_mul] at this

/-- `poly2ac a e` is `rc2ac` of the step-down reflection coefficients with the zero lag
`e / ∏(1 - |k_i|²)` -/
theorem poly2ac_eq_rc2ac (a : List K) (e : K) (hk : ∀ k ∈ poly2rc a, 1 - k * star k ≠ 0) :
    poly2ac a e
      = rc2ac (poly2rc a) (e / ((poly2rc a).map (fun k => 1 - star k * k)).prod) := by
  have hD := prod_one_sub_ne_zero (poly2rc a) hk
  rw [rc2ac_eq, rc2poly_poly2rc' a _ hk, rc2poly_error', div_mul_cancel₀ _ hD]

end Inverse

end SpecVerif
