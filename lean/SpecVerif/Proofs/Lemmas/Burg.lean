import SpecVerif.Proofs.Lemmas.Similarity
import SpecVerif.Proofs.Lemmas.Norm
import SpecVerif.Proofs.Lemmas.Eval
import SpecVerif.Model.Burg
/-
  Burg's recursion (`Model/Burg.lean`).  One lattice stage is analysed on functions over a finite index set:
  completing the square (`stageEnergy_eq_square`) gives optimality of `k = −2·num/den`, the residual energy
  `(1−|k|²)·den` and, over `RCLike`, `|k| ≤ 1`.  `bD_eq_liveDen` is the invariant that makes Marple's recursive
  `den` update equal to the energy sum over the live range, so the model's `burgK` is that optimal `k`
  (`stage_live`).  `burgRun` is `rc2poly` of its own reflection coefficients (`rc2poly_burgRun_ref`).
  Last: the recursion on the data `c·μⁿ·x_n` (`ShiftL.BurgSim`, `burgRun_sim`; the similarity is that of
  `Lemmas/Similarity.lean`), used by C03 (`μ = 1`) and C04 (`c = 1`).
-/
namespace SpecVerif.BurgL
open Finset SpecVerif

section Stage
variable {K : Type} [Field K]

/-- dropping the first forward and the last backward term moves the live range one step on -/
theorem sum_Ico_shift (u v : ℕ → K) (a N : ℕ) (h : a + 1 ≤ N) :
    ∑ j ∈ Ico a N, (u j + v j) = u a + v (N - 1) + ∑ j ∈ Ico (a + 1) N, (u j + v (j - 1)) := by
  obtain ⟨M, rfl⟩ : ∃ M, N = M + 1 := ⟨N - 1, by omega⟩
  have hv : ∑ j ∈ Ico (a + 1) (M + 1), v (j - 1) = ∑ j ∈ Ico a M, v j := by
    rw [← Finset.sum_Ico_add' (fun j => v (j - 1)) a M 1]
    exact Finset.sum_congr rfl (fun j _ => by rw [Nat.add_sub_cancel])
  rw [Finset.sum_add_distrib, Finset.sum_add_distrib, hv, Nat.add_sub_cancel,
    Finset.sum_eq_sum_Ico_succ_bot (Nat.lt_of_succ_le h) u,
    Finset.sum_Ico_succ_top (Nat.le_of_succ_le_succ h) v]
  ring

variable [StarRing K]

/-- summed forward+backward energy of one lattice stage with reflection coefficient `κ`, over an
index set `s`; `f j` is the forward error, `b j` the (already delayed) backward error. -/
def stageEnergy (s : Finset ℕ) (f b : ℕ → K) (κ : K) : K :=
  ∑ j ∈ s, ((f j + κ * b j) * star (f j + κ * b j) + (b j + star κ * f j) * star (b j + star κ * f j))

def stageDen (s : Finset ℕ) (f b : ℕ → K) : K := ∑ j ∈ s, (f j * star (f j) + b j * star (b j))
def stageNum (s : Finset ℕ) (f b : ℕ → K) : K := ∑ j ∈ s, f j * star (b j)

def stageK (s : Finset ℕ) (f b : ℕ → K) : K := -2 * stageNum s f b / stageDen s f b

theorem stageEnergy_expand (s : Finset ℕ) (f b : ℕ → K) (κ : K) :
    stageEnergy s f b κ
      = (1 + κ * star κ) * stageDen s f b + 2 * (κ * star (stageNum s f b))
          + 2 * (star κ * stageNum s f b) := by
  unfold stageEnergy stageDen stageNum
  rw [star_sum]
  simp only [Finset.mul_sum, ← Finset.sum_add_distrib]
  apply Finset.sum_congr rfl
  intro j _
  simp only [star_add, star_mul', star_star]
  ring

theorem stageDen_star (s : Finset ℕ) (f b : ℕ → K) : star (stageDen s f b) = stageDen s f b := by
  unfold stageDen
  rw [star_sum]
  apply Finset.sum_congr rfl
  intro j _
  simp only [star_add, star_mul', star_star]
  ring

theorem star_stageK (s : Finset ℕ) (f b : ℕ → K) :
    star (stageK s f b) = -2 * star (stageNum s f b) / stageDen s f b := by
  unfold stageK
  rw [star_div₀, star_mul', star_neg, star_ofNat, stageDen_star]

/-- completing the square in `κ`: the stage energy is `den·|κ - k|²` above its value `(1 - |k|²)·den` at
Burg's coefficient `k = -2 num / den` -/
theorem stageEnergy_eq_square (s : Finset ℕ) (f b : ℕ → K) (κ : K) (hD : stageDen s f b ≠ 0) :
    stageEnergy s f b κ
      = stageDen s f b * ((κ - stageK s f b) * star (κ - stageK s f b))
        + (1 - stageK s f b * star (stageK s f b)) * stageDen s f b := by
  rw [stageEnergy_expand, star_sub, star_stageK]
  unfold stageK
  field_simp
  ring

/-- this is the `den` recursion of `arburg` -/
theorem stageEnergy_stageK (s : Finset ℕ) (f b : ℕ → K) (hD : stageDen s f b ≠ 0) :
    stageEnergy s f b (stageK s f b)
      = (1 - stageK s f b * star (stageK s f b)) * stageDen s f b := by
  rw [stageEnergy_eq_square s f b _ hD, sub_self, zero_mul, mul_zero, zero_add]

theorem stageEnergy_sub_stageK (s : Finset ℕ) (f b : ℕ → K) (κ : K) (hD : stageDen s f b ≠ 0) :
    stageEnergy s f b κ - stageEnergy s f b (stageK s f b)
      = stageDen s f b * ((κ - stageK s f b) * star (κ - stageK s f b)) := by
  rw [stageEnergy_stageK s f b hD, stageEnergy_eq_square s f b κ hD, add_sub_cancel_right]

end Stage

section Run
variable {K : Type} [Field K] [StarRing K]

/-- `k_k` of `burgK`, stage `k` 0-based -/
def bK (x : List K) (k : ℕ) : K := (burgK (burgRun x k) x.length k).1
/-- `den_k` of `burgK`, stage `k` 0-based -/
def bD (x : List K) (k : ℕ) : K := (burgK (burgRun x k) x.length k).2

theorem burgK_fst (x : List K) (k : ℕ) : (burgK (burgRun x k) x.length k).1 = bK x k := rfl
theorem burgK_snd (x : List K) (k : ℕ) : (burgK (burgRun x k) x.length k).2 = bD x k := rfl

theorem burgRun_succ (x : List K) (k : ℕ) :
    burgRun x (k + 1) = burgStep (burgRun x k) x.length k := rfl

theorem burgRun_succ_a (x : List K) (k : ℕ) :
    (burgRun x (k + 1)).a = levup (burgRun x k).a (bK x k) := rfl

theorem burgRun_succ_ref (x : List K) (k : ℕ) :
    (burgRun x (k + 1)).ref = (burgRun x k).ref ++ [bK x k] := rfl

theorem burgRun_succ_rho (x : List K) (k : ℕ) :
    (burgRun x (k + 1)).rho = (1 - bK x k * star (bK x k)) * (burgRun x k).rho := rfl

theorem burgRun_succ_den (x : List K) (k : ℕ) : (burgRun x (k + 1)).den = bD x k := rfl

theorem burgRun_succ_temp (x : List K) (k : ℕ) :
    (burgRun x (k + 1)).temp = 1 - bK x k * star (bK x k) := rfl

theorem burgRun_succ_ef (x : List K) (k : ℕ) :
    (burgRun x (k + 1)).ef = vec x.length (fun j =>
      if k < j then nth (burgRun x k).ef j + bK x k * nth (burgRun x k).eb (j - 1)
      else nth (burgRun x k).ef j) := rfl

theorem burgRun_succ_eb (x : List K) (k : ℕ) :
    (burgRun x (k + 1)).eb = vec x.length (fun j =>
      if k < j then nth (burgRun x k).eb (j - 1) + star (bK x k) * nth (burgRun x k).ef j
      else nth (burgRun x k).eb j) := rfl

theorem bD_eq (x : List K) (k : ℕ) :
    bD x k = (burgRun x k).temp * (burgRun x k).den
      - nth (burgRun x k).ef k * star (nth (burgRun x k).ef k)
      - nth (burgRun x k).eb (x.length - 1) * star (nth (burgRun x k).eb (x.length - 1)) := rfl

/-- the model's numerator `Σ_i ef[i+k+1]·conj eb[i+k]` is the stage numerator over the live range -/
theorem bK_eq (x : List K) (k : ℕ) :
    bK x k = -2 * stageNum (Ico (k + 1) x.length) (nth (burgRun x k).ef)
          (fun j => nth (burgRun x k).eb (j - 1)) / bD x k := by
  have hnum : sumR (x.length - k - 1)
        (fun i => nth (burgRun x k).ef (i + k + 1) * conj (nth (burgRun x k).eb (i + k)))
      = stageNum (Ico (k + 1) x.length) (nth (burgRun x k).ef)
          (fun j => nth (burgRun x k).eb (j - 1)) := by
    unfold stageNum
    rw [sumR_eq_sum, Finset.sum_Ico_eq_sum_range, Nat.sub_sub]
    exact Finset.sum_congr rfl (fun i _ => by rw [Nat.add_comm (k + 1) i]; rfl)
  rw [← hnum]
  show -(((2 : ℕ) : K)) * _ / _ = _
  rw [Nat.cast_ofNat]
  rfl

theorem burgRun_ref (x : List K) (n : ℕ) : (burgRun x n).ref = vec n (bK x) := by
  induction n with
  | zero => rfl
  | succ n ih => rw [burgRun_succ_ref, ih, vec_succ]

theorem rc2poly_burgRun_ref (x : List K) (k : ℕ) :
    rc2poly (burgRun x k).ref (burgInit x).rho = ((burgRun x k).a, (burgRun x k).rho) := by
  induction k with
  | zero => rfl
  | succ k ih =>
    rw [burgRun_succ_ref, rc2poly_append_singleton, ih, burgRun_succ_a, burgRun_succ_rho,
      mul_comm (star _)]

theorem burgRun_ref_length (x : List K) (k : ℕ) : (burgRun x k).ref.length = k := by
  rw [burgRun_ref, vec_length]

theorem burgRun_a_length (x : List K) (k : ℕ) : (burgRun x k).a.length = k := by
  have h := rc2poly_length' (burgRun x k).ref (burgInit x).rho
  rwa [rc2poly_burgRun_ref, burgRun_ref_length] at h

/-- the polynomial `[1, a_1..a_{m-1}]` that `minvar` builds from the Burg model of order `m - 1` -/
theorem one_cons_length_burg (x : List K) (m : ℕ) (hm : 1 ≤ m) :
    ((1 : K) :: (burgRun x (m - 1)).a).length = m := by
  rw [List.length_cons, burgRun_a_length]
  omega

theorem burgRun_ef_length (x : List K) (k : ℕ) : (burgRun x k).ef.length = x.length := by
  cases k with
  | zero => rfl
  | succ k => rw [burgRun_succ_ef, vec_length]

theorem burgRun_eb_length (x : List K) (k : ℕ) : (burgRun x k).eb.length = x.length := by
  cases k with
  | zero => rfl
  | succ k => rw [burgRun_succ_eb, vec_length]

theorem nth_burgRun_ref (x : List K) (p i : ℕ) (hi : i < p) :
    nth (burgRun x p).ref i = bK x i := by
  rw [burgRun_ref, nth_vec_lt _ hi]

theorem burgRun_rho_prod (x : List K) (k : ℕ) :
    (burgRun x k).rho
      = (burgInit x).rho * ((burgRun x k).ref.map (fun κ => 1 - κ * star κ)).prod := by
  have h : (rc2poly (burgRun x k).ref (burgInit x).rho).2 = (burgRun x k).rho :=
    congrArg Prod.snd (rc2poly_burgRun_ref x k)
  rw [← h, rc2poly_error']
  simp only [mul_comm (star _)]

theorem burgRun_rho_prod_range (x : List K) (k : ℕ) :
    (burgRun x k).rho = (burgInit x).rho * ∏ i ∈ range k, (1 - bK x i * star (bK x i)) := by
  rw [← rc2poly_vec_error, ← burgRun_ref, rc2poly_burgRun_ref]

theorem burgInit_rho (x : List K) :
    (burgInit x).rho = (∑ j ∈ range x.length, nth x j * star (nth x j)) / (x.length : K) := by
  unfold burgInit
  simp only [sumR_eq_sum, abs2_eq]

theorem nth_ef_succ (x : List K) (k j : ℕ) (hkj : k < j) (hj : j < x.length) :
    nth (burgRun x (k + 1)).ef j
      = nth (burgRun x k).ef j + bK x k * nth (burgRun x k).eb (j - 1) := by
  rw [burgRun_succ_ef, nth_vec, if_pos hj, if_pos hkj]

theorem nth_eb_succ (x : List K) (k j : ℕ) (hkj : k < j) (hj : j < x.length) :
    nth (burgRun x (k + 1)).eb j
      = nth (burgRun x k).eb (j - 1) + star (bK x k) * nth (burgRun x k).ef j := by
  rw [burgRun_succ_eb, nth_vec, if_pos hj, if_pos hkj]

def liveEnergy (x : List K) (k : ℕ) (κ : K) : K :=
  stageEnergy (Ico (k + 1) x.length) (nth (burgRun x k).ef) (fun j => nth (burgRun x k).eb (j - 1)) κ

def liveDen (x : List K) (k : ℕ) : K :=
  stageDen (Ico (k + 1) x.length) (nth (burgRun x k).ef) (fun j => nth (burgRun x k).eb (j - 1))

theorem liveDen_star (x : List K) (k : ℕ) : star (liveDen x k) = liveDen x k := stageDen_star _ _ _

/-- with the stored coefficient, the stage energy is the (unshifted) energy of the new arrays -/
theorem liveEnergy_bK (x : List K) (k : ℕ) :
    liveEnergy x k (bK x k)
      = ∑ j ∈ Ico (k + 1) x.length,
          (nth (burgRun x (k + 1)).ef j * star (nth (burgRun x (k + 1)).ef j)
            + nth (burgRun x (k + 1)).eb j * star (nth (burgRun x (k + 1)).eb j)) := by
  unfold liveEnergy stageEnergy
  apply Finset.sum_congr rfl
  intro j hj
  have h := Finset.mem_Ico.mp hj
  rw [nth_ef_succ x k j (by omega) h.2, nth_eb_succ x k j (by omega) h.2]

/-- **invariant of Marple's denominator recursion**: the residual energy `(1 - |k|²)·den` of a stage,
less the first forward and the last backward term, is the live energy of the next stage -/
theorem bD_eq_liveDen (x : List K) (hN : (x.length : K) ≠ 0) (k : ℕ) (hk : k + 1 ≤ x.length)
    (hprev : ∀ i, i < k → bD x i ≠ 0) : bD x k = liveDen x k := by
  induction k with
  | zero =>
    have h := sum_Ico_shift (fun j => nth x j * star (nth x j)) (fun j => nth x j * star (nth x j))
      0 x.length hk
    rw [← Finset.range_eq_Ico, Finset.sum_add_distrib, ← two_mul] at h
    rw [bD_eq]
    unfold liveDen stageDen
    show (1 : K) * ((burgInit x).rho * ((2 : ℕ) : K) * (x.length : K))
        - nth x 0 * star (nth x 0) - nth x (x.length - 1) * star (nth x (x.length - 1))
      = ∑ j ∈ Ico (0 + 1) x.length, (nth x j * star (nth x j) + nth x (j - 1) * star (nth x (j - 1)))
    rw [burgInit_rho, Nat.cast_ofNat, one_mul, mul_right_comm, div_mul_cancel₀ _ hN, mul_comm]
    linear_combination h
  | succ k ih =>
    have ih := ih (by omega) (fun i hi => hprev i (by omega))
    have hD' : liveDen x k ≠ 0 := ih ▸ hprev k (Nat.lt_succ_self k)
    have hafter : liveEnergy x k (bK x k) = (1 - bK x k * star (bK x k)) * liveDen x k := by
      rw [show bK x k = stageK (Ico (k + 1) x.length) (nth (burgRun x k).ef)
        (fun j => nth (burgRun x k).eb (j - 1)) by rw [bK_eq, ih]; rfl]
      exact stageEnergy_stageK _ _ _ hD'
    rw [liveEnergy_bK,
      sum_Ico_shift (fun j => nth (burgRun x (k + 1)).ef j * star (nth (burgRun x (k + 1)).ef j))
        (fun j => nth (burgRun x (k + 1)).eb j * star (nth (burgRun x (k + 1)).eb j)) (k + 1) x.length hk]
      at hafter
    rw [bD_eq, burgRun_succ_temp, burgRun_succ_den, ih]
    unfold liveDen stageDen at hafter ⊢
    linear_combination (-1 : K) * hafter

theorem bK_eq_stageK (x : List K) (hN : (x.length : K) ≠ 0) (k : ℕ) (hk : k + 1 ≤ x.length)
    (hprev : ∀ i, i < k → bD x i ≠ 0) :
    bK x k = stageK (Ico (k + 1) x.length) (nth (burgRun x k).ef)
      (fun j => nth (burgRun x k).eb (j - 1)) := by
  rw [bK_eq, bD_eq_liveDen x hN k hk hprev]; rfl

theorem stage_live (x : List K) (hN : (x.length : K) ≠ 0) (k : ℕ) (hk : k + 1 ≤ x.length)
    (hD : ∀ i, i ≤ k → bD x i ≠ 0) :
    bD x k = liveDen x k ∧
    bK x k = stageK (Ico (k + 1) x.length) (nth (burgRun x k).ef)
      (fun j => nth (burgRun x k).eb (j - 1)) ∧
    liveDen x k ≠ 0 := by
  have hprev : ∀ i, i < k → bD x i ≠ 0 := fun i hi => hD i (by omega)
  have hden := bD_eq_liveDen x hN k hk hprev
  exact ⟨hden, bK_eq_stageK x hN k hk hprev, hden ▸ hD k (le_refl k)⟩

theorem burgRun_rho_star (x : List K) (k : ℕ) : star (burgRun x k).rho = (burgRun x k).rho := by
  induction k with
  | zero =>
    show star (burgInit x).rho = (burgInit x).rho
    rw [burgInit_rho, star_div₀, star_sum, star_natCast]
    refine congrArg (· / (x.length : K)) (Finset.sum_congr rfl ?_)
    intro j _
    rw [star_mul', star_star, mul_comm]
  | succ k ih => rw [burgRun_succ_rho, star_mul', star_one_sub_mul_star, ih]

end Run

section OverRCLike
variable {𝕜 : Type} [RCLike 𝕜]

theorem stageDen_ofReal (s : Finset ℕ) (f b : ℕ → 𝕜) :
    stageDen s f b = ((∑ j ∈ s, (‖f j‖ ^ 2 + ‖b j‖ ^ 2) : ℝ) : 𝕜) := by
  unfold stageDen
  rw [RCLike.ofReal_sum]
  apply Finset.sum_congr rfl
  intro j _
  rw [mul_star_eq_ofReal, mul_star_eq_ofReal, RCLike.ofReal_add]

theorem stageEnergy_ofReal (s : Finset ℕ) (f b : ℕ → 𝕜) (κ : 𝕜) :
    stageEnergy s f b κ
      = ((∑ j ∈ s, (‖f j + κ * b j‖ ^ 2 + ‖b j + star κ * f j‖ ^ 2) : ℝ) : 𝕜) := by
  unfold stageEnergy
  rw [RCLike.ofReal_sum]
  apply Finset.sum_congr rfl
  intro j _
  rw [mul_star_eq_ofReal, mul_star_eq_ofReal, RCLike.ofReal_add]

theorem stageDen_re_pos (s : Finset ℕ) (f b : ℕ → 𝕜) (hD : stageDen s f b ≠ 0) :
    0 < RCLike.re (stageDen s f b) := by
  rw [stageDen_ofReal] at hD ⊢
  rw [RCLike.ofReal_re]
  exact lt_of_le_of_ne (Finset.sum_nonneg (fun j _ => add_nonneg (sq_nonneg _) (sq_nonneg _)))
    (fun h0 => hD (by rw [← h0, RCLike.ofReal_zero]))

/-- Burg's coefficient of a stage has modulus `≤ 1`: the residual energy `(1-|k|²) den` is a sum of
squares and `den > 0` -/
theorem stageK_norm_le_one (s : Finset ℕ) (f b : ℕ → 𝕜) (hD : stageDen s f b ≠ 0) :
    ‖stageK s f b‖ ≤ 1 := by
  have h := congrArg RCLike.re (stageEnergy_stageK s f b hD)
  rw [one_sub_mul_star_eq, RCLike.re_ofReal_mul, stageEnergy_ofReal, RCLike.ofReal_re] at h
  have hE : 0 ≤ (1 - ‖stageK s f b‖ ^ 2) * RCLike.re (stageDen s f b) :=
    h ▸ Finset.sum_nonneg (fun j _ => add_nonneg (sq_nonneg _) (sq_nonneg _))
  exact (sq_le_one_iff₀ (norm_nonneg _)).mp
    (sub_nonneg.mp (nonneg_of_mul_nonneg_left hE (stageDen_re_pos s f b hD)))

theorem stageEnergy_re_ge (s : Finset ℕ) (f b : ℕ → 𝕜) (κ : 𝕜) (hD : stageDen s f b ≠ 0) :
    RCLike.re (stageEnergy s f b (stageK s f b)) ≤ RCLike.re (stageEnergy s f b κ) := by
  rw [← sub_nonneg, ← map_sub, stageEnergy_sub_stageK s f b κ hD, mul_star_eq_ofReal, mul_comm,
    RCLike.re_ofReal_mul]
  exact mul_nonneg (sq_nonneg _) (stageDen_re_pos s f b hD).le

theorem natCast_length_ne_zero (x : List 𝕜) (h : 1 ≤ x.length) : (x.length : 𝕜) ≠ 0 := by
  rw [Nat.cast_ne_zero]; omega

theorem bK_norm_le_one (x : List 𝕜) (k : ℕ) (hk : k + 1 ≤ x.length)
    (hD : ∀ i, i ≤ k → bD x i ≠ 0) : ‖bK x k‖ ≤ 1 := by
  obtain ⟨_, hK, hne⟩ := stage_live x (natCast_length_ne_zero x (by omega)) k hk hD
  rw [hK]
  exact stageK_norm_le_one _ _ _ hne

theorem re_rho_succ (x : List 𝕜) (k : ℕ) :
    RCLike.re (burgRun x (k + 1)).rho = (1 - ‖bK x k‖ ^ 2) * RCLike.re (burgRun x k).rho := by
  rw [burgRun_succ_rho, one_sub_mul_star_eq, RCLike.re_ofReal_mul]

theorem re_rho_zero (x : List 𝕜) :
    RCLike.re (burgRun x 0).rho = (∑ j ∈ range x.length, ‖nth x j‖ ^ 2) / (x.length : ℝ) := by
  show RCLike.re (burgInit x).rho = _
  rw [burgInit_rho]
  have : ∑ j ∈ range x.length, nth x j * star (nth x j)
      = ((∑ j ∈ range x.length, ‖nth x j‖ ^ 2 : ℝ) : 𝕜) := by
    rw [RCLike.ofReal_sum]
    exact Finset.sum_congr rfl (fun j _ => mul_star_eq_ofReal _)
  rw [this, ← RCLike.ofReal_natCast, ← RCLike.ofReal_div, RCLike.ofReal_re]

theorem re_rho_nonneg (x : List 𝕜) (k : ℕ) (hk : k ≤ x.length)
    (hD : ∀ i, i < k → bD x i ≠ 0) : 0 ≤ RCLike.re (burgRun x k).rho := by
  induction k with
  | zero =>
    rw [re_rho_zero]
    exact div_nonneg (Finset.sum_nonneg (fun j _ => sq_nonneg _)) (Nat.cast_nonneg _)
  | succ k ih =>
    rw [re_rho_succ]
    have hk1 := bK_norm_le_one x k hk (fun i hi => hD i (by omega))
    exact mul_nonneg (sub_nonneg.mpr (pow_le_one₀ (norm_nonneg _) hk1))
      (ih (by omega) (fun i hi => hD i (by omega)))

theorem re_rho_succ_le (x : List 𝕜) (k : ℕ) (hk : k + 1 ≤ x.length)
    (hD : ∀ i, i ≤ k → bD x i ≠ 0) :
    RCLike.re (burgRun x (k + 1)).rho ≤ RCLike.re (burgRun x k).rho := by
  rw [re_rho_succ]
  exact mul_le_of_le_one_left (re_rho_nonneg x k (by omega) (fun i hi => hD i (by omega)))
    (sub_le_self 1 (sq_nonneg _))

theorem re_rho_antitone (x : List 𝕜) (q p : ℕ) (hq : q ≤ p) (hp : p ≤ x.length)
    (hD : ∀ i, i < p → bD x i ≠ 0) :
    RCLike.re (burgRun x p).rho ≤ RCLike.re (burgRun x q).rho := by
  induction p with
  | zero =>
    have : q = 0 := by omega
    subst this; exact le_refl _
  | succ p ih =>
    by_cases hq' : q = p + 1
    · subst hq'; exact le_refl _
    · exact le_trans (re_rho_succ_le x p hp (fun i hi => hD i (by omega)))
        (ih (by omega) (by omega) (fun i hi => hD i (by omega)))

end OverRCLike

/-! ### the worked instance `x = [1, 2, 1]` over `ℝ` that the examples of C13 and C16 use -/

/-- `den_0 = 10`, `den_1 = 18/25` -/
theorem burg_example_den : ∀ i, i < 2 →
    (burgK (burgRun ([1, 2, 1] : List ℝ) i) ([1, 2, 1] : List ℝ).length i).2 ≠ 0 := by
  intro i hi
  obtain rfl | rfl : i = 0 ∨ i = 1 := by omega
  · simp only [burgRun, burgInit, burgK, abs2, conj_eq_star, star_trivial, spec_eval, spec_eval_proc]
    norm_num only
  · simp only [burgRun, burgInit, burgK, burgStep, abs2, conj_eq_star, star_trivial, spec_eval,
      spec_eval_proc]
    norm_num only

theorem burg_example_ref : (burgRun ([1, 2, 1] : List ℝ) 1).ref = [-4 / 5] := by
  simp only [burgRun, burgInit, burgK, burgStep, abs2, conj_eq_star, star_trivial, spec_eval,
    spec_eval_proc]
  norm_num only

end SpecVerif.BurgL

namespace SpecVerif.ShiftL
open Finset SpecVerif

section BurgS
variable {K : Type} [Field K] [StarRing K]
open SpecVerif.BurgL

/-- the Burg state `s'` of the data `c·μⁿ·x_n` against the state `s` of `x` after `k` stages: backward error
`j` picks up `μ^{j-k}` (truncated subtraction: the entries `j < k` are frozen copies of earlier stages) -/
structure BurgSim (c μ : K) (k : ℕ) (s' s : BurgState K) : Prop where
  a : s'.a = twist μ s.a
  rho : s'.rho = c * star c * s.rho
  ref : s'.ref = twist μ s.ref
  den : s'.den = c * star c * s.den
  temp : s'.temp = s.temp
  ef_length : s'.ef.length = s.ef.length
  eb_length : s'.eb.length = s.eb.length
  err : ∀ j, nth s'.ef j = c * (μ ^ j * nth s.ef j) ∧ nth s'.eb j = c * (μ ^ (j - k) * nth s.eb j)

theorem burgK_sim {c μ : K} (hc : c ≠ 0) (hμ : μ * star μ = 1) {k : ℕ} {s' s : BurgState K}
    (h : BurgSim c μ k s' s) (N : ℕ) :
    burgK s' N k = (μ ^ (k + 1) * (burgK s N k).1, c * star c * (burgK s N k).2) := by
  have hj := h.err
  have hnum : sumR (N - k - 1) (fun i => nth s'.ef (i + k + 1) * conj (nth s'.eb (i + k)))
      = c * star c * (μ ^ (k + 1)
          * sumR (N - k - 1) (fun i => nth s.ef (i + k + 1) * conj (nth s.eb (i + k)))) := by
    rw [sumR_eq_sum, sumR_eq_sum, Finset.mul_sum, Finset.mul_sum]
    apply Finset.sum_congr rfl
    intro i _
    have e : μ ^ (i + k + 1) = μ ^ i * μ ^ (k + 1) := by rw [← pow_add, Nat.add_assoc]
    rw [(hj _).1, (hj _).2, conj_eq_star, conj_eq_star, star_mul', star_mul', star_pow,
      Nat.add_sub_cancel, e]
    -- the two sides differ by the factor `μ^i·star μ^i = 1` (`unimod_pow_cancel`)
    linear_combination
      (c * star c * μ ^ (k + 1) * nth s.ef (i + k + 1) * star (nth s.eb (i + k)))
        * unimod_pow_cancel hμ i
  simp only [burgK]
  rw [hnum, (hj k).1, (hj (N - 1)).2, abs2_sim hμ, abs2_sim hμ, h.den, h.temp, Prod.mk.injEq]
  have hcc : c * star c ≠ 0 := mul_star_self_ne_zero hc
  constructor
  · have hd : s.temp * (c * star c * s.den) - c * star c * abs2 (nth s.ef k)
          - c * star c * abs2 (nth s.eb (N - 1))
        = c * star c * (s.temp * s.den - abs2 (nth s.ef k) - abs2 (nth s.eb (N - 1))) := by ring
    rw [hd, mul_left_comm, mul_div_mul_left _ _ hcc, mul_left_comm, mul_div_assoc]
  · ring

theorem burgStep_sim {c μ : K} (hc : c ≠ 0) (hμ : μ * star μ = 1) {k : ℕ} {s' s : BurgState K}
    (h : BurgSim c μ k s' s) (N : ℕ) (ha : s.a.length = k) (href : s.ref.length = k) :
    BurgSim c μ (k + 1) (burgStep s' N k) (burgStep s N k) := by
  have hK := burgK_sim hc hμ h N
  have hj := h.err
  unfold burgStep
  simp only [hK]
  refine ⟨?a, ?rho, ?ref, rfl, ?temp, ?efl, ?ebl, ?err⟩
  case a => rw [h.a, ← ha]; exact levup_twist hμ _ _
  case rho => rw [abs2_unimod_mul hμ, h.rho]; ring
  case ref => rw [h.ref, twist_append_singleton, href]
  case temp => rw [abs2_unimod_mul hμ]
  case efl => rw [vec_length, vec_length]
  case ebl => rw [vec_length, vec_length]
  case err =>
    intro j
    simp only [nth_vec]
    by_cases hjN : j < N
    · simp only [if_pos hjN]
      by_cases hkj : k < j
      · simp only [if_pos hkj, (hj j).1, (hj (j - 1)).2, conj_eq_star, star_mul', star_pow]
        have e : μ ^ j = μ ^ (j - (k + 1)) * μ ^ (k + 1) := by
          rw [← pow_add, Nat.sub_add_cancel hkj]
        rw [Nat.sub_sub, Nat.add_comm 1 k, e]
        constructor
        · ring
        · -- the `ef` summand carries `star μ^(k+1)·μ^(k+1) = 1` (`unimod_pow_cancel`) on the left only
          linear_combination (c * μ ^ (j - (k + 1)) * star (burgK s N k).1 * nth s.ef j)
            * unimod_pow_cancel hμ (k + 1)
      · have e1 : j - k = 0 := Nat.sub_eq_zero_of_le (not_lt.mp hkj)
        have e2 : j - (k + 1) = 0 := Nat.sub_eq_zero_of_le (Nat.le_succ_of_le (not_lt.mp hkj))
        simp only [if_neg hkj, (hj j).1, (hj j).2, e1, e2, and_self]
    · simp only [if_neg hjN, mul_zero, and_self]

theorem burgRun_sim {c μ : K} (hc : c ≠ 0) (hμ : μ * star μ = 1) {x' x : List K}
    (hl : x'.length = x.length) (hx : ∀ n, nth x' n = c * (μ ^ n * nth x n)) (k : ℕ) :
    BurgSim c μ k (burgRun x' k) (burgRun x k) := by
  induction k with
  | zero =>
    have hrho : sumR x.length (fun j => abs2 (nth x' j))
        = c * star c * sumR x.length (fun j => abs2 (nth x j)) := by
      rw [sumR_eq_sum, sumR_eq_sum]
      exact energy_sim hμ hx _
    refine ⟨rfl, ?rho, rfl, ?den, rfl, hl, hl, fun j => ⟨hx j, hx j⟩⟩
    case rho => simp only [burgRun, burgInit, hl, hrho]; ring
    case den => simp only [burgRun, burgInit, hl, hrho]; ring
  | succ k ih =>
    rw [burgRun_succ, burgRun_succ, hl]
    exact burgStep_sim hc hμ ih _ (burgRun_a_length x k) (burgRun_ref_length x k)

end BurgS

end SpecVerif.ShiftL
