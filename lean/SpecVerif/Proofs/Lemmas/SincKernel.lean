import SpecVerif.Proofs.Lemmas.Dpss
import Mathlib.Analysis.SpecialFunctions.Integrals.Basic
import Mathlib.Analysis.SpecialFunctions.Complex.Log
/-
  The sinc concentration kernel `K[n,m] = sin(2πW(n-m))/(π(n-m))` (`2W` on the diagonal; `DpssL.sincKernel`, with its
  algebra, in `Lemmas/Dpss.lean`) satisfies `0 ≤ vᵀ K v ≤ vᵀ v` for `0 ≤ W ≤ 1/2`:

      vᵀ K v = ∫_{-W}^{W} |Σ_n v_n e^{2πifn}|² df        and        vᵀ v = ∫_{-1/2}^{1/2} |Σ_n v_n e^{2πifn}|² df.

  Real route: `|Σ_n v_n e^{2πifn}|² = (Σ v_n cos 2πfn)² + (Σ v_n sin 2πfn)² = Σ_{n,m} v_n v_m cos(2πf(n-m))`,
  integrated term by term.  Strict bounds: `Σ v_n zⁿ` is a complex polynomial, a non-zero one has finitely many roots, and
  `f ↦ e^{2πif}` is injective on short intervals.
-/
namespace SpecVerif.SincL
open Finset SpecVerif SpecVerif.DpssL

/-- the energy density `|Σ_{n<N} v_n e^{2πifn}|²` of the sequence `v` at frequency `f`, in real form -/
noncomputable def specDensity (N : ℕ) (v : ℕ → ℝ) (f : ℝ) : ℝ :=
  (∑ n ∈ range N, v n * Real.cos (2 * Real.pi * f * (n : ℝ))) ^ 2
    + (∑ n ∈ range N, v n * Real.sin (2 * Real.pi * f * (n : ℝ))) ^ 2

theorem specDensity_nonneg (N : ℕ) (v : ℕ → ℝ) (f : ℝ) : 0 ≤ specDensity N v f := by
  unfold specDensity; positivity

theorem specDensity_continuous (N : ℕ) (v : ℕ → ℝ) : Continuous (specDensity N v) := by
  unfold specDensity; fun_prop

theorem specDensity_eq_sum (N : ℕ) (v : ℕ → ℝ) (f : ℝ) :
    specDensity N v f
      = ∑ n ∈ range N, ∑ m ∈ range N, v n * v m * Real.cos (2 * Real.pi * ((n : ℝ) - (m : ℝ)) * f) := by
  unfold specDensity
  rw [sq, sq, Finset.sum_mul_sum, Finset.sum_mul_sum, ← Finset.sum_add_distrib]
  apply Finset.sum_congr rfl
  intro n _
  rw [← Finset.sum_add_distrib]
  apply Finset.sum_congr rfl
  intro m _
  rw [show 2 * Real.pi * ((n : ℝ) - (m : ℝ)) * f = 2 * Real.pi * f * (n : ℝ) - 2 * Real.pi * f * (m : ℝ) by ring,
    Real.cos_sub]
  ring

theorem integral_cos_mul {c : ℝ} (hc : c ≠ 0) (a b : ℝ) :
    ∫ f in a..b, Real.cos (c * f) = (Real.sin (c * b) - Real.sin (c * a)) / c := by
  rw [intervalIntegral.integral_comp_mul_left (fun x => Real.cos x) hc, integral_cos, smul_eq_mul]
  field_simp

theorem integral_cos_eq_rho (W x : ℝ) :
    ∫ f in (-W)..W, Real.cos (2 * Real.pi * x * f) = rho W x := by
  unfold rho
  split_ifs with h
  · rw [h, mul_zero]
    simp only [zero_mul, Real.cos_zero, intervalIntegral.integral_const, sub_neg_eq_add, smul_eq_mul, mul_one]
    ring
  · have hc : 2 * Real.pi * x ≠ 0 := mul_ne_zero (mul_ne_zero two_ne_zero Real.pi_ne_zero) h
    rw [integral_cos_mul hc, mul_neg, Real.sin_neg, sub_neg_eq_add, ← two_mul, mul_right_comm _ x W,
      mul_assoc 2 Real.pi x, mul_div_mul_left _ _ two_ne_zero]

theorem sincKernel_half (n m : ℕ) : sincKernel (1 / 2) n m = if n = m then 1 else 0 := by
  unfold sincKernel
  split_ifs with h
  · norm_num
  · rw [show 2 * Real.pi * (1 / 2) * ((n : ℝ) - (m : ℝ)) = (((n : ℤ) - (m : ℤ) : ℤ) : ℝ) * Real.pi by
      push_cast; ring, Real.sin_int_mul_pi, zero_div]

theorem integral_specDensity (N : ℕ) (v : ℕ → ℝ) (a b : ℝ) :
    ∫ f in a..b, specDensity N v f
      = ∑ n ∈ range N, ∑ m ∈ range N,
          v n * v m * ∫ f in a..b, Real.cos (2 * Real.pi * ((n : ℝ) - (m : ℝ)) * f) := by
  simp only [specDensity_eq_sum]
  rw [intervalIntegral.integral_finsetSum]
  · apply Finset.sum_congr rfl
    intro n _
    rw [intervalIntegral.integral_finsetSum]
    · apply Finset.sum_congr rfl
      intro m _
      rw [intervalIntegral.integral_const_mul]
    · intro m _
      exact (by fun_prop : Continuous fun f : ℝ =>
        v n * v m * Real.cos (2 * Real.pi * ((n : ℝ) - (m : ℝ)) * f)).intervalIntegrable _ _
  · intro n _
    exact (by fun_prop : Continuous fun f : ℝ =>
      ∑ m ∈ range N, v n * v m * Real.cos (2 * Real.pi * ((n : ℝ) - (m : ℝ)) * f)).intervalIntegrable _ _

/-- in-band energy, any `W` -/
theorem quadform_eq_integral (N : ℕ) (W : ℝ) (v : ℕ → ℝ) :
    ∑ n ∈ range N, ∑ m ∈ range N, v n * sincKernel W n m * v m = ∫ f in (-W)..W, specDensity N v f := by
  rw [integral_specDensity]
  apply Finset.sum_congr rfl
  intro n _
  apply Finset.sum_congr rfl
  intro m _
  rw [sincKernel_eq_rho, ← integral_cos_eq_rho]; ring

/-- Parseval: the in-band energy for `W = 1/2`, where the kernel is the identity -/
theorem normsq_eq_integral (N : ℕ) (v : ℕ → ℝ) :
    ∑ n ∈ range N, v n * v n = ∫ f in (-(1 / 2 : ℝ))..(1 / 2), specDensity N v f := by
  rw [← quadform_eq_integral]
  apply Finset.sum_congr rfl
  intro n hn
  simp only [sincKernel_half, mul_ite, mul_one, mul_zero, ite_mul, zero_mul]
  rw [Finset.sum_ite_eq (range N) n, if_pos hn]

theorem quadform_nonneg (N : ℕ) {W : ℝ} (h0 : 0 ≤ W) (v : ℕ → ℝ) :
    0 ≤ ∑ n ∈ range N, ∑ m ∈ range N, v n * sincKernel W n m * v m := by
  rw [quadform_eq_integral]
  exact intervalIntegral.integral_nonneg (by linarith) (fun f _ => specDensity_nonneg N v f)

theorem quadform_le_normsq (N : ℕ) {W : ℝ} (h0 : 0 ≤ W) (h1 : W ≤ 1 / 2) (v : ℕ → ℝ) :
    ∑ n ∈ range N, ∑ m ∈ range N, v n * sincKernel W n m * v m ≤ ∑ n ∈ range N, v n * v n := by
  rw [quadform_eq_integral, normsq_eq_integral]
  apply intervalIntegral.integral_mono_interval (neg_le_neg h1) (neg_le_self h0) h1
  · exact Filter.Eventually.of_forall (fun f => specDensity_nonneg N v f)
  · exact (specDensity_continuous N v).intervalIntegrable _ _

noncomputable def vpoly (N : ℕ) (v : ℕ → ℝ) : Polynomial ℂ :=
  ∑ n ∈ range N, Polynomial.C ((v n : ℝ) : ℂ) * Polynomial.X ^ n

theorem vpoly_coeff (N : ℕ) (v : ℕ → ℝ) {k : ℕ} (hk : k < N) : (vpoly N v).coeff k = ((v k : ℝ) : ℂ) := by
  unfold vpoly
  rw [Polynomial.finsetSum_coeff]
  simp only [Polynomial.coeff_C_mul_X_pow]
  rw [Finset.sum_ite_eq (range N) k]
  simp [hk]

theorem vpoly_eval (N : ℕ) (v : ℕ → ℝ) (f : ℝ) :
    (vpoly N v).eval (Complex.exp (((2 * Real.pi * f : ℝ) : ℂ) * Complex.I))
      = ((∑ n ∈ range N, v n * Real.cos (2 * Real.pi * f * (n : ℝ)) : ℝ) : ℂ)
        + ((∑ n ∈ range N, v n * Real.sin (2 * Real.pi * f * (n : ℝ)) : ℝ) : ℂ) * Complex.I := by
  unfold vpoly
  rw [Polynomial.eval_finsetSum]
  push_cast
  rw [Finset.sum_mul, ← Finset.sum_add_distrib]
  apply Finset.sum_congr rfl
  intro n _
  rw [Polynomial.eval_C_mul, Polynomial.eval_pow, Polynomial.eval_X, ← Complex.exp_nat_mul,
    show (n : ℂ) * (2 * (Real.pi : ℂ) * (f : ℂ) * Complex.I)
      = (2 * (Real.pi : ℂ) * (f : ℂ) * (n : ℂ)) * Complex.I by ring, Complex.exp_mul_I]
  ring

theorem specDensity_eq_zero_iff (N : ℕ) (v : ℕ → ℝ) (f : ℝ) :
    specDensity N v f = 0 ↔
      (vpoly N v).eval (Complex.exp (((2 * Real.pi * f : ℝ) : ℂ) * Complex.I)) = 0 := by
  rw [vpoly_eval]
  unfold specDensity
  generalize ∑ n ∈ range N, v n * Real.cos (2 * Real.pi * f * (n : ℝ)) = A
  generalize ∑ n ∈ range N, v n * Real.sin (2 * Real.pi * f * (n : ℝ)) = B
  rw [← Complex.mk_eq_add_mul_I, add_eq_zero_iff_of_nonneg (sq_nonneg A) (sq_nonneg B), sq_eq_zero_iff,
    sq_eq_zero_iff, Complex.ext_iff]
  exact Iff.rfl

theorem expMap_injOn {a b : ℝ} (hb : b ≤ a + 1 / 2) :
    Set.InjOn (fun f : ℝ => Complex.exp (((2 * Real.pi * f : ℝ) : ℂ) * Complex.I)) (Set.Icc a b) := by
  intro x hx y hy hxy
  obtain ⟨k, hk⟩ := Complex.exp_eq_exp_iff_exists_int.mp hxy
  -- `2πx·i = 2πy·i + k·2πi`, hence `x = y + k` with `|k| < 1`
  have h2 : ((2 * Real.pi * x : ℝ) : ℂ) = ((2 * Real.pi * (y + k) : ℝ) : ℂ) := by
    apply mul_right_cancel₀ Complex.I_ne_zero
    rw [hk]
    push_cast
    ring
  have h3 : x = y + k :=
    mul_left_cancel₀ (mul_ne_zero two_ne_zero Real.pi_ne_zero) (Complex.ofReal_injective h2)
  have hk : |(k : ℝ)| < 1 := by
    rw [show (k : ℝ) = x - y from eq_sub_of_add_eq' h3.symm, abs_lt]
    constructor
    · linarith [hx.1, hy.2]
    · linarith [hx.2, hy.1]
  have hk0 : k = 0 := Int.abs_lt_one_iff.mp (by exact_mod_cast hk)
  rw [h3, hk0, Int.cast_zero, add_zero]

theorem exists_specDensity_pos (N : ℕ) (v : ℕ → ℝ) (hv : ∃ n, n < N ∧ v n ≠ 0) {a b : ℝ} (hab : a < b) :
    ∃ c ∈ Set.Icc a b, 0 < specDensity N v c := by
  by_contra hcon
  push Not at hcon
  have hz : ∀ c ∈ Set.Icc a b, specDensity N v c = 0 :=
    fun c hc => le_antisymm (hcon c hc) (specDensity_nonneg N v c)
  have hab' : a < min b (a + 1 / 2) := lt_min hab (lt_add_of_pos_right a one_half_pos)
  have hinf : (Set.Icc a (min b (a + 1 / 2))).Infinite := Set.Icc_infinite hab'
  have himg := hinf.image (expMap_injOn (min_le_right b (a + 1 / 2)))
  have hroots : {x | (vpoly N v).IsRoot x}.Infinite := by
    apply himg.mono
    rintro z ⟨c, hc, rfl⟩
    exact (specDensity_eq_zero_iff N v c).mp (hz c ⟨hc.1, hc.2.trans (min_le_left _ _)⟩)
  have hp := Polynomial.eq_zero_of_infinite_isRoot _ hroots
  obtain ⟨n, hn, hvn⟩ := hv
  have := vpoly_coeff N v hn
  rw [hp, Polynomial.coeff_zero] at this
  exact hvn (Complex.ofReal_eq_zero.mp this.symm)

theorem integral_specDensity_pos (N : ℕ) (v : ℕ → ℝ) (hv : ∃ n, n < N ∧ v n ≠ 0) {a b : ℝ} (hab : a < b) :
    0 < ∫ f in a..b, specDensity N v f :=
  intervalIntegral.integral_pos hab (specDensity_continuous N v).continuousOn
    (fun f _ => specDensity_nonneg N v f) (exists_specDensity_pos N v hv hab)

theorem quadform_lt_normsq (N : ℕ) {W : ℝ} (h0 : 0 ≤ W) (h1 : W < 1 / 2) (v : ℕ → ℝ)
    (hv : ∃ n, n < N ∧ v n ≠ 0) :
    ∑ n ∈ range N, ∑ m ∈ range N, v n * sincKernel W n m * v m < ∑ n ∈ range N, v n * v n := by
  rw [quadform_eq_integral, normsq_eq_integral]
  have hint : ∀ a b : ℝ, IntervalIntegrable (specDensity N v) MeasureTheory.volume a b :=
    fun a b => (specDensity_continuous N v).intervalIntegrable a b
  rw [← intervalIntegral.integral_add_adjacent_intervals (hint (-(1 / 2)) W) (hint W (1 / 2))]
  have hle : ∫ f in (-W)..W, specDensity N v f ≤ ∫ f in (-(1 / 2 : ℝ))..W, specDensity N v f :=
    intervalIntegral.integral_mono_interval (neg_le_neg h1.le) (neg_le_self h0) le_rfl
      (Filter.Eventually.of_forall (fun f => specDensity_nonneg N v f)) (hint _ _)
  exact lt_of_le_of_lt hle (lt_add_of_pos_right _ (integral_specDensity_pos N v hv h1))

end SpecVerif.SincL
