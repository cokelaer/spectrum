import SpecVerif.Model.Daniell
import SpecVerif.Proofs.Lemmas.Basic
import Mathlib.Algebra.Order.BigOperators.Ring.Finset
import Mathlib.Tactic.Ring
/-
  `Model/Daniell.lean`: every output of `daniell` averages between `1` and `2P+1` bins
  (`daniellCount_pos`, `daniellCount_le`) and is homogeneous in the periodogram; sign of a bin.
-/
namespace SpecVerif.DaniellL
open Finset SpecVerif

theorem daniellLen_bounds (L P : ℕ) :
    L / (2 * P + 1) ≤ daniellLen L P ∧ daniellLen L P ≤ (L + (2 * P + 1) - 1) / (2 * P + 1) := by
  have hfl : L / (2 * P + 1) ≤ (L + (2 * P + 1) - 1) / (2 * P + 1) :=
    Nat.div_le_div_right (by omega)
  -- whatever the two parity tests say, the value is the truncated or the rounded-up quotient
  unfold daniellLen
  simp only
  split
  · split
    · exact ⟨le_rfl, hfl⟩
    · exact ⟨hfl, le_rfl⟩
  · split
    · exact ⟨le_rfl, hfl⟩
    · exact ⟨hfl, le_rfl⟩

/-- every averaging window starts inside the periodogram: `(len − 1)(2P+1) < L` -/
theorem daniell_window_start (L P i : ℕ) (hi : i < daniellLen L P) : i * (2 * P + 1) < L := by
  have h := (Nat.le_div_iff_mul_le (Nat.succ_pos (2 * P))).mp
    (Nat.succ_le_of_lt (hi.trans_le (daniellLen_bounds L P).2))
  rw [Nat.succ_mul] at h
  generalize i * (2 * P + 1) = t at h ⊢
  omega

theorem daniellCount_pos (L P i : ℕ) (hP : 1 ≤ P) (hL : 2 ≤ L) (hi : i < daniellLen L P) :
    0 < daniellCount L P i := by
  have hs := daniell_window_start L P i hi
  unfold daniellCount daniellHi daniellLo
  generalize i * (2 * P + 1) = t at hs ⊢
  -- the window `[max (t-P) 1, min (t+P+1) L)` is not empty: each lower end is below each upper end
  apply Nat.sub_pos_of_lt
  apply max_lt
  · exact lt_min (by omega) (lt_of_le_of_lt (Nat.sub_le t P) hs)
  · exact lt_min (by omega) hL

theorem daniellCount_le (L P i : ℕ) : daniellCount L P i ≤ 2 * P + 1 := by
  unfold daniellCount daniellHi daniellLo
  generalize i * (2 * P + 1) = t
  exact (tsub_le_tsub (min_le_left _ _) (le_max_left _ _)).trans (by omega)

section Field
variable {K : Type} [Field K]

theorem daniellBin_eq (psd : List K) (P i : ℕ) :
    daniellBin psd P i
      = (∑ j ∈ range (daniellCount psd.length P i), nth psd (daniellLo P i + j))
          / (daniellCount psd.length P i : K) := by
  unfold daniellBin
  rw [sumR_eq_sum]

theorem daniellBin_smul (s : K) (psd : List K) (P i : ℕ) :
    daniellBin (psd.map (s * ·)) P i = s * daniellBin psd P i := by
  rw [daniellBin_eq, daniellBin_eq, List.length_map, ← mul_div_assoc, Finset.mul_sum]
  exact congrArg (· / _) (Finset.sum_congr rfl (fun j _ => nth_map_mul_left s psd _))

theorem daniellBin_mean [CharZero K] (psd : List K) (P i : ℕ) (hc : 0 < daniellCount psd.length P i) :
    (daniellCount psd.length P i : K) * daniellBin psd P i
      = ∑ j ∈ range (daniellCount psd.length P i), nth psd (daniellLo P i + j) := by
  have : (daniellCount psd.length P i : K) ≠ 0 := Nat.cast_ne_zero.mpr (by omega)
  rw [daniellBin_eq, mul_div_cancel₀ _ this]

end Field

section Ordered
variable {K : Type} [Field K] [LinearOrder K] [IsStrictOrderedRing K]

theorem daniellBin_nonneg (psd : List K) (P i : ℕ) (h : ∀ n, 0 ≤ nth psd n) : 0 ≤ daniellBin psd P i := by
  rw [daniellBin_eq]
  exact div_nonneg (Finset.sum_nonneg (fun j _ => h _)) (Nat.cast_nonneg _)

theorem daniellBin_pos (psd : List K) (P i : ℕ) (hc : 0 < daniellCount psd.length P i)
    (h : ∀ n, n < psd.length → 0 < nth psd n) (hhi : daniellHi psd.length P i ≤ psd.length) :
    0 < daniellBin psd P i := by
  rw [daniellBin_eq]
  apply div_pos
  · apply Finset.sum_pos
    · intro j hj
      exact h _ ((Nat.add_lt_of_lt_sub' (Finset.mem_range.mp hj)).trans_le hhi)
    · exact ⟨0, Finset.mem_range.mpr hc⟩
  · exact Nat.cast_pos.mpr hc

end Ordered

end SpecVerif.DaniellL
