import SpecVerif.Proofs.Lemmas.Basic
import SpecVerif.Model.Periodogram
/-
  Lengths and entries of the definitions of `Model/Periodogram.lean`; the four kinds of entry of the
  lag sequence `correlogramSeq` when its two halves do not overlap (`2·lag+1 ≤ NFFT`).
-/
namespace SpecVerif

variable {K : Type} [Field K] [StarRing K]

theorem rePart_of_star_eq {z : K} (h2 : (2 : K) ≠ 0) (hz : star z = z) : rePart z = z := by
  unfold rePart
  rw [conj_eq_star, hz, Nat.cast_ofNat, ← two_mul, mul_div_cancel_left₀ _ h2]

theorem speriodogram_length (tw x w : List K) (nfft : ℕ) (isReal : Bool) :
    (speriodogram tw x w nfft isReal).length = if isReal then nfft / 2 + 1 else nfft :=
  vec_length _ _

theorem nth_speriodogram (tw x w : List K) (n : ℕ) (isReal : Bool) {k : ℕ}
    (hk : k < (if isReal then n / 2 + 1 else n)) :
    nth (speriodogram tw x w n isReal) k
      = abs2 (dftBin tw n (vec x.length (fun j => nth x j * nth w j)) k) / (x.length : K) :=
  nth_vec_lt _ hk

theorem correlogramSeq_length (rxy ryx w : List K) (lag nfft : ℕ) :
    (correlogramSeq rxy ryx w lag nfft).length = nfft := vec_length _ _

theorem correlogram_length (tw x y w : List K) (lag n : ℕ) (norm : Norm) (rms2 : K) :
    (correlogram tw x y w lag n norm rms2).length = n := vec_length _ _

theorem correlogram_eq (tw x y w : List K) (lag nfft : ℕ) (norm : Norm) (rms2 : K) :
    correlogram tw x y w lag nfft norm rms2
      = correlogramPsd tw (correlation x y lag norm rms2) (correlation y x lag norm rms2) w lag
          nfft := rfl

theorem nth_correlogramPsd (tw rxy ryx w : List K) (lag n : ℕ) {k : ℕ} (hk : k < n) :
    nth (correlogramPsd tw rxy ryx w lag n) k
      = rePart (dftBin tw n (correlogramSeq rxy ryx w lag n) k) := nth_vec_lt _ hk

theorem nth_correlogramSeq (rxy ryx w : List K) (lag n : ℕ) {i : ℕ} (hi : i < n) :
    nth (correlogramSeq rxy ryx w lag n) i
      = if i = 0 then nth rxy 0
        else if n - lag ≤ i then star (nth ryx (n - i)) * nth w (n - i - 1)
        else if i ≤ lag then nth rxy i * nth w (i - 1)
        else 0 := nth_vec_lt _ hi

theorem nth_correlogramSeq_zero {nfft L : ℕ} (hL : 2 * L + 1 ≤ nfft) (rxy ryx w : List K) :
    nth (correlogramSeq rxy ryx w L nfft) 0 = nth rxy 0 := by
  rw [nth_correlogramSeq _ _ _ _ _ (by omega), if_pos rfl]

theorem nth_correlogramSeq_pos {nfft L : ℕ} (hL : 2 * L + 1 ≤ nfft) (rxy ryx w : List K) {m : ℕ}
    (h1 : 1 ≤ m) (h2 : m ≤ L) :
    nth (correlogramSeq rxy ryx w L nfft) m = nth rxy m * nth w (m - 1) := by
  rw [nth_correlogramSeq _ _ _ _ _ (by omega), if_neg (by omega), if_neg (by omega), if_pos h2]

theorem nth_correlogramSeq_mid {nfft L : ℕ} (rxy ryx w : List K) {i : ℕ}
    (h1 : L < i) (h2 : i < nfft - L) :
    nth (correlogramSeq rxy ryx w L nfft) i = 0 := by
  rw [nth_correlogramSeq _ _ _ _ _ (by omega), if_neg (by omega), if_neg (by omega),
    if_neg (by omega)]

theorem nth_correlogramSeq_neg {nfft L : ℕ} (hL : 2 * L + 1 ≤ nfft) (rxy ryx w : List K) {m : ℕ}
    (h1 : 1 ≤ m) (h2 : m ≤ L) :
    nth (correlogramSeq rxy ryx w L nfft) (nfft - m) = star (nth ryx m) * nth w (m - 1) := by
  have hm : m < nfft := by omega
  rw [nth_correlogramSeq _ _ _ _ _ (Nat.sub_lt (Nat.zero_lt_of_lt hm) h1),
    if_neg (Nat.sub_ne_zero_of_lt hm), if_pos (Nat.sub_le_sub_left h2 nfft),
    Nat.sub_sub_self hm.le]

end SpecVerif
