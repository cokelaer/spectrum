import SpecVerif.Proofs.Lemmas.SchurCohn
import SpecVerif.Proofs.Lemmas.LpcLsf
import Mathlib.Topology.Algebra.Monoid
/-
  The zeros of the line-spectral polynomials `P1(z) = z·A − R`, `Q1(z) = z·A + R` (`polyEval_lsfSplit_cons`;
  `R = B` for real coefficients) lie on the unit circle, are simple and are not shared.  Everything rests on
  the Christoffel–Darboux kernel of the step-up recursion (`cd_kernel`): for a minimum-phase `a` (`MinPhase`),
    `B(z)·conj B(w) − z·conj(w)·A(z)·conj A(w) = (1 − z·conj w)·S(z,w)`,  `S(w,w) > 0`.
  Its diagonal orders `|zA|`, `|B|` as `|z|`, `1`, so `zA + cB` (`lsfComb a c`; `c = ∓1` are `P1`, `Q1`) has no
  zero off the circle for unimodular `c`; at a zero `z0` the kernel factors `zA + cB` (`cd_kernel_at_zero`),
  which excludes a double zero.
-/
namespace SpecVerif.LsfCircleL
open Finset SpecVerif SpecVerif.SchurL SpecVerif.LpcL

section Real
variable {K : Type} [Field K] [StarRing K]

theorem levup_star_fixed (a : List K) (k : K) (ha : ∀ j, star (nth a j) = nth a j)
    (hk : star k = k) (j : ℕ) : star (nth (levup a k) j) = nth (levup a k) j := by
  rcases Nat.lt_trichotomy j a.length with h | h | h
  · rw [nth_levup_lt a k j h, star_add, star_mul', star_star, ha, hk, ha]
  · rw [h, nth_levup_last, hk]
  · rw [nth_of_ge _ j (by rw [levup_length]; omega), star_zero]

theorem rc2poly_star_fixed (kr : List K) (r0 : K) (hk : ∀ k ∈ kr, star k = k) (j : ℕ) :
    star (nth (rc2poly kr r0).1 j) = nth (rc2poly kr r0).1 j := by
  induction kr using List.reverseRecOn generalizing j with
  | nil => rw [rc2poly_nil, nth_of_ge _ j (by simp), star_zero]
  | append_singleton kr k ih =>
    rw [rc2poly_append_singleton]
    exact levup_star_fixed _ k (fun i => ih (fun k' hk' => hk k' (by simp [hk'])) i)
      (hk k (by simp)) j

theorem polyB_eq_polyR (a : List K) (ha : ∀ j, star (nth a j) = nth a j) (z : K) :
    polyB a z = polyR a z := by
  unfold polyB polyR
  congr 1
  apply Finset.sum_congr rfl
  intro j _
  rw [ha]

end Real

section Eval
variable {K : Type} [Field K]

/-- the two spellings of the prediction polynomial: `LpcL.polyEval` with the leading 1, `SchurL.polyA`
without -/
theorem polyEval_cons_one (c : List K) (z : K) : polyEval ((1 : K) :: c) z = polyA c z := by
  rw [polyEval, polyA, List.length_cons, Finset.sum_range_succ', nth_cons_zero, one_mul,
    Nat.add_sub_cancel, Nat.sub_zero, add_comm]
  refine congrArg (z ^ c.length + ·) (Finset.sum_congr rfl fun i _ => ?_)
  rw [nth_cons_succ, Nat.sub_sub c.length 1 i, Nat.add_comm 1 i]

theorem polyEval_lsfSplit_cons (c : List K) (z : K) :
    polyEval (lsfSplit ((1 : K) :: c)).1 z = z * polyA c z - polyR c z
    ∧ polyEval (lsfSplit ((1 : K) :: c)).2 z = z * polyA c z + polyR c z := by
  have hR : ∑ i ∈ range ((1 : K) :: c).length, nth ((1 : K) :: c) i * z ^ i = polyR c z := by
    rw [polyR, List.length_cons, Finset.sum_range_succ', nth_cons_zero, pow_zero, mul_one, add_comm]
    rfl
  rw [(polyEval_lsfSplit _ z).1, (polyEval_lsfSplit _ z).2, polyEval_cons_one, hR]
  exact ⟨rfl, rfl⟩

end Eval

section Kernel
variable {F : Type} [RCLike F]

theorem continuous_polyA (a : List F) : Continuous (polyA a) := by
  show Continuous (fun z => z ^ a.length + ∑ j ∈ range a.length, nth a j * z ^ (a.length - 1 - j))
  fun_prop

theorem continuous_polyB (a : List F) : Continuous (polyB a) := by
  show Continuous (fun z => 1 + ∑ j ∈ range a.length, star (nth a j) * z ^ (j + 1))
  fun_prop

/-- polarised form of `SchurL.norm_sq_stepup` -/
theorem stepup_polarised (X Y X' Y' z w' k k' : F) :
    (Y + k' * z * X) * (Y' + k * w' * X') - z * w' * ((z * X + k * Y) * (w' * X' + k' * Y'))
      = (1 - k * k') * (Y * Y' - z * w' * (X * X'))
        + (1 - z * w') * ((z * X + k * Y) * (w' * X' + k' * Y')) := by
  ring

/-- "minimum phase": `a` (no leading 1) is the step-up polynomial of reflection coefficients of modulus
`< 1`; for `a = c` with `‖k‖ < 1` on `poly2rc c` this is `minPhase_of_poly2rc` -/
def MinPhase (a : List F) : Prop := ∃ kr r0, (∀ k ∈ kr, ‖k‖ < 1) ∧ (rc2poly kr r0).1 = a

theorem minPhase_rc2poly {kr : List F} (r0 : F) (hk : ∀ k ∈ kr, ‖k‖ < 1) :
    MinPhase (rc2poly kr r0).1 :=
  ⟨kr, r0, hk, rfl⟩

theorem minPhase_of_poly2rc {c : List F} (hk : ∀ k ∈ poly2rc c, ‖k‖ < 1) : MinPhase c :=
  ⟨poly2rc c, 1, hk,
    rc2poly_poly2rc' c 1 (fun k hk' => one_sub_mul_star_ne_zero_of_norm_lt_one k (hk k hk'))⟩

/-- `z·A + c·B`; for real coefficients `c = -1` is `P1` and `c = 1` is `Q1` (`polyEval_lsfSplit_comb`) -/
def lsfComb (a : List F) (c z : F) : F := z * polyA a z + c * polyB a z

theorem continuous_lsfComb (a : List F) (c : F) : Continuous (lsfComb a c) :=
  (continuous_id.mul (continuous_polyA a)).add (continuous_const.mul (continuous_polyB a))

variable {a : List F}

/-- Christoffel–Darboux kernel: `S = Σ_j (∏_{i>j}(1−|k_i|²)) A_j(z) conj A_j(w)` over the lower-order
polynomials, `A_0 = 1` -/
theorem cd_kernel (ha : MinPhase a) :
    ∃ S : F → F → F, (∀ w, Continuous fun z => S z w)
      ∧ (∀ w, ∃ r : ℝ, S w w = (r : F) ∧ 0 < r)
      ∧ ∀ z w, polyB a z * star (polyB a w) - z * star w * (polyA a z * star (polyA a w))
          = (1 - z * star w) * S z w := by
  obtain ⟨kr, r0, hk, rfl⟩ := ha
  induction kr using List.reverseRecOn with
  | nil =>
    refine ⟨fun _ _ => 1, fun _ => continuous_const,
      fun _ => ⟨1, RCLike.ofReal_one.symm, one_pos⟩, ?_⟩
    intro z w
    simp only [rc2poly_nil, polyA_nil, polyB_nil, star_one, mul_one]
  | append_singleton kr k ih =>
    obtain ⟨S, hS1, hS2, hS3⟩ := ih (fun k' hk' => hk k' (by simp [hk']))
    have hk1 : ‖k‖ < 1 := hk k (by simp)
    rw [rc2poly_append_singleton]
    set c := (rc2poly kr r0).1 with hc
    refine ⟨fun z w => (1 - k * star k) * S z w + polyA (levup c k) z * star (polyA (levup c k) w),
      ?_, ?_, ?_⟩
    · intro w
      exact (continuous_const.mul (hS1 w)).add ((continuous_polyA _).mul continuous_const)
    · intro w
      obtain ⟨r, hr1, hr2⟩ := hS2 w
      refine ⟨(1 - ‖k‖ ^ 2) * r + ‖polyA (levup c k) w‖ ^ 2, ?_, ?_⟩
      · show (1 - k * star k) * S w w + polyA (levup c k) w * star (polyA (levup c k) w) = _
        rw [hr1, mul_star_eq_ofReal, mul_star_eq_ofReal]
        push_cast
        ring
      · have h1 : 0 < 1 - ‖k‖ ^ 2 := sub_pos.mpr (pow_lt_one₀ (norm_nonneg k) hk1 two_ne_zero)
        exact add_pos_of_pos_of_nonneg (mul_pos h1 hr2) (sq_nonneg _)
    · intro z w
      show _ = (1 - z * star w)
        * ((1 - k * star k) * S z w + polyA (levup c k) z * star (polyA (levup c k) w))
      simp only [polyA_levup, polyB_levup, star_add, star_mul', star_star]
      rw [stepup_polarised (polyA c z) (polyB c z) (star (polyA c w)) (star (polyB c w)) z (star w) k (star k),
        hS3 z w]
      ring

/-- the kernel on the diagonal, `|B(z)|² − |z·A(z)|² = (1 − |z|²)·S(z,z)`: `|zA| > |B|` outside and
`|zA| < |B|` inside the circle (one stage later this is strict Schur–Cohn, `C11.schur_cohn_strict`) -/
theorem norm_sq_polyB_sub (ha : MinPhase a) (z : F) :
    ∃ r : ℝ, 0 < r ∧ ‖polyB a z‖ ^ 2 - ‖z * polyA a z‖ ^ 2 = (1 - ‖z‖ ^ 2) * r := by
  obtain ⟨S, _, hS2, hS3⟩ := cd_kernel ha
  obtain ⟨r, hr, hr0⟩ := hS2 z
  refine ⟨r, hr0, ?_⟩
  have h := hS3 z z
  rw [hr, mul_star_eq_ofReal, mul_star_eq_ofReal, mul_star_eq_ofReal] at h
  apply RCLike.ofReal_injective (K := F)
  rw [norm_mul, mul_pow]
  push_cast at h ⊢
  linear_combination h

/-- no zero off the circle, `z = 0` included -/
theorem lsfComb_ne_zero (ha : MinPhase a) (c z : F) (hc : ‖c‖ = 1) (hz : ‖z‖ ≠ 1) :
    lsfComb a c z ≠ 0 := by
  intro h0
  unfold lsfComb at h0
  obtain ⟨r, hr, h⟩ := norm_sq_polyB_sub ha z
  have hn : ‖z * polyA a z‖ = ‖polyB a z‖ := by
    rw [eq_neg_of_add_eq_zero_left h0, norm_neg, norm_mul, hc, one_mul]
  rw [hn, sub_self] at h
  have hz2 : 1 - ‖z‖ ^ 2 = 0 := (mul_eq_zero.mp h.symm).resolve_right hr.ne'
  exact hz ((pow_eq_one_iff_of_nonneg (norm_nonneg z) two_ne_zero).mp (sub_eq_zero.mp hz2).symm)

/-- `zA + cB` and `zA − cB` have no common zero: it would lie on the circle and be a zero of `A` -/
theorem lsfComb_no_common_zero (ha : MinPhase a) (c z : F) (hc : ‖c‖ = 1) (h1 : lsfComb a c z = 0)
    (h2 : lsfComb a (-c) z = 0) : False := by
  have hz : ‖z‖ = 1 := by_contra fun hz => lsfComb_ne_zero ha c z hc hz h1
  have hzA : z * polyA a z = 0 := by
    unfold lsfComb at h1 h2
    linear_combination (1 / 2 : F) * h1 + (1 / 2 : F) * h2
  have hz0 : z ≠ 0 := fun h0 => by
    rw [h0, norm_zero] at hz
    exact zero_ne_one hz
  obtain ⟨kr, r0, hk, rfl⟩ := ha
  exact stable_of_refl_lt_one kr r0 hk z hz.ge ((mul_eq_zero.mp hzA).resolve_left hz0)

/-- at a zero `z0` of `zA + cB` (`|c| = 1`) the kernel in `w = z0` is a multiple of `zA + cB` itself -/
theorem cd_kernel_at_zero (a : List F) (S : F → F → F)
    (hS : ∀ z w, polyB a z * star (polyB a w) - z * star w * (polyA a z * star (polyA a w))
      = (1 - z * star w) * S z w)
    (c z0 : F) (hc : c * star c = 1) (h0 : lsfComb a c z0 = 0) (z : F) :
    -(star z0 * star (polyA a z0)) * lsfComb a c z = (1 - z * star z0) * S z z0 := by
  unfold lsfComb at h0 ⊢
  have hB : polyB a z0 = -(star c * z0 * polyA a z0) := by
    have : star c * (z0 * polyA a z0 + c * polyB a z0) = 0 := by rw [h0, mul_zero]
    have hc' : star c * c = 1 := by rw [mul_comm]; exact hc
    linear_combination this - polyB a z0 * hc'
  rw [← hS z z0, hB]
  simp only [star_neg, star_mul', star_star]
  ring

/-- the only topology used: the complement of a point is dense -/
theorem eq_at_of_sub_mul_eq {u v : F → F} (hu : Continuous u) (hv : Continuous v) (z0 : F)
    (h : ∀ z, (z - z0) * u z = (z - z0) * v z) : u z0 = v z0 :=
  congrFun (Continuous.ext_on (dense_compl_singleton z0) hu hv
    (fun z hz => mul_left_cancel₀ (sub_ne_zero.mpr hz) (h z))) z0

/-- `H` only continuous: no polynomial division is needed.  A factor `(z − z0)²·H(z)` would force `S(z0,z0) = 0` in
`cd_kernel_at_zero`. -/
theorem lsfComb_no_double_zero (ha : MinPhase a) (c z0 : F) (hc : ‖c‖ = 1) (H : F → F)
    (hH : Continuous H) : ¬ ∀ z, lsfComb a c z = (z - z0) ^ 2 * H z := by
  intro hfac
  have h0 : lsfComb a c z0 = 0 := by rw [hfac z0]; ring
  have hz0 : ‖z0‖ = 1 := by
    by_contra hne
    exact lsfComb_ne_zero ha c z0 hc hne h0
  have hcc : c * star c = 1 := by rw [mul_star_eq_ofReal, hc, one_pow, RCLike.ofReal_one]
  have hzz : z0 * star z0 = 1 := by rw [mul_star_eq_ofReal, hz0, one_pow, RCLike.ofReal_one]
  obtain ⟨S, hS1, hS2, hS3⟩ := cd_kernel ha
  have hker := cd_kernel_at_zero a S hS3 c z0 hcc h0
  have h := eq_at_of_sub_mul_eq
    (u := fun z => star z0 * star (polyA a z0) * ((z - z0) * H z)) (v := fun z => star z0 * S z z0)
    (continuous_const.mul ((continuous_id.sub continuous_const).mul hH))
    (continuous_const.mul (hS1 z0)) z0
    (fun z => by
      have h1 := hker z
      rw [hfac z] at h1
      linear_combination S z z0 * hzz - h1)
  obtain ⟨r, hr1, hr2⟩ := hS2 z0
  rw [sub_self, zero_mul, mul_zero, hr1] at h
  have hsz : star z0 ≠ 0 := by
    intro h'; rw [h', mul_zero] at hzz; exact zero_ne_one hzz
  exact hr2.ne' (RCLike.ofReal_eq_zero.mp ((mul_eq_zero.mp h.symm).resolve_left hsz))

end Kernel

/-! ### the computed root lists (contract of `numpy.roots`: the list multiplies back to the polynomial) -/

section RootLists
variable {K : Type} [Field K]

theorem prod_roots_split_dup (rs : List K) (h : ¬ rs.Nodup) :
    ∃ (r : K) (l : List K), ∀ z,
      (rs.map (fun s => z - s)).prod = (z - r) ^ 2 * (l.map (fun s => z - s)).prod := by
  obtain ⟨r, hr⟩ := List.exists_duplicate_iff_not_nodup.mpr h
  obtain ⟨l, hl⟩ := (List.duplicate_iff_sublist.mp hr).exists_perm_append
  refine ⟨r, l, fun z => ?_⟩
  rw [(hl.map _).prod_eq]
  simp only [List.map_append, List.map_cons, List.map_nil, List.prod_append, List.prod_cons,
    List.prod_nil]
  ring

theorem prod_roots_eq_zero_iff (rs : List K) (z : K) :
    (rs.map (fun s => z - s)).prod = 0 ↔ z ∈ rs := by
  constructor
  · intro h
    obtain ⟨s, hs, hz⟩ := List.mem_map.mp (List.prod_eq_zero_iff.mp h)
    rw [sub_eq_zero.mp hz]
    exact hs
  · intro h
    exact List.prod_eq_zero (List.mem_map.mpr ⟨z, h, sub_self z⟩)

/-- the fixed zeros that `poly2lsf` divides out of `P1`: `z = 1`, and `z = −1` for odd order -/
def fixedP (p : ℕ) : List K := if p % 2 = 1 then [1, -1] else [1]

/-- the fixed zero that `poly2lsf` divides out of `Q1`: `z = −1` for even order -/
def fixedQ (p : ℕ) : List K := if p % 2 = 1 then [] else [-1]

theorem mem_fixed (p : ℕ) (r : K) : r ∈ fixedP p ++ fixedQ p ↔ r = 1 ∨ r = -1 := by
  unfold fixedP fixedQ
  by_cases h : p % 2 = 1
  · simp [h]
  · simp [h]

/-- under the contract of `numpy.roots` the two split polynomials are the products of the linear factors of
the computed roots and the fixed zeros — the one place where the parity of the order matters -/
theorem lsf_full_factor (p : ℕ) (P Q rP rQ S1 S2 : List K)
    (hP : polyMul P (if p % 2 = 1 then [1, 0, -1] else [1, -1]) = S1)
    (hQ : polyMul Q (if p % 2 = 1 then [1] else [1, 1]) = S2)
    (hrP : polyFromRoots rP = P) (hrQ : polyFromRoots rQ = Q) (z : K) :
    polyEval S1 z = ((rP ++ fixedP p).map (fun s => z - s)).prod
    ∧ polyEval S2 z = ((rQ ++ fixedQ p).map (fun s => z - s)).prod := by
  have hPne : P ≠ [] := hrP ▸ polyFromRoots_ne_nil rP
  have hQne : Q ≠ [] := hrQ ▸ polyFromRoots_ne_nil rQ
  subst hP hQ
  unfold fixedP fixedQ
  by_cases hodd : p % 2 = 1
  · simp only [if_pos hodd, List.map_append, List.prod_append, List.map_cons, List.map_nil,
      List.prod_cons, List.prod_nil]
    rw [LpcL.polyMul_eval P _ hPne (List.cons_ne_nil _ _), LpcL.polyMul_eval Q _ hQne (List.cons_ne_nil _ _),
      polyEval_quadratic, polyEval_one, ← hrP, ← hrQ, polyFromRoots_eval, polyFromRoots_eval]
    exact ⟨by ring, rfl⟩
  · simp only [if_neg hodd, List.map_append, List.prod_append, List.map_cons, List.map_nil,
      List.prod_cons, List.prod_nil]
    rw [LpcL.polyMul_eval P _ hPne (List.cons_ne_nil _ _), LpcL.polyMul_eval Q _ hQne (List.cons_ne_nil _ _),
      polyEval_linear, polyEval_linear, ← hrP, ← hrQ, polyFromRoots_eval, polyFromRoots_eval]
    exact ⟨by ring, by ring⟩

end RootLists

section Circle
variable {F : Type} [RCLike F] {a : List F}

theorem lsfComb_roots (ha : MinPhase a) (c : F) (hc : ‖c‖ = 1) (f : F → F) (hf : ∀ z, f z = lsfComb a c z)
    (L : List F) (hL : ∀ z, f z = (L.map (fun s => z - s)).prod) :
    (∀ r ∈ L, ‖r‖ = 1) ∧ L.Nodup := by
  constructor
  · intro r hr
    by_contra hz
    exact lsfComb_ne_zero ha c r hc hz (by rw [← hf, hL r, (prod_roots_eq_zero_iff L r).mpr hr])
  · by_contra hdup
    obtain ⟨r, l, hl⟩ := prod_roots_split_dup L hdup
    exact lsfComb_no_double_zero ha c r hc (fun z => (l.map (fun s => z - s)).prod)
      (continuous_list_prod l (fun _ _ => continuous_id.sub continuous_const))
      (fun z => by rw [← hf, hL z, hl z])

theorem star_lsfComb (hreal : ∀ j, star (nth a j) = nth a j) (c z : F) :
    star (lsfComb a c z) = lsfComb a (star c) (star z) := by
  unfold lsfComb polyA polyB
  simp only [star_add, star_mul', star_pow, star_sum, star_one, hreal]

/-- real coefficients, real `c`: the zeros come in conjugate pairs -/
theorem lsfComb_roots_star (hreal : ∀ j, star (nth a j) = nth a j) (c : F) (hc : star c = c) (f : F → F)
    (hf : ∀ z, f z = lsfComb a c z) (L : List F) (hL : ∀ z, f z = (L.map (fun s => z - s)).prod) :
    ∀ r ∈ L, star r ∈ L := by
  intro r hr
  apply (prod_roots_eq_zero_iff _ _).mp
  rw [← hL, hf, ← hc, ← star_lsfComb hreal, ← hf, hL r, (prod_roots_eq_zero_iff L r).mpr hr, star_zero]

/-- for real coefficients the statements about `z·A + c·B`, `c = ∓1`, are statements about the line spectral
polynomials (`a` without the leading 1) -/
theorem polyEval_lsfSplit_comb (hreal : ∀ j, star (nth a j) = nth a j) (z : F) :
    polyEval (lsfSplit ((1 : F) :: a)).1 z = lsfComb a (-1) z
    ∧ polyEval (lsfSplit ((1 : F) :: a)).2 z = lsfComb a 1 z := by
  rw [lsfComb, lsfComb, neg_one_mul, one_mul, ← sub_eq_add_neg, polyB_eq_polyR _ hreal]
  exact polyEval_lsfSplit_cons _ z

theorem lsfSplit_zero_on_circle (ha : MinPhase a) (hreal : ∀ j, star (nth a j) = nth a j) (z : F) :
    (polyEval (lsfSplit ((1 : F) :: a)).1 z = 0 → ‖z‖ = 1)
    ∧ (polyEval (lsfSplit ((1 : F) :: a)).2 z = 0 → ‖z‖ = 1) := by
  rw [(polyEval_lsfSplit_comb hreal z).1, (polyEval_lsfSplit_comb hreal z).2]
  exact ⟨fun h0 => by_contra fun hz => lsfComb_ne_zero ha _ z (by rw [norm_neg, norm_one]) hz h0,
    fun h0 => by_contra fun hz => lsfComb_ne_zero ha _ z norm_one hz h0⟩

theorem lsfSplit_no_common_zero (ha : MinPhase a) (hreal : ∀ j, star (nth a j) = nth a j) (z : F)
    (hP : polyEval (lsfSplit ((1 : F) :: a)).1 z = 0)
    (hQ : polyEval (lsfSplit ((1 : F) :: a)).2 z = 0) : False := by
  rw [(polyEval_lsfSplit_comb hreal z).1] at hP
  rw [(polyEval_lsfSplit_comb hreal z).2, ← neg_neg (1 : F)] at hQ
  exact lsfComb_no_common_zero ha (-1) z (by rw [norm_neg, norm_one]) hP hQ

/-- `LP`, `LQ`: any full lists of zeros of `P1`, `Q1` (for `poly2lsf`: computed roots ++ fixed zeros) -/
theorem lsf_full_roots (ha : MinPhase a) (hreal : ∀ j, star (nth a j) = nth a j) (LP LQ : List F)
    (hLP : ∀ z, polyEval (lsfSplit ((1 : F) :: a)).1 z = (LP.map (fun s => z - s)).prod)
    (hLQ : ∀ z, polyEval (lsfSplit ((1 : F) :: a)).2 z = (LQ.map (fun s => z - s)).prod) :
    (∀ r ∈ LP ++ LQ, ‖r‖ = 1) ∧ (LP ++ LQ).Nodup
      ∧ (∀ r ∈ LP, star r ∈ LP) ∧ (∀ r ∈ LQ, star r ∈ LQ) := by
  obtain ⟨huP, hnP⟩ := lsfComb_roots ha (-1) (by rw [norm_neg, norm_one]) _
    (fun z => (polyEval_lsfSplit_comb hreal z).1) LP hLP
  obtain ⟨huQ, hnQ⟩ := lsfComb_roots ha 1 norm_one _ (fun z => (polyEval_lsfSplit_comb hreal z).2) LQ hLQ
  refine ⟨fun r hr => (List.mem_append.mp hr).elim (huP r) (huQ r),
    List.nodup_append.mpr ⟨hnP, hnQ, fun x hx y hy hxy => ?_⟩,
    lsfComb_roots_star hreal (-1) (by rw [star_neg, star_one]) _
      (fun z => (polyEval_lsfSplit_comb hreal z).1) LP hLP,
    lsfComb_roots_star hreal 1 (star_one F) _ (fun z => (polyEval_lsfSplit_comb hreal z).2) LQ hLQ⟩
  refine lsfSplit_no_common_zero ha hreal x ?_ ?_
  · rw [hLP x, (prod_roots_eq_zero_iff LP x).mpr hx]
  · rw [hLQ x, (prod_roots_eq_zero_iff LQ x).mpr (hxy ▸ hy)]

end Circle

end SpecVerif.LsfCircleL
