import SpecVerif.Proofs.Lemmas.EvalAttr
import SpecVerif.Proofs.Lemmas.Basic
/-
  Evaluation of the model on closed data over a scalar type without decidable equality (`ℝ`, `ℂ`, a
  generic field).  `simp only [f, g, spec_eval, spec_eval_proc]` unfolds the model functions `f`, `g`
  named in the call and computes every list, index and bounded sum; what is left is arithmetic in the
  scalars, for `norm_num`.  Over `ℚ`, `ℕ`, `CRat` the kernel computes instead (`decide +kernel`).
-/
namespace SpecVerif

attribute [spec_eval] nth

attribute [spec_eval] vec_zero vec_succ sumR_zero sumR_succ

attribute [spec_eval] List.length_cons List.length_nil List.length_append
  List.getD_cons_zero List.getD_cons_succ List.getD_nil
  List.nil_append List.cons_append List.map_cons List.map_nil List.map_append
  List.range_succ List.range_zero List.foldl_cons List.foldl_nil
  Finset.sum_range_succ Finset.sum_range_zero
  Option.map_some Option.map_none
  List.find?_cons List.find?_nil List.reverse_cons List.reverse_nil
  Nat.le_refl Nat.lt_irrefl Nat.zero_le
  decide_true decide_false Bool.not_true Bool.not_false Bool.and_true Bool.true_and Bool.and_false
  Bool.false_and

attribute [spec_eval_proc] Nat.reduceAdd Nat.reduceSub Nat.reduceMul Nat.reduceDiv Nat.reduceMod
  Nat.reduceEqDiff Nat.reduceLeDiff Nat.reduceLT Nat.reduceGT Nat.reduceSubDiff reduceIte

end SpecVerif
