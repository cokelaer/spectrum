import SpecVerif.Proofs.Lemmas.DFT
import Mathlib.RingTheory.RootsOfUnity.PrimitiveRoots
import Mathlib.Algebra.Field.GeomSum
/-
  What needs a *primitive* root of unity: orthogonality of the characters `k ↦ ω^{ak}` and the
  zero-padded Parseval identity.
-/
namespace SpecVerif
open Finset

variable {K : Type} [Field K]

theorem sum_pow_mul_inv_pow {ω : K} {n : ℕ} (hω : IsPrimitiveRoot ω n) (a b : ℕ) (ha : a < n)
    (hb : b < n) :
    ∑ k ∈ range n, (ω ^ a) ^ k * (ω⁻¹ ^ b) ^ k = if a = b then (n : K) else 0 := by
  have hω0 : ω ≠ 0 := hω.ne_zero (Nat.zero_lt_of_lt ha).ne'
  by_cases hab : a = b
  · subst hab
    have : ∀ k ∈ range n, (ω ^ a) ^ k * (ω⁻¹ ^ a) ^ k = 1 := by
      intro k _
      rw [← mul_pow, ← mul_pow, mul_inv_cancel₀ hω0, one_pow, one_pow]
    rw [if_pos rfl, Finset.sum_congr rfl this, Finset.sum_const, Finset.card_range, nsmul_one]
  · -- a geometric sum with ratio `q = ω^a ω^{-b}`, `q^n = 1`, `q ≠ 1`
    obtain ⟨q, hq⟩ : ∃ q, q = ω ^ a * ω⁻¹ ^ b := ⟨_, rfl⟩
    have hterm : ∀ k ∈ range n, (ω ^ a) ^ k * (ω⁻¹ ^ b) ^ k = q ^ k := by
      intro k _
      rw [hq, mul_pow]
    have hqn : q ^ n = 1 := by
      rw [hq, mul_pow, ← pow_mul, ← pow_mul, mul_comm a n, mul_comm b n, pow_mul, pow_mul, inv_pow,
        hω.pow_eq_one, inv_one, one_pow, one_pow, mul_one]
    have hq1 : q ≠ 1 := by
      intro h1
      rw [hq, inv_pow, mul_inv_eq_one₀ (pow_ne_zero b hω0)] at h1
      exact hab (hω.pow_inj ha hb h1)
    rw [if_neg hab, Finset.sum_congr rfl hterm, geom_sum_eq hq1 n, hqn, sub_self, zero_div]

variable [StarRing K]

theorem parseval_fun {ω : K} {n N : ℕ} (hω : IsPrimitiveRoot ω n) (hN : N ≤ n)
    (hstar : star ω = ω⁻¹) (x : ℕ → K) :
    ∑ k ∈ range n, (∑ a ∈ range N, x a * ω ^ (a * k)) * star (∑ a ∈ range N, x a * ω ^ (a * k))
      = (n : K) * ∑ a ∈ range N, x a * star (x a) := by
  simp only [pow_mul]
  simp only [star_sum, star_mul', star_pow, hstar, Finset.sum_mul, Finset.mul_sum]
  rw [Finset.sum_comm]
  apply Finset.sum_congr rfl
  intro a ha
  rw [Finset.sum_comm]
  have ha' : a < n := lt_of_lt_of_le (mem_range.mp ha) hN
  have : ∀ b ∈ range N, ∑ k ∈ range n, x b * (ω ^ b) ^ k * (star (x a) * (ω⁻¹ ^ a) ^ k)
      = x b * star (x a) * (if b = a then (n : K) else 0) := by
    intro b hb
    have hb' : b < n := lt_of_lt_of_le (mem_range.mp hb) hN
    rw [← sum_pow_mul_inv_pow hω b a hb' ha', Finset.mul_sum]
    exact Finset.sum_congr rfl (fun k _ => mul_mul_mul_comm _ _ _ _)
  rw [Finset.sum_congr rfl this]
  simp only [mul_ite, mul_zero]
  rw [Finset.sum_ite_eq' (range N) a]
  rw [if_pos ha, mul_comm]

end SpecVerif
