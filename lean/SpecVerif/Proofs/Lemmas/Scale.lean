import SpecVerif.Proofs.Lemmas.Arma
import SpecVerif.Proofs.Lemmas.Correlation
import SpecVerif.Proofs.Lemmas.RealFn
import SpecVerif.Proofs.Lemmas.Burg
import SpecVerif.Proofs.Lemmas.Similarity
import SpecVerif.Model.Estimators
import SpecVerif.Model.Criteria
import SpecVerif.Model.Eigen
import SpecVerif.Model.ClassGlue
import Mathlib.Analysis.SpecialFunctions.Log.Basic
/-
  Helper lemmas for C03 (amplitude equivariance): how every stage of the executable model reacts when
  the data are multiplied by a scalar `c` (`x.map (c * ·)`), with `s = c * star c` (`= |c|²`).
-/
namespace SpecVerif.ScaleL
open Finset SpecVerif SpecVerif.ArmaL SpecVerif.ShiftL

section Estimators
variable {K : Type} [Field K] [StarRing K]

theorem star_mul_star_self (c : K) : star (c * star c) = c * star c := by
  rw [star_mul', star_star, mul_comm]

theorem rePart_mul_selfadjoint {s : K} (hs : star s = s) (z : K) : rePart (s * z) = s * rePart z := by
  unfold rePart
  rw [conj_eq_star, conj_eq_star, star_mul', hs]
  ring

theorem rePart_div_selfadjoint {s : K} (hs : star s = s) (z : K) : rePart (z / s) = rePart z / s := by
  unfold rePart
  rw [conj_eq_star, conj_eq_star, star_div₀, hs]
  ring

theorem corrRaw_smul (c : K) (x y : List K) (n k : ℕ) :
    corrRaw (x.map (fun v => c * v)) (y.map (fun v => c * v)) n k = (c * star c) * corrRaw x y n k := by
  rw [corrRaw_eq, corrRaw_eq, Finset.mul_sum]
  apply Finset.sum_congr rfl
  intro j _
  rw [nth_map_mul_left, nth_map_mul_left, star_mul']
  ring

theorem correlation_smul (c : K) (x y : List K) (L : ℕ) (norm : Norm) (hn : norm ≠ .coeff) (rms2 : K) :
    correlation (x.map (fun v => c * v)) (y.map (fun v => c * v)) L norm rms2
      = (correlation x y L norm rms2).map (fun v => (c * star c) * v) := by
  unfold correlation
  simp only [List.length_map]
  refine vec_eq_map _ (fun k _ => ?_)
  simp only [corrRaw_smul]
  cases norm with
  | biased => simp only []; ring
  | unbiased => simp only []; ring
  | none => simp only []
  | coeff => exact absurd rfl hn

/-- coefficient-normalised correlation: invariant when `rms2` is scaled with the data -/
theorem correlation_smul_coeff {c : K} (hc : c ≠ 0) (x y : List K) (L : ℕ) (rms2 : K) :
    correlation (x.map (fun v => c * v)) (y.map (fun v => c * v)) L .coeff ((c * star c) * rms2)
      = correlation x y L .coeff rms2 := by
  unfold correlation
  simp only [List.length_map]
  apply vec_ext
  intro k _
  simp only [corrRaw_smul]
  by_cases hk : k = 0
  · simp only [hk, if_true]
  · simp only [hk, if_false]
    rw [mul_div_mul_left _ _ (mul_star_self_ne_zero hc)]

theorem correlogramSeq_smul {s : K} (hs : star s = s) (rxy ryx w : List K) (lag nfft : ℕ) :
    correlogramSeq (rxy.map (fun v => s * v)) (ryx.map (fun v => s * v)) w lag nfft
      = (correlogramSeq rxy ryx w lag nfft).map (fun v => s * v) := by
  unfold correlogramSeq
  refine vec_eq_map _ (fun i _ => ?_)
  by_cases h0 : i = 0
  · rw [if_pos h0, if_pos h0, nth_map_mul_left]
  · rw [if_neg h0, if_neg h0]
    by_cases h1 : nfft - lag ≤ i
    · rw [if_pos h1, if_pos h1, nth_map_mul_left, conj_eq_star, conj_eq_star, star_mul', hs, mul_assoc]
    · rw [if_neg h1, if_neg h1]
      by_cases h2 : i ≤ lag
      · rw [if_pos h2, if_pos h2, nth_map_mul_left, mul_assoc]
      · rw [if_neg h2, if_neg h2, mul_zero]

theorem correlogramPsd_smul {s : K} (hs : star s = s) (tw rxy ryx w : List K) (lag nfft : ℕ) :
    correlogramPsd tw (rxy.map (fun v => s * v)) (ryx.map (fun v => s * v)) w lag nfft
      = (correlogramPsd tw rxy ryx w lag nfft).map (fun v => s * v) := by
  unfold correlogramPsd
  simp only []
  refine vec_eq_map _ (fun k _ => ?_)
  rw [correlogramSeq_smul hs, dftBin_map_mul, rePart_mul_selfadjoint hs]

theorem aryule_smul {c : K} (hc : c ≠ 0) (x : List K) (p : ℕ) (norm : Norm) (hn : norm ≠ .coeff) :
    aryule (x.map (fun v => c * v)) p norm = scaleLev (c * star c) (aryule x p norm) := by
  unfold aryule
  simp only []
  rw [correlation_smul c x x p norm hn 1, nth_map_mul_left,
    rePart_mul_selfadjoint (star_mul_star_self c), List.map_tail.symm,
    levRun_smul (mul_star_self_ne_zero hc)]

def scaleBurg (c s : K) (st : BurgState K) : BurgState K :=
  { a := st.a, rho := s * st.rho, ref := st.ref, ef := st.ef.map (fun v => c * v),
    eb := st.eb.map (fun v => c * v), den := s * st.den, temp := st.temp }

/-- amplitude scaling is the case `μ = 1` of `burgRun_sim`; the rest repacks its eight fields into
`scaleBurg` -/
theorem burgRun_smul {c : K} (hc : c ≠ 0) (x : List K) (k : ℕ) :
    burgRun (x.map (fun v => c * v)) k = scaleBurg c (c * star c) (burgRun x k) := by
  have h := burgRun_sim hc (μ := 1) (x' := x.map (fun v => c * v)) (x := x) unimod_one
    (List.length_map _) (sim_smul c x) k
  have ha := h.a
  have href := h.ref
  have hmap : ∀ l' l : List K, l'.length = l.length → (∀ j, nth l' j = c * nth l j) →
      l' = l.map (fun v => c * v) := fun l' l hl h =>
    list_ext_nth (by rw [hl, List.length_map]) (fun j _ => by rw [h, nth_map_mul_left])
  rw [twist_one] at ha href
  cases hs : burgRun (x.map (fun v => c * v)) k
  rw [hs] at h ha href
  rw [scaleBurg, BurgState.mk.injEq]
  exact ⟨ha, h.rho, href, hmap _ _ h.ef_length (fun j => by rw [(h.err j).1, one_pow, one_mul]),
    hmap _ _ h.eb_length (fun j => by rw [(h.err j).2, one_pow, one_mul]), h.den, h.temp⟩

theorem burgOrder_congr {x' x : List K} {stop' stop : ℕ → K → Bool} {order : ℕ}
    (h : ∀ k, k < order →
      stop' (k + 1) (burgRun x' (k + 1)).rho = stop (k + 1) (burgRun x (k + 1)).rho) :
    burgOrder stop' x' order = burgOrder stop x order := by
  unfold burgOrder
  rw [List.find?_congr (fun k hk => h k (List.mem_range.mp hk))]

/-- two `arburg` calls that keep the same order, whose runs correspond under `f` and whose variances pass
the sign test of the code alike: they raise / succeed identically and return corresponding states -/
theorem arburg_map [ReOrd K] {x' x : List K} {stop' stop : ℕ → K → Bool} (f : BurgState K → BurgState K)
    (order : ℕ) (useCrit : Bool) (hl : x'.length = x.length)
    (hq : burgOrder stop' x' order = burgOrder stop x order)
    (hrun : ∀ k, burgRun x' k = f (burgRun x k))
    (hre : ∀ k, reLe0 (f (burgRun x k)).rho = reLe0 (burgRun x k).rho) :
    arburg x' order useCrit stop' = (arburg x order useCrit stop).map f := by
  have hany : (fun k => reLe0 (burgRun x' (k + 1)).rho) = fun k => reLe0 (burgRun x (k + 1)).rho :=
    funext (fun k => by rw [hrun, hre])
  -- the sign test and the returned state, at the order `q` both calls keep
  have htail : ∀ q, (if (List.range q).any (fun k => reLe0 (burgRun x' (k + 1)).rho)
        then (.error "value" : Except String (BurgState K)) else .ok (burgRun x' q))
      = (if (List.range q).any (fun k => reLe0 (burgRun x (k + 1)).rho)
        then (.error "value" : Except String (BurgState K)) else .ok (burgRun x q)).map f := by
    intro q
    rw [hany, hrun]
    by_cases hs : (List.range q).any (fun k => reLe0 (burgRun x (k + 1)).rho) = true
    · rw [if_pos hs, if_pos hs]; rfl
    · rw [if_neg hs, if_neg hs]; rfl
  unfold arburg
  rw [hl, hq]
  by_cases h0 : order = 0
  · rw [if_pos h0, if_pos h0]; rfl
  by_cases h1 : order > x.length
  · rw [if_neg h0, if_neg h0, if_pos h1, if_pos h1]; rfl
  rw [if_neg h0, if_neg h0, if_neg h1, if_neg h1]
  exact htail _

end Estimators

section Crit

/-- the amount by which criterion `c` moves when the variance is multiplied by `t`
    (`N·log t` for AIC and MDL, `log t` for AICc, KIC, AKICc; FPE is multiplicative, not additive) -/
noncomputable def critShift (c : Crit) (N : ℕ) (t : ℝ) : ℝ :=
  match c with
  | .AIC => (N : ℝ) * Real.log t
  | .MDL => (N : ℝ) * Real.log t
  | .AICc => Real.log t
  | .KIC => Real.log t
  | .AKICc => Real.log t
  | .FPE => 0

theorem critValue_log_smul (c : Crit) (hc : c ≠ .FPE) (N : ℕ) {t ρ : ℝ} (ht : 0 < t) (hρ : 0 < ρ)
    (k : ℕ) : critValue c N (t * ρ) k = critValue c N ρ k + critShift c N t := by
  cases c <;>
    first
    | exact absurd rfl hc
    | (simp only [critValue, critShift, RealFn.log, Real.log_mul ht.ne' hρ.ne']; ring)

theorem critValue_FPE_smul (N : ℕ) (t ρ : ℝ) (k : ℕ) :
    critValue .FPE N (t * ρ) k = t * critValue .FPE N ρ k := by
  simp only [critValue]
  ring

theorem critStops_smul (c : Crit) (N : ℕ) {t ρ₁ ρ₂ : ℝ} (ht : 0 < t) (h₁ : 0 < ρ₁) (h₂ : 0 < ρ₂)
    (k : ℕ) : critStops c N (t * ρ₁) (t * ρ₂) k = critStops c N ρ₁ ρ₂ k := by
  unfold critStops
  simp only [RealFn.lt]
  by_cases hc : c = .FPE
  · subst hc
    rw [critValue_FPE_smul, critValue_FPE_smul, decide_eq_decide]
    exact mul_lt_mul_iff_right₀ ht
  · rw [critValue_log_smul c hc N ht h₁, critValue_log_smul c hc N ht h₂, decide_eq_decide]
    exact add_lt_add_iff_right _

end Crit

/-! ### class glue: every `__call__` is entry-wise linear in the raw estimate -/
section Glue
variable {K : Type} [Field K]

theorem length_smul (c : K) (x : List K) : (x.map (fun v => c * v)).length = x.length :=
  List.length_map _

theorem takeReal_map_mul (t : K) (raw : List K) (n : ℕ) :
    takeReal (raw.map (fun v => t * v)) n = (takeReal raw n).map (fun v => t * v) := by
  unfold takeReal
  exact vec_eq_map _ (fun i _ => nth_map_mul_left t raw _)

theorem ifftshift_map_mul (t : K) (raw : List K) :
    ifftshift (raw.map (fun v => t * v)) = (ifftshift raw).map (fun v => t * v) := by
  unfold ifftshift
  rw [List.length_map]
  exact vec_eq_map _ (fun i _ => nth_map_mul_left t raw _)

theorem eigenClassFold_map_mul (t : K) (raw : List K) (isReal : Bool) (n : ℕ) :
    eigenClassFold (raw.map (fun v => t * v)) isReal n
      = (eigenClassFold raw isReal n).map (fun v => t * v) := by
  unfold eigenClassFold
  cases isReal
  · simp only [Bool.false_eq_true, if_false]
    exact ifftshift_map_mul t raw
  · simp only [if_true]
    refine vec_eq_map _ (fun i _ => ?_)
    rw [nth_map_mul_left]
    ring

theorem scalePsd_map_mul (t : K) (psd : List K) (sbf : Bool) (twoPi fs : K) (n : ℕ) :
    scalePsd (psd.map (fun v => t * v)) sbf twoPi fs n
      = (scalePsd psd sbf twoPi fs n).map (fun v => t * v) := by
  unfold scalePsd
  cases sbf
  · simp only [Bool.false_eq_true, if_false]
  · simp only [if_true, List.map_map]
    apply List.map_congr_left
    intro v _
    simp only [Function.comp]
    ring

theorem classCall_map_mul (t : K) (kind : GlueKind) (raw : List K) (isReal : Bool) (n : ℕ)
    (sbf : Bool) (twoPi fs : K) :
    classCall kind (raw.map (fun v => t * v)) isReal n sbf twoPi fs
      = (classCall kind raw isReal n sbf twoPi fs).map (fun v => t * v) := by
  unfold classCall
  simp only []
  rw [← scalePsd_map_mul]
  congr 1
  cases kind
  · cases isReal
    · simp
    · simp only [if_true]; exact foldReal_map_mul t raw n
  · cases isReal
    · simp
    · simp only [if_true]; exact takeReal_map_mul t raw n
  · exact eigenClassFold_map_mul t raw isReal n

theorem classPsd_map_mul (t : K) (raw : List K) (isReal : Bool) (n : ℕ) (sbf : Bool) (twoPi fs : K) :
    classPsd (raw.map (fun v => t * v)) isReal n sbf twoPi fs
      = (classPsd raw isReal n sbf twoPi fs).map (fun v => t * v) :=
  classCall_map_mul t .fold2 raw isReal n sbf twoPi fs

theorem eigenReorder_map_mul (t : K) (psd : List K) (nfft : ℕ) :
    eigenReorder (psd.map (fun v => t * v)) nfft = (eigenReorder psd nfft).map (fun v => t * v) := by
  unfold eigenReorder
  simp only []
  refine vec_eq_map _ (fun j _ => ?_)
  split_ifs <;> rw [nth_map_mul_left]

end Glue

section SignalSpace
variable {K : Type} [Field K] [ReOrd K]

/-- the running minimum `min S` of the threshold rule of `signalSpace` (`Model/Eigen.lean`,
`_get_signal_space`): it scales with the singular values when the comparison does not see `t` -/
theorem foldl_min_smul {t : K} (hgt : ∀ a b : K, reGt (t * a) (t * b) = reGt a b) (S : List K)
    (init : K) :
    (S.map (fun v => t * v)).foldl (fun m s => if reGt m s then s else m) (t * init)
      = t * S.foldl (fun m s => if reGt m s then s else m) init := by
  induction S generalizing init with
  | nil => rfl
  | cons a S ih =>
    simp only [List.map_cons, List.foldl_cons, hgt]
    by_cases h : reGt init a = true
    · simp only [h, if_true]; exact ih a
    · simp only [h]; exact ih init

end SignalSpace

/-! ### the guards of the code are amplitude-blind (`ℝ`, `ℂ`, any `RCLike` scalar type) -/
section Guard
variable {F : Type} [RCLike F]

theorem reGt_abs_mul [ReOrd F] (hgt : ∀ a b : F, reGt a b = true ↔ RCLike.re a > RCLike.re b) {t : ℝ}
    (ht : 0 < t) (a b : F) : reGt ((t : F) * a) ((t : F) * b) = reGt a b := by
  rw [Bool.eq_iff_iff, hgt, hgt, RCLike.re_ofReal_mul, RCLike.re_ofReal_mul]
  exact mul_lt_mul_iff_right₀ ht

theorem reGt_abs2_mul [ReOrd F] (hgt : ∀ a b : F, reGt a b = true ↔ RCLike.re a > RCLike.re b) {c : F}
    (hc : c ≠ 0) (a b : F) : reGt ((c * star c) * a) ((c * star c) * b) = reGt a b := by
  rw [mul_star_eq_ofReal]
  exact reGt_abs_mul hgt (pow_pos (norm_pos_iff.mpr hc) 2) a b

end Guard

section BurgCrit

/-- the stopping rule of `arburg(X, order, criteria=cr)`: the criterion at order `k` (variance `ρ`)
    exceeds the one at order `k-1` (variance `ρ_{k-1}` of the same data; `ρ_0 = mean x²`) -/
noncomputable def burgCritStop (cr : Crit) (x : List ℝ) (k : ℕ) (ρ : ℝ) : Bool :=
  critStops cr x.length (burgRun x (k - 1)).rho ρ k

end BurgCrit

end SpecVerif.ScaleL
