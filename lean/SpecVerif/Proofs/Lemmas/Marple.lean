import SpecVerif.Model.Marple
import SpecVerif.Proofs.Lemmas.Except
/-
  The transliterated Marple recursions (`Model/Marple.lean`) keep the length of their coefficient work
  array through every piece of the two main loops: loop invariants of `forUp` / `forDown`, the `do`
  blocks inverted with `Lemmas/Except.lean`.  No algebra is needed: the lemmas hold for any scalar type
  carrying the operation classes of the model (in particular for `CRat` and `CFloat`).
-/
-- the sections carry the model's whole list of operation classes; not every piece of the recursions
-- uses every operation
set_option linter.unusedSectionVars false

namespace SpecVerif
namespace MarpleL

theorem forUp_inv {σ : Type} (P : σ → Prop) (f : Nat → σ → σ) (hf : ∀ k s, P s → P (f k s)) :
    ∀ n s, P s → P (forUp f n s)
  | 0, _, h => h
  | n + 1, s, h => hf n _ (forUp_inv P f hf n s h)

theorem forDown_inv {σ : Type} (P : σ → Prop) (f : Nat → σ → σ) (hf : ∀ k s, P s → P (f k s)) :
    ∀ n s, P s → P (forDown f n s)
  | 0, _, h => h
  | n + 1, s, h => forDown_inv P f hf n (f n s) (hf n s h)

section
variable {K : Type} [Add K] [Sub K] [Mul K] [Div K] [Neg K] [OfNat K 0] [OfNat K 1] [NatCast K]
  [Conj K] [IsZero K]

theorem covOrderUpdate_af {x : List K} {N m : Nat} {last : Bool} {s s' : CovSt K}
    (h : covOrderUpdate x N m last s = .ok s') : s'.af.length = s.af.length := by
  unfold covOrderUpdate at h
  obtain ⟨r1, -, h⟩ := bind_ok h
  obtain ⟨r2, -, h⟩ := bind_ok h
  obtain ⟨r3, -, h⟩ := bind_ok h
  obtain ⟨r4, -, h⟩ := bind_ok h
  cases h
  apply forUp_inv (fun st : List K × List K × List K × List K => st.1.length = s.af.length)
  · intro k st hst
    simpa using hst
  · simp

theorem covTimeUpdate_af {x : List K} {N m : Nat} {s s' : CovSt K}
    (h : covTimeUpdate x N m s = .ok s') : s'.af.length = s.af.length := by
  unfold covTimeUpdate at h
  obtain ⟨r1, -, h⟩ := bind_ok h
  obtain ⟨r2, -, h⟩ := bind_ok h
  obtain ⟨r3, -, h⟩ := bind_ok h
  obtain ⟨r4, -, h⟩ := bind_ok h
  cases h
  apply forDown_inv (fun st : List K × List K × List K × List K => st.1.length = s.af.length)
  · intro k st hst
    simpa using hst
  · simp

theorem covLoop_af {x : List K} {N order : Nat} :
    ∀ (fuel m : Nat) (s s' : CovSt K), covLoop x N order fuel m s = .ok s' →
      s'.af.length = s.af.length
  | 0, _, s, s', h => by
      cases h
      rfl
  | fuel + 1, m, s, s', h => by
      rw [covLoop] at h
      obtain ⟨s1, h1, h⟩ := bind_ok h
      have l1 := covOrderUpdate_af h1
      split at h
      · obtain ⟨pf, -, h⟩ := bind_ok h
        obtain ⟨pb, -, h⟩ := bind_ok h
        cases h
        exact l1
      · obtain ⟨s2, h2, h⟩ := bind_ok h
        rw [covLoop_af fuel (m + 1) s2 s' h, covTimeUpdate_af h2, l1]

theorem arcovarMarpleCore_length {x : List K} {p : Nat} {a : List K} {e : K}
    (h : arcovarMarpleCore x p = .ok (a, e)) : a.length = p := by
  unfold arcovarMarpleCore at h
  obtain ⟨hNp, h⟩ := ite_error_eq_ok.mp h
  obtain ⟨-, h⟩ := ite_error_eq_ok.mp h
  split at h
  · rename_i hp
    cases h
    exact hp.symm
  · obtain ⟨q1, -, h⟩ := bind_ok h
    obtain ⟨qN, -, h⟩ := bind_ok h
    obtain ⟨c0, -, h⟩ := bind_ok h
    obtain ⟨d0, -, h⟩ := bind_ok h
    obtain ⟨sF, hl, h⟩ := bind_ok h
    cases h
    rw [List.length_take, covLoop_af _ _ _ _ hl, List.length_replicate]
    omega

theorem arcovarMarpleRec_eq_some {x : List K} {p : Nat} {r : List K × K} :
    arcovarMarpleRec x p = some r ↔ arcovarMarpleCore x p = .ok r := by
  unfold arcovarMarpleRec
  cases arcovarMarpleCore x p with
  | ok r' => exact ⟨fun h => congrArg _ (Option.some.inj h), fun h => congrArg _ (Except.ok.inj h)⟩
  | error _ => exact ⟨nofun, nofun⟩

end

section Mod
variable {K : Type} [Add K] [Sub K] [Mul K] [Div K] [Neg K] [OfNat K 0] [OfNat K 1] [NatCast K]
  [Conj K] [IsZero K] [ReOrd K]

theorem modOrderUpdate_A {X : List K} {N M : Nat} {s : ModSt K} {mid : ModMid K}
    (h : modOrderUpdate X N M s = .ok mid) : mid.s.A.length = s.A.length := by
  unfold modOrderUpdate at h
  obtain ⟨C1, -, h⟩ := bind_ok h
  cases h
  apply forUp_inv (fun A : List K => A.length = s.A.length)
  · intro k A hA
    dsimp only
    split <;> simpa using hA
  · simp

theorem modTimeUpdate_A {X : List K} {N M : Nat} {mid : ModMid K} {s' : ModSt K}
    (h : modTimeUpdate X N M mid = .ok s') : s'.A.length = mid.s.A.length := by
  unfold modTimeUpdate at h
  obtain ⟨R1, -, h⟩ := bind_ok h
  obtain ⟨-, h⟩ := ite_error_eq_ok.mp h
  obtain ⟨-, h⟩ := ite_error_eq_ok.mp h
  obtain ⟨R1', -, h⟩ := bind_ok h
  obtain ⟨R2', -, h⟩ := bind_ok h
  obtain ⟨-, h⟩ := ite_error_eq_ok.mp h
  obtain ⟨-, h⟩ := ite_error_eq_ok.mp h
  cases h
  apply forDown_inv (fun st : List K × List K × List K => st.1.length = mid.s.A.length)
  · intro k st hst
    simpa using hst
  · simp

theorem modLoop_length {X : List K} {N IP : Nat} :
    ∀ (fuel M : Nat) (s : ModSt K) (a : List K) (e : K), modLoop X N IP fuel M s = .ok (a, e) →
      a.length = min IP s.A.length
  | 0, _, _, _, _, h => by cases h
  | fuel + 1, M, s, a, e, h => by
      rw [modLoop] at h
      obtain ⟨mid, h1, h⟩ := bind_ok h
      have l1 := modOrderUpdate_A h1
      split at h
      · obtain ⟨P, -, h⟩ := bind_ok h
        cases h
        rw [List.length_take, l1]
      · obtain ⟨s2, h2, h⟩ := bind_ok h
        rw [modLoop_length fuel (M + 1) s2 a e h, modTimeUpdate_A h2, l1]

theorem modcovarMarpleCore_length {X : List K} {p : Nat} {a : List K} {e : K}
    (h : modcovarMarpleCore X p = .ok (a, e)) : a.length = p := by
  unfold modcovarMarpleCore at h
  obtain ⟨-, h⟩ := ite_error_eq_ok.mp h
  obtain ⟨hNp, h⟩ := ite_error_eq_ok.mp h
  split at h
  · rename_i hp
    cases h
    exact hp.symm
  · obtain ⟨R4, -, h⟩ := bind_ok h
    rw [modLoop_length _ _ _ _ _ h, List.length_replicate]
    omega

theorem modcovarMarpleRec_eq_some {X : List K} {p : Nat} {r : List K × K} :
    modcovarMarpleRec X p = some r ↔ modcovarMarpleCore X p = .ok r := by
  unfold modcovarMarpleRec
  cases modcovarMarpleCore X p with
  | ok r' => exact ⟨fun h => congrArg _ (Option.some.inj h), fun h => congrArg _ (Except.ok.inj h)⟩
  | error _ => exact ⟨nofun, nofun⟩

end Mod
end MarpleL
end SpecVerif
