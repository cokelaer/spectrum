import SpecVerif.Proofs.Lemmas.Levinson
import SpecVerif.Proofs.Lemmas.Sesq
/-
  The Hermitian Toeplitz block of the lags is positive definite (`ToepPD`) exactly when Levinson's stage errors are
  positive: `levRun_P_pos_of_PD` reads the form of the stage solution (`sesq_right_unit`), `toepPD_of_levRun_pos`
  goes up one order at a time by the Schur-complement step `sesq_pd_succ`; positive errors put the reflection
  coefficients inside the unit disc and conversely (over `ℝ` or `ℂ`, i.e. `RCLike K`).
-/
namespace SpecVerif
open Finset

variable {K : Type} [RCLike K]

/-- positive definiteness of the leading `(p+1)×(p+1)` Hermitian Toeplitz block built from `r` -/
def ToepPD (r : ℕ → K) (p : ℕ) : Prop := PosDef (p + 1) (hR r)

theorem toepPD_congr {r r' : ℕ → K} {p : ℕ} (h : ∀ d, d < p + 1 → r d = r' d)
    (hpd : ToepPD r' p) : ToepPD r p :=
  PosDef.congr (hR_congr h) hpd

/-- `[1,a]ᴴ T [1,a] = P`: the Hermitian form of a solution of the normal equations is its error -/
theorem LevEq_quadForm (r : ℕ → K) (m : ℕ) (α : ℕ → K) (P : K) (h : LevEq r m α P) :
    sesq (m + 1) (hR r) α α = star (α 0) * P :=
  sesq_right_unit (m + 1) (hR r) α P 0 (Nat.succ_pos m) (fun i hi => h i (Nat.lt_succ_iff.mp hi)) α

theorem levRun_P_pos_of_PD (r0 : K) (T : List K) (h0 : star r0 = r0) (p : ℕ)
    (hpd : ToepPD (rseq r0 T) p) (m : ℕ) (hm : m ≤ p) : 0 < RCLike.re (levRun r0 T m).P := by
  induction m using Nat.strong_induction_on with
  | _ m ih =>
    have hP : ∀ j, j < m → (levRun r0 T j).P ≠ 0 := by
      intro j hj hz
      have := ih j hj (by omega)
      rw [hz, map_zero] at this
      exact lt_irrefl 0 this
    have := PosDef.mono (Nat.succ_le_succ hm) hpd (alphaOf (levRun r0 T m).A)
      ⟨0, Nat.succ_pos m, one_ne_zero⟩
    rwa [LevEq_quadForm _ m _ _ (levRun_LevEq r0 T h0 m hP), alphaOf_zero, star_one, one_mul] at this

theorem levRun_ref_lt_one_of_pos (r0 : K) (T : List K) (p : ℕ)
    (hpos : ∀ m, m ≤ p → 0 < RCLike.re (levRun r0 T m).P) :
    ∀ i, i < p → ‖nth (levRun r0 T p).ref i‖ < 1 := by
  intro i hi
  have h2 := hpos (i + 1) (by omega)
  rw [levRun_succ_P, one_sub_mul_star_eq, RCLike.re_mul_ofReal] at h2
  rw [nth_levRun_ref r0 T p i hi]
  exact (sq_lt_one_iff₀ (norm_nonneg _)).mp
    (sub_pos.mp ((mul_pos_iff_of_pos_left (hpos i (by omega))).mp h2))

theorem levRun_pd (r0 : K) (T : List K) (h0 : star r0 = r0) (p : ℕ) (hpd : ToepPD (rseq r0 T) p) :
    (∀ m, m ≤ p → star (levRun r0 T m).P = (levRun r0 T m).P ∧ 0 < RCLike.re (levRun r0 T m).P) ∧
    (∀ i, i < p → ‖nth (levRun r0 T p).ref i‖ < 1) :=
  have hpos := levRun_P_pos_of_PD r0 T h0 p hpd
  ⟨fun m hm => ⟨levRun_P_star r0 T h0 m, hpos m hm⟩, levRun_ref_lt_one_of_pos r0 T p hpos⟩

/-- **positive Levinson stage errors ⇒ positive definite** (induction over the block size, starting from the
empty block) -/
theorem toepPD_of_levRun_pos (r0 : K) (T : List K) (h0 : star r0 = r0) (p : ℕ)
    (hpos : ∀ m, m ≤ p → 0 < RCLike.re (levRun r0 T m).P) : ToepPD (rseq r0 T) p := by
  have key : ∀ N, N ≤ p + 1 → PosDef N (hR (rseq r0 T)) := by
    intro N
    induction N with
    | zero => intro _ v ⟨i, hi, _⟩; exact absurd hi (Nat.not_lt_zero i)
    | succ N ih =>
      intro hN
      have hne : ∀ j, j < N → (levRun r0 T j).P ≠ 0 := by
        intro j hj hz
        have := hpos j (by omega)
        rw [hz, map_zero] at this
        exact lt_irrefl _ this
      have hPs := levRun_P_star r0 T h0 N
      have hRev := LevEqRev_of_LevEq (rseq r0 T) h0 N _ _ hPs (levRun_LevEq r0 T h0 N hne)
      exact sesq_pd_succ N (hR (rseq r0 T)) (hR_star (rseq r0 T) h0) _ _ (hpos N (by omega))
        (fun i hi => hRev i (by omega)) (by rw [Nat.sub_self, alphaOf_zero, star_one])
        (ih (by omega))
  exact key (p + 1) le_rfl

theorem levRun_P_pos_of_refl_lt_one (r0 : K) (T : List K)
    (hr0 : 0 < RCLike.re r0) (p : ℕ) (hk : ∀ i, i < p → ‖nth (levRun r0 T p).ref i‖ < 1)
    (m : ℕ) (hm : m ≤ p) : 0 < RCLike.re (levRun r0 T m).P := by
  induction m with
  | zero => exact hr0
  | succ m ih =>
    have hkm := hk m (by omega)
    rw [nth_levRun_ref r0 T p m (by omega)] at hkm
    rw [levRun_succ_P, one_sub_mul_star_eq, RCLike.re_mul_ofReal]
    have h1 := ih (by omega)
    have h2 : 0 < 1 - ‖levK r0 T m‖ ^ 2 :=
      sub_pos.mpr (pow_lt_one₀ (norm_nonneg _) hkm two_ne_zero)
    exact mul_pos h1 h2

end SpecVerif
