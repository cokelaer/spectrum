import SpecVerif.Proofs.Lemmas.LeastSquares
import Mathlib.LinearAlgebra.Vandermonde
import Mathlib.Algebra.Polynomial.Roots
/-
  Noise-free sums of `p` exponentials (Prony): the forward / backward prediction errors of such a
  signal factor through the prediction polynomial `charPoly`, and with `p` distinct modes a vanishing
  error pins the polynomial down (Vandermonde).  Used by the exact-recovery theorems of C14.
-/
namespace SpecVerif.LSL
open Finset SpecVerif

section Exp
variable {K : Type} [Field K]

def IsExpSum (x : List K) (p : ℕ) (z c : Fin p → K) : Prop :=
  ∀ n, n < x.length → nth x n = ∑ m, c m * z m ^ n

/-- the prediction polynomial of `a` as a function `K → K`; for `w ≠ 0` it is
`w^p (1 + Σ_j a_j w^{-(j+1)})` (`charPoly_eq_inv_form`) -/
def charPoly (p : ℕ) (a : ℕ → K) (w : K) : K :=
  w ^ p + ∑ j ∈ range p, a j * w ^ (p - 1 - j)

theorem expSum_comb {x : List K} {p : ℕ} {z c : Fin p → K} (hx : IsExpSum x p z c) (β : ℕ → K)
    (n0 : ℕ) (idx : ℕ → ℕ) (h0 : n0 < x.length) (hidx : ∀ j, j < p → idx j < x.length) :
    nth x n0 + ∑ j ∈ range p, β j * nth x (idx j)
      = ∑ m, c m * (z m ^ n0 + ∑ j ∈ range p, β j * z m ^ idx j) := by
  have h1 : ∀ j ∈ range p, β j * nth x (idx j) = ∑ m, c m * (β j * z m ^ idx j) := by
    intro j hj
    rw [hx (idx j) (hidx j (mem_range.mp hj)), Finset.mul_sum]
    exact Finset.sum_congr rfl (fun m _ => by ring)
  rw [hx n0 h0, Finset.sum_congr rfl h1, Finset.sum_comm, ← Finset.sum_add_distrib]
  exact Finset.sum_congr rfl (fun m _ => by rw [mul_add, Finset.mul_sum])

theorem fwdErr_expSum {x : List K} {p : ℕ} {z c : Fin p → K} (hx : IsExpSum x p z c)
    (a : ℕ → K) (t : ℕ) (hpt : p ≤ t) (ht : t < x.length) :
    fwdErr x p a t = ∑ m, c m * z m ^ (t - p) * charPoly p a (z m) := by
  unfold fwdErr charPoly
  rw [expSum_comb hx a t (fun j => t - 1 - j) ht
    (fun j _ => ((Nat.sub_le _ j).trans (Nat.sub_le t 1)).trans_lt ht)]
  refine Finset.sum_congr rfl (fun m _ => ?_)
  rw [mul_assoc, mul_add (z m ^ (t - p)), ← pow_add, Nat.sub_add_cancel hpt, Finset.mul_sum]
  refine congrArg (fun s => c m * (z m ^ t + s)) (Finset.sum_congr rfl (fun j hj => ?_))
  have hj1 : 1 + j ≤ p := Nat.one_add_le_iff.mpr (mem_range.mp hj)
  rw [mul_left_comm, ← pow_add, Nat.sub_sub, Nat.sub_sub, Nat.sub_add_sub_cancel hpt hj1]

theorem fwdErr_zero_of_roots {x : List K} {p : ℕ} {z c : Fin p → K} (hx : IsExpSum x p z c)
    (a : ℕ → K) (hq : ∀ m, charPoly p a (z m) = 0) (t : ℕ) (hpt : p ≤ t) (ht : t < x.length) :
    fwdErr x p a t = 0 := by
  rw [fwdErr_expSum hx a t hpt ht]
  apply Finset.sum_eq_zero
  intro m _
  rw [hq m, mul_zero]

/-- Vandermonde on the `p` prediction equations `t = p..2p-1` (hence `2p ≤ N`) -/
theorem roots_of_fwdErr_zero {x : List K} {p : ℕ} {z c : Fin p → K} (hx : IsExpSum x p z c)
    (hN : 2 * p ≤ x.length) (hz : Function.Injective z) (hc : ∀ m, c m ≠ 0)
    (a : ℕ → K) (h0 : ∀ t, p ≤ t → t < x.length → fwdErr x p a t = 0) :
    ∀ m, charPoly p a (z m) = 0 := by
  have key := Matrix.eq_zero_of_forall_pow_sum_mul_pow_eq_zero
    (v := fun m => c m * charPoly p a (z m)) hz (by
    intro I
    have hI : p + I < x.length := by omega
    have := h0 (p + I) (Nat.le_add_right p I) hI
    rw [fwdErr_expSum hx a (p + I) (Nat.le_add_right p I) hI, Nat.add_sub_cancel_left] at this
    rw [← this]
    apply Finset.sum_congr rfl
    intro m _
    ring)
  intro m
  have := congrFun key m
  simp only [Pi.zero_apply] at this
  exact (mul_eq_zero.mp this).resolve_left (hc m)

theorem charPoly_ascending (p : ℕ) (a : ℕ → K) (w : K) :
    charPoly p a w = w ^ p + ∑ k ∈ range p, w ^ k * a (p - 1 - k) := by
  unfold charPoly
  rw [← Finset.sum_range_reflect]
  refine congrArg (w ^ p + ·) (Finset.sum_congr rfl (fun k hk => ?_))
  rw [Nat.sub_sub_self (Nat.le_sub_one_of_lt (mem_range.mp hk)), mul_comm]

theorem coeffs_unique_of_roots {p : ℕ} {z : Fin p → K} (hz : Function.Injective z)
    (a a' : ℕ → K) (h : ∀ m, charPoly p a (z m) = 0) (h' : ∀ m, charPoly p a' (z m) = 0) :
    ∀ j, j < p → a j = a' j := by
  have key := Matrix.eq_zero_of_forall_index_sum_pow_mul_eq_zero
    (v := fun k : Fin p => a (p - 1 - k) - a' (p - 1 - k)) hz (by
    intro m
    have e := (h m).trans (h' m).symm
    rw [charPoly_ascending, charPoly_ascending] at e
    simp only [mul_sub, Finset.sum_sub_distrib]
    rw [Fin.sum_univ_eq_sum_range (fun k => z m ^ k * a (p - 1 - k)),
      Fin.sum_univ_eq_sum_range (fun k => z m ^ k * a' (p - 1 - k)), add_left_cancel e, sub_self])
  intro j hj
  have := congrFun key ⟨p - 1 - j, by omega⟩
  simp only [Pi.zero_apply] at this
  rw [Nat.sub_sub_self (Nat.le_sub_one_of_lt hj)] at this
  exact sub_eq_zero.mp this

/-- the value of a monic polynomial from its coefficients below the leading one -/
theorem charPoly_coeff_of_monic (P : Polynomial K) (hP : P.Monic) (w : K) :
    charPoly P.natDegree (fun j => P.coeff (P.natDegree - 1 - j)) w = P.eval w := by
  rw [Polynomial.eval_eq_sum_range, Finset.sum_range_succ, hP.coeff_natDegree, one_mul, add_comm,
    charPoly_ascending]
  refine congrArg (w ^ P.natDegree + ·) (Finset.sum_congr rfl (fun k hk => ?_))
  rw [Nat.sub_sub_self (Nat.le_sub_one_of_lt (mem_range.mp hk)), mul_comm]

/-- the coefficient vector of `∏_m (X - z_m)`: `a_j` is the coefficient of `X^{p-1-j}` -/
noncomputable def prodCoeffs {p : ℕ} (z : Fin p → K) (j : ℕ) : K :=
  (∏ m, (Polynomial.X - Polynomial.C (z m))).coeff (p - 1 - j)

theorem charPoly_prodCoeffs {p : ℕ} (z : Fin p → K) (w : K) :
    charPoly p (prodCoeffs z) w = ∏ m, (w - z m) := by
  have hdeg : (∏ m, (Polynomial.X - Polynomial.C (z m))).natDegree = p :=
    (Polynomial.natDegree_finsetProd_X_sub_C_eq_card Finset.univ z).trans (Finset.card_fin p)
  have h := charPoly_coeff_of_monic _ (Polynomial.monic_prod_X_sub_C z Finset.univ) w
  rw [hdeg, Polynomial.eval_prod] at h
  exact h.trans (Finset.prod_congr rfl (fun m _ => by
    rw [Polynomial.eval_sub, Polynomial.eval_X, Polynomial.eval_C]))

theorem charPoly_prodCoeffs_root {p : ℕ} (z : Fin p → K) (m : Fin p) :
    charPoly p (prodCoeffs z) (z m) = 0 := by
  rw [charPoly_prodCoeffs]
  exact Finset.prod_eq_zero (Finset.mem_univ m) (sub_self _)

theorem charPoly_congr {p : ℕ} {a a' : ℕ → K} (h : ∀ j, j < p → a j = a' j) (w : K) :
    charPoly p a w = charPoly p a' w := by
  unfold charPoly
  exact congrArg (w ^ p + ·) (Finset.sum_congr rfl (fun j hj => by rw [h j (mem_range.mp hj)]))

theorem charPoly_eq_inv_form (p : ℕ) (a : ℕ → K) (w : K) (hw : w ≠ 0) :
    charPoly p a w = w ^ p * (1 + ∑ j ∈ range p, a j * (w⁻¹) ^ (j + 1)) :=
  pow_add_sum_eq_pow_mul_inv_form p a hw

end Exp

section ExpStar
variable {K : Type} [Field K] [StarRing K]

theorem bwdErr_expSum {x : List K} {p : ℕ} {z c : Fin p → K} (hx : IsExpSum x p z c)
    (a : ℕ → K) (s : ℕ) (hs : s + p < x.length) :
    bwdErr x p a s = ∑ m, c m * z m ^ s * (1 + ∑ j ∈ range p, star (a j) * z m ^ (j + 1)) := by
  unfold bwdErr
  rw [expSum_comb hx (fun j => star (a j)) s (fun j => s + 1 + j) (by omega) (fun j _ => by omega)]
  refine Finset.sum_congr rfl (fun m _ => ?_)
  rw [mul_assoc, mul_add (z m ^ s), mul_one, Finset.mul_sum]
  refine congrArg (fun t => c m * (z m ^ s + t)) (Finset.sum_congr rfl (fun j _ => ?_))
  rw [mul_left_comm, ← pow_add, Nat.add_assoc s 1 j, Nat.add_comm 1 j]

theorem bwd_factor_zero {p : ℕ} (a : ℕ → K) (w : K) (hw : star w * w = 1)
    (hq : charPoly p a w = 0) : 1 + ∑ j ∈ range p, star (a j) * w ^ (j + 1) = 0 := by
  have hw0 : w ≠ 0 := right_ne_zero_of_mul_eq_one hw
  have hinv : w⁻¹ = star w := (eq_inv_of_mul_eq_one_left hw).symm
  rw [charPoly_eq_inv_form p a w hw0] at hq
  have h1 := (mul_eq_zero.mp hq).resolve_left (pow_ne_zero _ hw0)
  have h2 := congrArg star h1
  rw [star_zero, star_add, star_one, star_sum] at h2
  rw [← h2]
  refine congrArg (1 + ·) (Finset.sum_congr rfl (fun j _ => ?_))
  rw [star_mul', hinv, star_pow, star_star]

theorem bwdErr_zero_of_roots {x : List K} {p : ℕ} {z c : Fin p → K} (hx : IsExpSum x p z c)
    (hu : ∀ m, star (z m) * z m = 1)
    (a : ℕ → K) (hq : ∀ m, charPoly p a (z m) = 0) (s : ℕ) (hs : s + p < x.length) :
    bwdErr x p a s = 0 := by
  rw [bwdErr_expSum hx a s hs]
  apply Finset.sum_eq_zero
  intro m _
  rw [bwd_factor_zero a (z m) (hu m) (hq m), mul_zero]

end ExpStar

end SpecVerif.LSL
