import SpecVerif.Proofs.Lemmas.GaussJordan
import SpecVerif.Proofs.Lemmas.Eval
/-
  The two least-squares problems of `arcovar` / `modcovar` read in terms of the data: the rows of
  `corrmtx … .covariance` are the forward prediction errors, those of `corrmtx … .modified` the forward
  errors on top of the conjugated backward errors.  Hence the energies and the normal equations of the
  generic problem of `Lemmas/LeastSquares.lean` for these two data matrices, and the Marple stand-ins as
  a rescaling.  C14 states these facts as its theorems.
-/
namespace SpecVerif.CovarL
open Finset SpecVerif SpecVerif.LSL

/-- the Marple stand-ins divide the error of the least-squares fit by the number of equations -/
theorem map_div_eq_some {K : Type} [Div K] (o : Option (List K × K)) (d : K) (a : List K) (e' : K) :
    o.map (fun ae => (ae.1, ae.2 / d)) = some (a, e') ↔ ∃ e, o = some (a, e) ∧ e' = e / d := by
  rw [Option.map_eq_some_iff]
  constructor
  · rintro ⟨⟨a0, e⟩, h, he⟩
    cases he
    exact ⟨e, h, rfl⟩
  · rintro ⟨e, h, rfl⟩
    exact ⟨(a, e), h, rfl⟩

section Generic
variable {K : Type} [Field K] [StarRing K]

theorem covariance_residual (x : List K) (p : ℕ) (a : ℕ → K) (i : ℕ) (hi : i < x.length - p) :
    lsRes (col0 (corrmtx x p .covariance)) (colR (corrmtx x p .covariance)) p a i
      = fwdErr x p a (i + p) := by
  unfold lsRes fwdErr col0 colR
  rw [mentryM_eq_mentry, mentry_covariance x p i 0 hi (Nat.zero_le _), Nat.sub_zero]
  refine congrArg (nth x (i + p) + ·) (Finset.sum_congr rfl (fun j hj => ?_))
  rw [mentryM_eq_mentry, mentry_covariance x p i (j + 1) hi (mem_range.mp hj), mul_comm,
    Nat.add_comm j 1, ← Nat.sub_sub]

theorem modified_top (x : List K) (p i j : ℕ) (hi : i < x.length - p) (hj : j ≤ p) :
    mentryM (corrmtx x p .modified) i j = mentryM (corrmtx x p .covariance) i j :=
  (mentry_modified_top x p i j hi hj).trans (mentry_covariance x p i j hi hj).symm

theorem modified_residual_fwd (x : List K) (p : ℕ) (a : ℕ → K) (i : ℕ) (hi : i < x.length - p) :
    lsRes (col0 (corrmtx x p .modified)) (colR (corrmtx x p .modified)) p a i
      = fwdErr x p a (i + p) := by
  rw [← covariance_residual x p a i hi]
  exact lsRes_congr (modified_top x p i 0 hi (Nat.zero_le p))
    (fun j hj => modified_top x p i (j + 1) hi hj) (fun _ _ => rfl)

theorem modified_residual_bwd (x : List K) (p : ℕ) (a : ℕ → K) (i : ℕ) (hi : i < x.length - p) :
    lsRes (col0 (corrmtx x p .modified)) (colR (corrmtx x p .modified)) p a (x.length - p + i)
      = star (bwdErr x p a i) := by
  unfold lsRes bwdErr col0 colR
  rw [mentryM_eq_mentry, mentry_modified_bottom x p i 0 hi (Nat.zero_le _), Nat.add_zero,
    star_add, star_sum]
  refine congrArg (star (nth x i) + ·) (Finset.sum_congr rfl (fun j hj => ?_))
  rw [mentryM_eq_mentry, mentry_modified_bottom x p i (j + 1) hi (mem_range.mp hj), star_mul',
    star_star, mul_comm, Nat.add_comm j 1, ← Nat.add_assoc]

theorem covariance_energy (x : List K) (p : ℕ) (a : ℕ → K) :
    lsEnergy (col0 (corrmtx x p .covariance)) (colR (corrmtx x p .covariance)) (x.length - p) p a
      = fwdEnergy x p a := by
  unfold lsEnergy fwdEnergy
  rw [Finset.sum_Ico_eq_sum_range]
  apply Finset.sum_congr rfl
  intro i hi
  rw [covariance_residual x p a i (mem_range.mp hi), Nat.add_comm]

theorem modified_energy (x : List K) (p : ℕ) (a : ℕ → K) :
    lsEnergy (col0 (corrmtx x p .modified)) (colR (corrmtx x p .modified)) (2 * (x.length - p)) p a
      = fwdEnergy x p a + bwdEnergy x p a := by
  unfold lsEnergy fwdEnergy bwdEnergy
  rw [two_mul, Finset.sum_range_add, Finset.sum_Ico_eq_sum_range]
  refine congrArg₂ (· + ·) (Finset.sum_congr rfl (fun i hi => ?_))
    (Finset.sum_congr rfl (fun i hi => ?_))
  · rw [modified_residual_fwd x p a i (mem_range.mp hi), Nat.add_comm]
  · rw [modified_residual_bwd x p a i (mem_range.mp hi), star_star, mul_comm]

theorem covariance_res_zero_iff (x : List K) (p : ℕ) (a : ℕ → K) :
    (∀ i, i < x.length - p →
        lsRes (col0 (corrmtx x p .covariance)) (colR (corrmtx x p .covariance)) p a i = 0)
      ↔ ∀ t, p ≤ t → t < x.length → fwdErr x p a t = 0 := by
  constructor
  · intro h t hpt ht
    have htp : t - p < x.length - p := Nat.sub_lt_sub_right hpt ht
    rw [← Nat.sub_add_cancel hpt, ← covariance_residual x p a (t - p) htp]
    exact h (t - p) htp
  · intro h i hi
    rw [covariance_residual x p a i hi]
    exact h (i + p) (Nat.le_add_left p i) (Nat.add_lt_of_lt_sub hi)

theorem modified_res_zero_iff (x : List K) (p : ℕ) (a : ℕ → K) :
    (∀ i, i < 2 * (x.length - p) →
        lsRes (col0 (corrmtx x p .modified)) (colR (corrmtx x p .modified)) p a i = 0)
      ↔ (∀ t, p ≤ t → t < x.length → fwdErr x p a t = 0)
        ∧ ∀ s, s + p < x.length → bwdErr x p a s = 0 := by
  constructor
  · intro h
    constructor
    · intro t hpt ht
      have htp : t - p < x.length - p := Nat.sub_lt_sub_right hpt ht
      rw [← Nat.sub_add_cancel hpt, ← modified_residual_fwd x p a (t - p) htp]
      exact h (t - p) (htp.trans_le (Nat.le_mul_of_pos_left _ two_pos))
    · intro s hs
      have hsp : s < x.length - p := Nat.lt_sub_of_add_lt hs
      have := h (x.length - p + s) (by rw [two_mul]; exact Nat.add_lt_add_left hsp _)
      rw [modified_residual_bwd x p a s hsp] at this
      exact star_eq_zero.mp this
  · rintro ⟨hf, hb⟩ i hi
    by_cases hlt : i < x.length - p
    · rw [modified_residual_fwd x p a i hlt]
      exact hf (i + p) (Nat.le_add_left p i) (Nat.add_lt_of_lt_sub hlt)
    · obtain ⟨s, rfl⟩ := Nat.exists_eq_add_of_le (Nat.not_lt.mp hlt)
      rw [two_mul] at hi
      have hs : s < x.length - p := Nat.lt_of_add_lt_add_left hi
      rw [modified_residual_bwd x p a s hs, hb s (Nat.add_lt_of_lt_sub hs), star_zero]

theorem covariance_cross (x : List K) (p : ℕ) (a : ℕ → K) (b : ℕ) (hb : b < p) :
    ∑ i ∈ range (x.length - p), star (colR (corrmtx x p .covariance) i b)
        * lsRes (col0 (corrmtx x p .covariance)) (colR (corrmtx x p .covariance)) p a i
      = ∑ t ∈ Ico p x.length, star (nth x (t - 1 - b)) * fwdErr x p a t := by
  rw [Finset.sum_Ico_eq_sum_range]
  apply Finset.sum_congr rfl
  intro i hi
  have hi' := mem_range.mp hi
  rw [covariance_residual x p a i hi', Nat.add_comm p i]
  unfold colR
  rw [mentryM_eq_mentry, mentry_covariance x p i (b + 1) hi' hb, Nat.add_comm b 1, ← Nat.sub_sub]

theorem covariance_normalEq_iff (x : List K) (p : ℕ) (a : ℕ → K) :
    NormalEq (col0 (corrmtx x p .covariance)) (colR (corrmtx x p .covariance)) (x.length - p) p a
      ↔ ∀ b, b < p → ∑ t ∈ Ico p x.length, star (nth x (t - 1 - b)) * fwdErr x p a t = 0 :=
  forall_congr' fun b => imp_congr_right fun hb => by rw [covariance_cross x p a b hb]

theorem modified_normalEq_iff (x : List K) (p : ℕ) (a : ℕ → K) :
    NormalEq (col0 (corrmtx x p .modified)) (colR (corrmtx x p .modified)) (2 * (x.length - p)) p a
      ↔ ∀ b, b < p → ∑ t ∈ Ico p x.length, star (nth x (t - 1 - b)) * fwdErr x p a t
          + ∑ s ∈ range (x.length - p), nth x (s + 1 + b) * star (bwdErr x p a s) = 0 := by
  refine forall_congr' fun b => imp_congr_right fun hb => ?_
  rw [two_mul, Finset.sum_range_add, ← covariance_cross x p a b hb]
  congr! 3 with i hi i hi
  · -- top block: the covariance problem
    have hi' := mem_range.mp hi
    rw [modified_residual_fwd x p a i hi', covariance_residual x p a i hi']
    exact congrArg (fun z => star z * _) (modified_top x p i (b + 1) hi' hb)
  · -- bottom block: the conjugated backward errors
    have hi' := mem_range.mp hi
    rw [modified_residual_bwd x p a i hi']
    unfold colR
    rw [mentryM_eq_mentry, mentry_modified_bottom x p i (b + 1) hi' hb, star_star,
      Nat.add_comm b 1, ← Nat.add_assoc]

section Fit
variable [IsZero K]

theorem arcovarMarple_iff (x : List K) (p : ℕ) (a : List K) (e' : K) :
    arcovarMarple x p = some (a, e')
      ↔ ∃ e, arcovar x p = some (a, e) ∧ e' = e / ((x.length - p : ℕ) : K) :=
  map_div_eq_some _ _ a e'

theorem modcovarMarple_iff (x : List K) (p : ℕ) (a : List K) (e' : K) :
    modcovarMarple x p = some (a, e')
      ↔ ∃ e, modcovar x p = some (a, e) ∧ e' = e / ((2 * (x.length - p) : ℕ) : K) :=
  map_div_eq_some _ _ a e'

end Fit
end Generic

section RC
variable {𝕜 : Type} [RCLike 𝕜]

theorem covariance_energyR (x : List 𝕜) (p : ℕ) (a : ℕ → 𝕜) :
    lsEnergyR (col0 (corrmtx x p .covariance)) (colR (corrmtx x p .covariance)) (x.length - p) p a
      = ∑ t ∈ Ico p x.length, ‖fwdErr x p a t‖ ^ 2 := by
  have h := covariance_energy x p a
  rw [lsEnergy_ofReal, fwdEnergy_ofReal, RCLike.ofReal_inj] at h
  exact h

theorem modified_energyR (x : List 𝕜) (p : ℕ) (a : ℕ → 𝕜) :
    lsEnergyR (col0 (corrmtx x p .modified)) (colR (corrmtx x p .modified)) (2 * (x.length - p)) p a
      = ∑ t ∈ Ico p x.length, ‖fwdErr x p a t‖ ^ 2
        + ∑ s ∈ range (x.length - p), ‖bwdErr x p a s‖ ^ 2 := by
  have h := modified_energy x p a
  rw [lsEnergy_ofReal, fwdEnergy_ofReal, bwdEnergy_ofReal, ← RCLike.ofReal_add,
    RCLike.ofReal_inj] at h
  exact h

end RC

/-! ### the test vector of the examples of C14 and C04

`arcovar` / `modcovar` at order 1 on `x = (1,2,3,5)` and on the modulated record `(1,-2,3,-5)` over `ℝ`, for
any lawful zero test (so that every file can apply them under its own local instance).  `ℝ` does not
compute, so the solver is not run: by `lsFit_eq_some_iff` the claimed result is checked against what
characterises it — one coefficient, the normal equation, the residual energy, a non-zero Gram entry —
and `simp only` turns these into the four arithmetic facts closed at the end. -/
section TestVectors
open SpecVerif.GJL
variable [IsZero ℝ] [LawfulIsZero ℝ]

theorem arcovar_1235 : arcovar ([1, 2, 3, 5] : List ℝ) 1 = some ([-23/14], 3/14) := by
  have hX : corrmtx ([1, 2, 3, 5] : List ℝ) 1 .covariance = [[2, 1], [3, 2], [5, 3]] := rfl
  unfold arcovar
  rw [hX, lsFit_eq_some_iff]
  simp only [NormalEq, ShiftLSL.GramInj, lsEnergy, lsRes, col0, colR, mentryM, Nat.lt_one_iff, forall_eq,
    zero_add, star_trivial, spec_eval, spec_eval_proc]
  exact ⟨trivial, by norm_num, by norm_num, fun d hd => by linarith⟩

theorem modcovar_1235 : modcovar ([1, 2, 3, 5] : List ℝ) 1 = some ([-23/26], 147/13) := by
  have hX : corrmtx ([1, 2, 3, 5] : List ℝ) 1 .modified
      = [[2, 1], [3, 2], [5, 3], [star 1, star 2], [star 2, star 3], [star 3, star 5]] := rfl
  unfold modcovar
  rw [hX, lsFit_eq_some_iff]
  simp only [NormalEq, ShiftLSL.GramInj, lsEnergy, lsRes, col0, colR, mentryM, Nat.lt_one_iff, forall_eq,
    zero_add, star_trivial, spec_eval, spec_eval_proc]
  exact ⟨trivial, by norm_num, by norm_num, fun d hd => by linarith⟩

theorem arcovar_1235_modulated : arcovar ([1, -2, 3, -5] : List ℝ) 1 = some ([23/14], 3/14) := by
  have hX : corrmtx ([1, -2, 3, -5] : List ℝ) 1 .covariance = [[-2, 1], [3, -2], [-5, 3]] := rfl
  unfold arcovar
  rw [hX, lsFit_eq_some_iff]
  simp only [NormalEq, ShiftLSL.GramInj, lsEnergy, lsRes, col0, colR, mentryM, Nat.lt_one_iff, forall_eq,
    zero_add, star_trivial, spec_eval, spec_eval_proc]
  exact ⟨trivial, by norm_num, by norm_num, fun d hd => by linarith⟩

theorem modcovar_1235_modulated :
    modcovar ([1, -2, 3, -5] : List ℝ) 1 = some ([23/26], 147/13) := by
  have hX : corrmtx ([1, -2, 3, -5] : List ℝ) 1 .modified
      = [[-2, 1], [3, -2], [-5, 3], [star 1, star (-2)], [star (-2), star 3], [star 3, star (-5)]] :=
    rfl
  unfold modcovar
  rw [hX, lsFit_eq_some_iff]
  simp only [NormalEq, ShiftLSL.GramInj, lsEnergy, lsRes, col0, colR, mentryM, Nat.lt_one_iff, forall_eq,
    zero_add, star_trivial, spec_eval, spec_eval_proc]
  exact ⟨trivial, by norm_num, by norm_num, fun d hd => by linarith⟩

end TestVectors

end SpecVerif.CovarL
