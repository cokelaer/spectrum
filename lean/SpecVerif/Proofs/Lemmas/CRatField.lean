import SpecVerif.Proofs.Lemmas.Basic
import SpecVerif.Proofs.Lemmas.IsZero
import Mathlib.Algebra.Field.Rat
import Mathlib.Algebra.Order.Ring.Rat
import Mathlib.Algebra.Ring.CharZero  -- `NeZero (2 : CRat)` for C06
import Mathlib.Tactic.Ring
import Mathlib.Tactic.FieldSimp
import Mathlib.Tactic.NormNum.Basic
/-
  `CRat` is a field with involution, and the field structure IS the model's hand-written arithmetic:
  `Field`, `StarRing`, `CharZero CRat` are built from the instances of `Model/Basic.lean` (`inv a := 1 / a`
  with the model's division, `star := conj`), so an operation reached through the structure is
  definitionally the one the driver executes (`rfl` block at the end).  Hence a theorem over
  `[Field K] [StarRing K]` is specialised to the executed code by plain application (the `…_CRat`
  theorems).  The model's Boolean tests are lawful at `CRat` (`LawfulIsZero CRat`, `reLe0_iff`, `reGt_iff`).
-/
namespace SpecVerif

-- the model derives only `BEq`; the kernel-checked instances over `CRat` need this
deriving instance DecidableEq for CRat

namespace CRatL

@[ext] theorem _root_.SpecVerif.CRat.ext {a b : CRat} (hre : a.re = b.re) (him : a.im = b.im) :
    a = b := by
  cases a; cases b; simp only [CRat.mk.injEq]; exact ⟨hre, him⟩

@[simp] theorem add_re (a b : CRat) : (a + b).re = a.re + b.re := rfl
@[simp] theorem add_im (a b : CRat) : (a + b).im = a.im + b.im := rfl
@[simp] theorem sub_re (a b : CRat) : (a - b).re = a.re - b.re := rfl
@[simp] theorem sub_im (a b : CRat) : (a - b).im = a.im - b.im := rfl
@[simp] theorem neg_re (a : CRat) : (-a).re = -a.re := rfl
@[simp] theorem neg_im (a : CRat) : (-a).im = -a.im := rfl
@[simp] theorem mul_re (a b : CRat) : (a * b).re = a.re * b.re - a.im * b.im := rfl
@[simp] theorem mul_im (a b : CRat) : (a * b).im = a.re * b.im + a.im * b.re := rfl
@[simp] theorem div_re (a b : CRat) :
    (a / b).re = (a.re * b.re + a.im * b.im) / (b.re * b.re + b.im * b.im) := rfl
@[simp] theorem div_im (a b : CRat) :
    (a / b).im = (a.im * b.re - a.re * b.im) / (b.re * b.re + b.im * b.im) := rfl
@[simp] theorem zero_re : (0 : CRat).re = 0 := rfl
@[simp] theorem zero_im : (0 : CRat).im = 0 := rfl
@[simp] theorem one_re : (1 : CRat).re = 1 := rfl
@[simp] theorem one_im : (1 : CRat).im = 0 := rfl
@[simp] theorem natCast_re (n : ℕ) : ((n : ℕ) : CRat).re = (n : ℚ) := rfl
@[simp] theorem natCast_im (n : ℕ) : ((n : ℕ) : CRat).im = 0 := rfl
@[simp] theorem conj_re (a : CRat) : (conj a).re = a.re := rfl
@[simp] theorem conj_im (a : CRat) : (conj a).im = -a.im := rfl

/-- `z = 0` iff the squared modulus `re² + im²` (the denominator of the model's division) vanishes -/
theorem normSq_eq_zero_iff (a : CRat) : a.re * a.re + a.im * a.im = 0 ↔ a = 0 := by
  constructor
  · intro h
    obtain ⟨h1, h2⟩ := mul_self_add_mul_self_eq_zero.mp h
    exact CRat.ext h1 h2
  · rintro rfl; simp

theorem normSq_ne_zero {a : CRat} (h : a ≠ 0) : a.re * a.re + a.im * a.im ≠ 0 :=
  fun h0 => h ((normSq_eq_zero_iff a).mp h0)

theorem normSq_pos {a : CRat} (h : a ≠ 0) : 0 < a.re * a.re + a.im * a.im :=
  lt_of_le_of_ne (add_nonneg (mul_self_nonneg _) (mul_self_nonneg _)) (normSq_ne_zero h).symm

/-- the model's division is multiplication by the model's `1 / ·` (no side condition: both sides are
the same rational expressions also when the denominator is `0`) -/
theorem div_eq_mul_one_div (a b : CRat) : a / b = a * (1 / b) := by
  ext
  · simp only [div_re, mul_re, div_im, one_re, one_im]; ring
  · simp only [div_re, mul_im, div_im, one_re, one_im]; ring

theorem mul_one_div_cancel {a : CRat} (h : a ≠ 0) : a * (1 / a) = 1 := by
  have hd := normSq_ne_zero h
  ext
  · simp only [div_re, mul_re, div_im, one_re, one_im]
    have e : a.re * ((1 * a.re + 0 * a.im) / (a.re * a.re + a.im * a.im))
        - a.im * ((0 * a.re - 1 * a.im) / (a.re * a.re + a.im * a.im))
        = (a.re * a.re + a.im * a.im) / (a.re * a.re + a.im * a.im) := by ring
    rw [e, div_self hd]
  · simp only [div_re, mul_im, div_im, one_re, one_im]
    ring

theorem one_div_zero : (1 : CRat) / 0 = 0 := by
  ext <;> simp

end CRatL

open CRatL

instance CRat.instIntCast : IntCast CRat := ⟨fun z => ⟨(z : ℚ), 0⟩⟩
instance CRat.instRatCast : RatCast CRat := ⟨fun q => ⟨q, 0⟩⟩
instance CRat.instNNRatCast : NNRatCast CRat := ⟨fun q => ⟨(q : ℚ), 0⟩⟩
instance CRat.instInv : Inv CRat := ⟨fun a => 1 / a⟩

namespace CRatL
@[simp] theorem intCast_re (z : ℤ) : ((z : ℤ) : CRat).re = (z : ℚ) := rfl
@[simp] theorem intCast_im (z : ℤ) : ((z : ℤ) : CRat).im = 0 := rfl
@[simp] theorem ratCast_re (q : ℚ) : ((q : ℚ) : CRat).re = q := rfl
@[simp] theorem ratCast_im (q : ℚ) : ((q : ℚ) : CRat).im = 0 := rfl
@[simp] theorem nnratCast_re (q : ℚ≥0) : ((q : ℚ≥0) : CRat).re = (q : ℚ) := rfl
@[simp] theorem nnratCast_im (q : ℚ≥0) : ((q : ℚ≥0) : CRat).im = 0 := rfl
theorem inv_def (a : CRat) : a⁻¹ = 1 / a := rfl
end CRatL

instance CRat.instCommRing : CommRing CRat where
  add := (· + ·)
  zero := (0 : CRat)
  neg := (- ·)
  sub := (· - ·)
  mul := (· * ·)
  one := (1 : CRat)
  natCast := fun n => ((n : ℕ) : CRat)
  intCast := fun z => ((z : ℤ) : CRat)
  nsmul := nsmulRec
  zsmul := zsmulRec
  npow := npowRec
  add_assoc a b c := by ext <;> simp only [add_re, add_im] <;> ring
  zero_add a := by ext <;> simp only [add_re, add_im, zero_re, zero_im] <;> ring
  add_zero a := by ext <;> simp only [add_re, add_im, zero_re, zero_im] <;> ring
  add_comm a b := by ext <;> simp only [add_re, add_im] <;> ring
  neg_add_cancel a := by ext <;> simp only [add_re, add_im, neg_re, neg_im, zero_re, zero_im] <;> ring
  sub_eq_add_neg a b := by ext <;> simp only [add_re, add_im, neg_re, neg_im, sub_re, sub_im] <;> ring
  mul_assoc a b c := by ext <;> simp only [mul_re, mul_im] <;> ring
  one_mul a := by ext <;> simp only [mul_re, mul_im, one_re, one_im] <;> ring
  mul_one a := by ext <;> simp only [mul_re, mul_im, one_re, one_im] <;> ring
  mul_comm a b := by ext <;> simp only [mul_re, mul_im] <;> ring
  zero_mul a := by ext <;> simp only [mul_re, mul_im, zero_re, zero_im] <;> ring
  mul_zero a := by ext <;> simp only [mul_re, mul_im, zero_re, zero_im] <;> ring
  left_distrib a b c := by ext <;> simp only [mul_re, mul_im, add_re, add_im] <;> ring
  right_distrib a b c := by ext <;> simp only [mul_re, mul_im, add_re, add_im] <;> ring
  natCast_zero := by ext <;> simp only [natCast_re, natCast_im, zero_re, zero_im, Nat.cast_zero]
  natCast_succ n := by
    ext <;> simp only [natCast_re, natCast_im, add_re, add_im, one_re, one_im, Nat.cast_succ, add_zero]
  intCast_ofNat n := by
    ext <;> simp only [intCast_re, intCast_im, natCast_re, natCast_im, Int.cast_natCast]
  intCast_negSucc n := by
    ext <;> simp only [intCast_re, intCast_im, natCast_re, natCast_im, neg_re, neg_im,
      Int.cast_negSucc, neg_zero]

instance CRat.instField : Field CRat where
  toCommRing := CRat.instCommRing
  inv := fun a => 1 / a
  div := (· / ·)
  div_eq_mul_inv a b := div_eq_mul_one_div a b
  zpow := zpowRec
  exists_pair_ne := ⟨0, 1, fun h => by
    have := congrArg CRat.re h
    simp only [zero_re, one_re] at this
    exact zero_ne_one this⟩
  mul_inv_cancel a h := mul_one_div_cancel h
  inv_zero := one_div_zero
  nnratCast := fun q => ((q : ℚ≥0) : CRat)
  ratCast := fun q => ((q : ℚ) : CRat)
  nnqsmul := _
  qsmul := _
  nnratCast_def q := by
    have hd : ((q.den : ℕ) : ℚ) ≠ 0 := Nat.cast_ne_zero.mpr q.den_ne_zero
    ext
    · simp only [nnratCast_re, div_re, natCast_re, natCast_im]
      have h : (q : ℚ) = (q.num : ℚ) / (q.den : ℚ) := by
        conv_lhs => rw [← NNRat.num_div_den q]
        push_cast
        rfl
      rw [h]
      field_simp
      ring
    · simp only [nnratCast_im, div_im, natCast_re, natCast_im]
      ring
  ratCast_def q := by
    have hd : ((q.den : ℕ) : ℚ) ≠ 0 := Nat.cast_ne_zero.mpr q.den_ne_zero
    ext
    · simp only [ratCast_re, div_re, natCast_re, natCast_im, intCast_re, intCast_im]
      conv_lhs => rw [← Rat.num_div_den q]
      field_simp
      ring
    · simp only [ratCast_im, div_im, natCast_re, natCast_im, intCast_re, intCast_im]
      ring

instance CRat.instStarRing : StarRing CRat where
  star := conj
  star_involutive a := by
    ext
    · simp only [conj_re]
    · simp only [conj_im, neg_neg]
  star_mul a b := by ext <;> simp only [conj_re, conj_im, mul_re, mul_im] <;> ring
  star_add a b := by
    ext
    · simp only [conj_re, add_re]
    · simp only [conj_im, add_im]; ring

namespace CRatL
@[simp] theorem star_re (a : CRat) : (star a).re = a.re := rfl
@[simp] theorem star_im (a : CRat) : (star a).im = -a.im := rfl
theorem star_eq_conj (a : CRat) : star a = CRat.instConj.conj a := rfl
@[simp] theorem inv_re (a : CRat) : (a⁻¹).re = a.re / (a.re * a.re + a.im * a.im) := by
  show ((1 : CRat) / a).re = _
  simp only [div_re, one_re, one_im]; ring
@[simp] theorem inv_im (a : CRat) : (a⁻¹).im = -a.im / (a.re * a.re + a.im * a.im) := by
  show ((1 : CRat) / a).im = _
  simp only [div_im, one_re, one_im]; ring
end CRatL

instance CRat.instCharZero : CharZero CRat where
  cast_injective m n h := by
    have := congrArg CRat.re h
    simpa only [natCast_re, Nat.cast_inj] using this

namespace CRatL

theorem isZero_iff (z : CRat) : isZero z = true ↔ z = 0 := by
  show (z.re == 0 && z.im == 0) = true ↔ z = 0
  rw [Bool.and_eq_true, beq_iff_eq, beq_iff_eq]
  constructor
  · rintro ⟨h1, h2⟩; exact CRat.ext h1 h2
  · rintro rfl; exact ⟨rfl, rfl⟩

theorem reLe0_iff (z : CRat) : reLe0 z = true ↔ z.re ≤ 0 := by
  show decide (z.re ≤ 0) = true ↔ _
  exact decide_eq_true_iff

theorem reGt_iff (a b : CRat) : reGt a b = true ↔ a.re > b.re := by
  show decide (a.re > b.re) = true ↔ _
  exact decide_eq_true_iff

theorem abs2_re (c : CRat) : (c * star c).re = c.re * c.re + c.im * c.im := by
  simp only [mul_re, star_re, star_im]; ring

theorem abs2_im (c : CRat) : (c * star c).im = 0 := by
  simp only [mul_im, star_re, star_im]; ring

theorem abs2_mul_re (c z : CRat) :
    ((c * star c) * z).re = (c.re * c.re + c.im * c.im) * z.re := by
  rw [mul_re, abs2_re, abs2_im]; ring

/-- the sign test does not see a factor `|c|²`, `c ≠ 0` (hypothesis `hre` of
`C03.levinson_scale_status`, `C03.arburg_scale`, `C03.mt_adapt_scale` at `CRat`) -/
theorem reLe0_abs2_mul_CRat {c : CRat} (hc : c ≠ 0) (z : CRat) :
    reLe0 ((c * star c) * z) = reLe0 z := by
  rw [Bool.eq_iff_iff, reLe0_iff, reLe0_iff, abs2_mul_re]
  have hs := normSq_pos hc
  constructor
  · intro h
    rw [← mul_zero (c.re * c.re + c.im * c.im)] at h
    exact (mul_le_mul_iff_right₀ hs).mp h
  · intro h
    rw [← mul_zero (c.re * c.re + c.im * c.im)]
    exact (mul_le_mul_iff_right₀ hs).mpr h

/-- the comparison does not see a common factor `|c|²`, `c ≠ 0` (hypothesis `hgt` of
`C03.signal_space_scale`, `C03.mt_adapt_scale` at `CRat`) -/
theorem reGt_abs2_mul_CRat {c : CRat} (hc : c ≠ 0) (a b : CRat) :
    reGt ((c * star c) * a) ((c * star c) * b) = reGt a b := by
  rw [Bool.eq_iff_iff, reGt_iff, reGt_iff, abs2_mul_re, abs2_mul_re]
  exact mul_lt_mul_iff_right₀ (normSq_pos hc)

end CRatL

instance CRat.instLawfulIsZero : GJL.LawfulIsZero CRat := ⟨CRatL.isZero_iff⟩

/-! ### definitional checks: the operations reached through `Field CRat` / `StarRing CRat` are the
model's hand-written instances.  Every check is closed by `rfl` at *instance* transparency
(`with_reducible_and_instances`: only reducible definitions and instances are unfolded), the transparency
at which `rw` / `simp` compare instance arguments — so generic lemmas rewrite goals that are stated with
the model's instances (see the last examples). -/
section DefeqChecks

example : (CRat.instField.toDivisionRing.toRing.toNonAssocRing.toNonUnitalNonAssocRing.toMul : Mul CRat)
    = CRat.instMul := by with_reducible_and_instances rfl
example : (Distrib.toAdd : Add CRat) = CRat.instAdd := by with_reducible_and_instances rfl
example : (Distrib.toMul : Mul CRat) = CRat.instMul := by with_reducible_and_instances rfl
example : (Ring.toSub : Sub CRat) = CRat.instSub := by with_reducible_and_instances rfl
example : (Ring.toNeg : Neg CRat) = CRat.instNeg := by with_reducible_and_instances rfl
example : (DivisionRing.toDiv : Div CRat) = CRat.instDiv := by with_reducible_and_instances rfl
example : (DivInvMonoid.toDiv : Div CRat) = CRat.instDiv := by with_reducible_and_instances rfl
example : (Zero.toOfNat0 : OfNat CRat 0) = CRat.instOfNatOfNatNat := by
  with_reducible_and_instances rfl
example : (One.toOfNat1 : OfNat CRat 1) = CRat.instOfNatOfNatNat_1 := by
  with_reducible_and_instances rfl
example : (@Zero.zero CRat MulZeroClass.toZero) = ⟨0, 0⟩ := rfl
example : (@One.one CRat inferInstance) = ⟨1, 0⟩ := rfl
example : (Semiring.toNatCast : NatCast CRat) = CRat.instNatCast := by
  with_reducible_and_instances rfl
example : (NonAssocSemiring.toNatCast : NatCast CRat) = CRat.instNatCast := by
  with_reducible_and_instances rfl
example (n : ℕ) : (@Nat.cast CRat Semiring.toNatCast n) = ⟨(n : ℚ), 0⟩ := rfl
/-- the bridge `Conj K := ⟨star⟩` of `Lemmas/Basic.lean` at `CRat` is the model's `Conj CRat` -/
example : (instConjStar : Conj CRat) = CRat.instConj := by with_reducible_and_instances rfl
example : (@instConjStar CRat (StarRing.toStarAddMonoid.toInvolutiveStar.toStar) : Conj CRat)
    = CRat.instConj := rfl
example (a : CRat) : a⁻¹ = CRat.instDiv.div 1 a := rfl
example : (DivisionRing.toInv : Inv CRat) = CRat.instInv := by with_reducible_and_instances rfl
example : (Ring.toIntCast : IntCast CRat) = CRat.instIntCast := by with_reducible_and_instances rfl
example : (DivisionRing.toRatCast : RatCast CRat) = CRat.instRatCast := by
  with_reducible_and_instances rfl
example : (DivisionRing.toNNRatCast : NNRatCast CRat) = CRat.instNNRatCast := by
  with_reducible_and_instances rfl

/-- the generic bridging lemmas of `Lemmas/Basic.lean` apply to the model's helpers at the model's
instances -/
example (n : ℕ) (f : ℕ → CRat) :
    @sumR CRat CRat.instAdd CRat.instOfNatOfNatNat n f = ∑ i ∈ Finset.range n, f i := sumR_eq_sum n f
example (x : CRat) (n : ℕ) :
    @powN CRat CRat.instMul CRat.instOfNatOfNatNat_1 x n = x ^ n := powN_eq_pow x n
example (z : CRat) : @abs2 CRat CRat.instMul CRat.instConj z = z * star z := abs2_eq z

/-- Mathlib's lemmas and tactics act on goals written with the model's instances -/
example (a b : CRat) : a * b = b * a := by rw [mul_comm]
example (a : CRat) (h : a ≠ 0) : a / a = 1 := by rw [div_self h]
example (a : CRat) : conj (conj a) = a := by rw [conj_eq_star, conj_eq_star, star_star]
example (a b : CRat) : (a + b) * (a - b) = a * a - b * b := by ring
example : ((3 : ℕ) : CRat) = 1 + 1 + 1 := by norm_num

end DefeqChecks

end SpecVerif
