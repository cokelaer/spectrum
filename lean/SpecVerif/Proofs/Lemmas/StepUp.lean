import SpecVerif.Proofs.Lemmas.Basic
import SpecVerif.Model.Levinson
import Mathlib.Algebra.BigOperators.Group.List.Basic
import Mathlib.Tactic.FieldSimp
import Mathlib.Tactic.Ring
/-
  The step-up / step-down maps (`levup`, `levdown`) through their entries, and `rc2poly` as the iterated
  step-up: `rc2poly (kr ++ [k])` is one `levup` after `rc2poly kr`.  `LEVINSON` and `arburg` both run this
  recursion on the reflection coefficients `vec n κ` they compute stage by stage, so their states are
  `rc2poly` of the returned coefficients (`rc2poly_levRun_ref` in `Levinson.lean`, `rc2poly_burgRun_ref` in
  `Burg.lean`).  Primed names: the lemma-file originals of theorems that C11 restates under the unprimed name.
-/
namespace SpecVerif
open Finset

variable {K : Type} [Field K] [StarRing K]

@[simp] theorem levup_length (a : List K) (k : K) : (levup a k).length = a.length + 1 :=
  vec_length _ _

theorem levdown_length' (b : List K) : (levdown b).length = b.length - 1 :=
  vec_length _ _

theorem nth_levup (a : List K) (k : K) (j : ℕ) :
    nth (levup a k) j = if j < a.length then nth a j + k * star (nth a (a.length - 1 - j))
      else if j = a.length then k else 0 := by
  unfold levup
  rw [nth_vec]
  by_cases h1 : j < a.length
  · rw [if_pos (Nat.lt_succ_of_lt h1), if_pos h1, if_pos h1]
    rfl
  · by_cases h2 : j = a.length
    · rw [if_pos (h2 ▸ Nat.lt_succ_self _), if_neg h1, if_neg h1, if_pos h2]
    · rw [if_neg (by omega), if_neg h1, if_neg h2]

theorem nth_levup_lt (a : List K) (k : K) (j : ℕ) (h : j < a.length) :
    nth (levup a k) j = nth a j + k * star (nth a (a.length - 1 - j)) := by
  rw [nth_levup, if_pos h]

theorem nth_levup_last (a : List K) (k : K) : nth (levup a k) a.length = k := by
  rw [nth_levup, if_neg (lt_irrefl _), if_pos rfl]

theorem levup_ne_nil (a : List K) (k : K) : levup a k ≠ [] :=
  List.ne_nil_of_length_eq_add_one (levup_length a k)

theorem nth_levdown_lt (b : List K) (j : ℕ) (h : j < b.length - 1) :
    nth (levdown b) j
      = (nth b j - nth b (b.length - 1) * star (nth b (b.length - 1 - 1 - j)))
          / (1 - nth b (b.length - 1) * star (nth b (b.length - 1))) := by
  unfold levdown
  simp only [nth_vec, if_pos h]
  rfl

theorem star_one_sub_mul_star (k : K) : star (1 - k * star k) = 1 - k * star k := by
  rw [star_sub, star_one, star_mul', star_star, mul_comm]

theorem levdown_levup' (a : List K) (k : K) (hk : 1 - k * star k ≠ 0) :
    levdown (levup a k) = a := by
  have hl := levup_length a k
  conv_rhs => rw [eq_vec_nth a]
  unfold levdown
  simp only [hl, Nat.add_sub_cancel, nth_levup_last, abs2_eq, conj_eq_star]
  apply vec_ext
  intro j hj
  rw [nth_levup_lt a k j hj, nth_levup_lt a k (a.length - 1 - j) (by omega)]
  rw [Nat.sub_sub_self (Nat.le_sub_one_of_lt hj)]
  simp only [star_add, star_mul, star_star]
  field_simp
  ring

theorem levup_levdown' (b : List K) (hb : b ≠ [])
    (hk : 1 - nth b (b.length - 1) * star (nth b (b.length - 1)) ≠ 0) :
    levup (levdown b) (nth b (b.length - 1)) = b := by
  have hpos : 0 < b.length := List.length_pos_iff.mpr hb
  have hl := levdown_length' b
  conv_rhs => rw [eq_vec_nth b]
  unfold levup
  rw [hl, Nat.sub_add_cancel hpos]
  apply vec_ext
  intro j hj
  by_cases hjm : j < b.length - 1
  · rw [if_pos hjm, nth_levdown_lt b j hjm, nth_levdown_lt b (b.length - 1 - 1 - j) (by omega)]
    rw [Nat.sub_sub_self (Nat.le_sub_one_of_lt hjm), conj_eq_star, star_div₀, star_one_sub_mul_star]
    simp only [star_sub, star_mul, star_star]
    field_simp
    ring
  · rw [if_neg hjm]
    have : j = b.length - 1 := by omega
    rw [this]

theorem rc2poly_nil (r0 : K) : rc2poly ([] : List K) r0 = ([], r0) := rfl

theorem rc2poly_append_singleton (kr : List K) (k r0 : K) :
    rc2poly (kr ++ [k]) r0
      = (levup (rc2poly kr r0).1 k, (1 - star k * k) * (rc2poly kr r0).2) := by
  unfold rc2poly
  rw [List.foldl_append]
  rfl

theorem rc2poly_length' (kr : List K) (r0 : K) : (rc2poly kr r0).1.length = kr.length := by
  induction kr using List.reverseRecOn with
  | nil => rfl
  | append_singleton kr k ih =>
    rw [rc2poly_append_singleton, levup_length, ih, List.length_append, List.length_singleton]

theorem rc2poly_fst_eq (kr : List K) (r0 r0' : K) : (rc2poly kr r0).1 = (rc2poly kr r0').1 := by
  induction kr using List.reverseRecOn with
  | nil => rfl
  | append_singleton kr k ih => rw [rc2poly_append_singleton, rc2poly_append_singleton, ih]

theorem rc2poly_error' (kr : List K) (r0 : K) :
    (rc2poly kr r0).2 = r0 * (kr.map (fun k => 1 - star k * k)).prod := by
  induction kr using List.reverseRecOn with
  | nil => rw [rc2poly_nil, List.map_nil, List.prod_nil, mul_one]
  | append_singleton kr k ih =>
    rw [rc2poly_append_singleton, ih, List.map_append, List.prod_append, List.map_singleton,
      List.prod_singleton]
    ring

/-- `rc2poly_error'` for `kr = vec n κ`, as a `Finset` product (the shape `levRun_P_prod` and
`burgRun_rho_prod_range` need) -/
theorem rc2poly_vec_error (κ : ℕ → K) (r0 : K) (n : ℕ) :
    (rc2poly (vec n κ) r0).2 = r0 * ∏ i ∈ range n, (1 - κ i * star (κ i)) := by
  induction n with
  | zero =>
    rw [Finset.prod_range_zero, mul_one]
    rfl
  | succ n ih =>
    rw [vec_succ, rc2poly_append_singleton, ih, Finset.prod_range_succ, mul_comm (star _)]
    ring

theorem rc2ac_eq (k : List K) (r0 : K) : rc2ac k r0 = poly2ac (rc2poly k r0).1 (rc2poly k r0).2 := rfl

theorem poly2rc_nil : poly2rc ([] : List K) = [] := rfl

/-- no domain hypothesis: this is how `poly2rc` is defined -/
theorem poly2rc_eq_append (a : List K) (ha : a ≠ []) :
    poly2rc a = poly2rc (levdown a) ++ [nth a (a.length - 1)] := by
  have hpos : 0 < a.length := List.length_pos_iff.mpr ha
  obtain ⟨n, hn⟩ : ∃ n, a.length = n + 1 := ⟨a.length - 1, by omega⟩
  unfold poly2rc
  rw [levdown_length', hn, Nat.add_sub_cancel]
  simp only [stepDowns, List.map_cons, List.reverse_cons, hn, Nat.add_sub_cancel]

theorem poly2rc_levup (a : List K) (k : K) (hk : 1 - k * star k ≠ 0) :
    poly2rc (levup a k) = poly2rc a ++ [k] := by
  rw [poly2rc_eq_append _ (levup_ne_nil a k), levdown_levup' a k hk, levup_length,
    Nat.add_sub_cancel, nth_levup_last]

theorem levdown_induction {P : List K → Prop} (a : List K) (hnil : P [])
    (hstep : ∀ a, a ≠ [] → P (levdown a) → P a) : P a := by
  generalize hn : a.length = n
  induction n generalizing a with
  | zero =>
    rw [List.length_eq_zero_iff.mp hn]
    exact hnil
  | succ n ih =>
    exact hstep a (List.ne_nil_of_length_eq_add_one hn) (ih _ (by rw [levdown_length', hn]; rfl))

theorem poly2rc_length (a : List K) : (poly2rc a).length = a.length := by
  refine levdown_induction (P := fun a => (poly2rc a).length = a.length) a rfl (fun a ha ih => ?_)
  rw [poly2rc_eq_append a ha, List.length_append, List.length_singleton, ih, levdown_length',
    Nat.sub_add_cancel (List.length_pos_iff.mpr ha)]

theorem rc2poly_poly2rc' (a : List K) (r0 : K) (hk : ∀ k ∈ poly2rc a, 1 - k * star k ≠ 0) :
    (rc2poly (poly2rc a) r0).1 = a := by
  revert hk
  refine levdown_induction (P := fun a => (∀ k ∈ poly2rc a, 1 - k * star k ≠ 0) →
    (rc2poly (poly2rc a) r0).1 = a) a (fun _ => rfl) (fun a ha ih hk => ?_)
  rw [poly2rc_eq_append a ha] at hk ⊢
  rw [rc2poly_append_singleton]
  dsimp only
  rw [ih (fun k' hk' => hk k' (List.mem_append_left _ hk'))]
  exact levup_levdown' a ha (hk _ (List.mem_append_right _ (List.mem_singleton_self _)))

end SpecVerif
