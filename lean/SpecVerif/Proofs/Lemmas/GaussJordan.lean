import SpecVerif.Proofs.Lemmas.LeastSquares
import SpecVerif.Proofs.Lemmas.IsZero
/-
  Verification of the model's own linear solver (`SpecVerif/Model/LinAlg.lean`): Gauss–Jordan
  elimination `gjStep` / `solveMat` / `solveVec` / `lstsq`, over a field `K` whose zero test
  `IsZero.isZero` is lawful (`LawfulIsZero`: `isZero x = true ↔ x = 0`).

  Idea: a step is an invertible row operation, so the null space of `[A | B]` is invariant while unit
  columns accumulate; the final `[I | X]`, read on the vectors `(X_{·j}; -e_j)`, gives `A X = B`; a step
  fails only on a column that vanishes at and below the diagonal, which exhibits a kernel vector of `A`.
-/
namespace SpecVerif.GJL
open Finset SpecVerif SpecVerif.LSL SpecVerif.ShiftLSL

section Defs
variable {K : Type} [Field K]

def rowDot (M : Mat K) (w : ℕ) (v : ℕ → K) (i : ℕ) : K :=
  ∑ j ∈ range w, mentryM M i j * v j

def NullVec (M : Mat K) (n w : ℕ) (v : ℕ → K) : Prop := ∀ i, i < n → rowDot M w v i = 0

def UnitCols (M : Mat K) (n c : ℕ) : Prop :=
  ∀ i, i < n → ∀ j, j < c → mentryM M i j = if i = j then 1 else 0

/-- entry `(i, j)` of the result of a Gauss–Jordan step on column `col` with pivot row `p`:
row `col` is row `p` divided by the pivot; any other row `i` is row `σ i` (`σ` swaps `p` and `col`)
minus its `col` entry times the normalised pivot row -/
def stepEntry (M : Mat K) (col p i j : ℕ) : K :=
  if i = col then mentryM M p j / mentryM M p col
  else mentryM M (if i = p then col else i) j
      - mentryM M (if i = p then col else i) col * (mentryM M p j / mentryM M p col)

/-- the pivot row of a Gauss–Jordan step on column `col`: the first row at or below `col` whose entry
in that column is not flagged zero -/
def pivotRow [IsZero K] (n : ℕ) (M : Mat K) (col : ℕ) : Option ℕ :=
  (List.range n).find? (fun i => col ≤ i && !isZero (mentryM M i col))

/-- the fold of `gjStep` over the columns `0..c-1` (as inside `solveMat`) -/
def gjRun [IsZero K] (n w : ℕ) (M : Mat K) (c : ℕ) : Option (Mat K) :=
  (List.range c).foldl (fun (acc : Option (Mat K)) col =>
    match acc with
    | none => none
    | some M => gjStep n w M col) (some M)

/-- the augmented matrix `[A | B]` built by `solveMat` -/
def augMat (A B : Mat K) (n m : ℕ) : Mat K :=
  vec n (fun i => vec (n + m) (fun j => if j < n then mentryM A i j else mentryM B i (j - n)))

def Nonsing (A : Mat K) (n : ℕ) : Prop :=
  ∀ v : ℕ → K, (∀ i, i < n → ∑ k ∈ range n, mentryM A i k * v k = 0) → ∀ k, k < n → v k = 0

end Defs

section Step
variable {K : Type} [Field K] [IsZero K]

theorem pivotRow_some {n col p : ℕ} {M : Mat K} (h : pivotRow n M col = some p) :
    col ≤ p ∧ p < n ∧ isZero (mentryM M p col) = false := by
  have h1 := List.find?_some h
  simp only [Bool.and_eq_true, decide_eq_true_eq, Bool.not_eq_true'] at h1
  exact ⟨h1.1, List.mem_range.mp (List.mem_of_find?_eq_some h), h1.2⟩

theorem pivotRow_none {n col : ℕ} {M : Mat K} (h : pivotRow n M col = none) :
    ∀ i, col ≤ i → i < n → isZero (mentryM M i col) = true := by
  intro i hci hin
  have := List.find?_eq_none.mp h i (List.mem_range.mpr hin)
  simpa [hci] using this

theorem gjStep_eq (n w : ℕ) (M : Mat K) (col : ℕ) :
    gjStep n w M col
      = (pivotRow n M col).map (fun p => vec n (fun i => vec w (fun j => stepEntry M col p i j))) := by
  unfold gjStep pivotRow
  cases (List.range n).find? (fun i => col ≤ i && !isZero (mentryM M i col)) with
  | none => rfl
  | some p =>
    simp only [Option.map_some, Option.some.injEq]
    apply vec_ext
    intro i hi
    unfold stepEntry
    by_cases hic : i = col
    · rw [if_pos hic]
      apply vec_ext
      intro j _
      rw [if_pos hic]
    · rw [if_neg hic]
      apply vec_ext
      intro j hj
      unfold mentryM
      rw [if_neg hic, nth_vec, if_pos hj, getD_vec_lt _ hi _, if_neg hic]
      by_cases hip : i = p
      · rw [if_pos hip, if_pos hip]
      · rw [if_neg hip, if_neg hip]

theorem gjStep_some {n w col : ℕ} {M M' : Mat K} (h : gjStep n w M col = some M') :
    ∃ p, col ≤ p ∧ p < n ∧ isZero (mentryM M p col) = false ∧
      ∀ i, i < n → ∀ j, j < w → mentryM M' i j = stepEntry M col p i j := by
  rw [gjStep_eq, Option.map_eq_some_iff] at h
  obtain ⟨p, hp, rfl⟩ := h
  obtain ⟨h1, h2, h3⟩ := pivotRow_some hp
  exact ⟨p, h1, h2, h3, fun i hi j hj => mentryM_vec_vec n w _ i j hi hj⟩

theorem gjStep_none {n w col : ℕ} {M : Mat K} (h : gjStep n w M col = none) :
    ∀ i, col ≤ i → i < n → isZero (mentryM M i col) = true := by
  rw [gjStep_eq, Option.map_eq_none_iff] at h
  exact pivotRow_none h

end Step

section StepAlgebra
variable {K : Type} [Field K] {n w col p : ℕ} {M M' : Mat K}
  (hE : ∀ i, i < n → ∀ j, j < w → mentryM M' i j = stepEntry M col p i j)
include hE

theorem rowDot_step (v : ℕ → K) (i : ℕ) (hi : i < n) :
    rowDot M' w v i =
      if i = col then rowDot M w v p / mentryM M p col
      else rowDot M w v (if i = p then col else i)
        - mentryM M (if i = p then col else i) col * (rowDot M w v p / mentryM M p col) := by
  unfold rowDot
  rw [Finset.sum_congr rfl (fun j hj => by rw [hE i hi j (mem_range.mp hj)])]
  unfold stepEntry
  by_cases hic : i = col
  · simp only [if_pos hic]
    rw [Finset.sum_div]
    apply Finset.sum_congr rfl
    intro j _
    ring
  · simp only [if_neg hic]
    rw [Finset.sum_div, Finset.mul_sum, ← Finset.sum_sub_distrib]
    apply Finset.sum_congr rfl
    intro j _
    ring

/-- the step is an invertible row transformation -/
theorem nullVec_step (hcn : col < n) (hpn : p < n) (hpiv : mentryM M p col ≠ 0) (v : ℕ → K) :
    NullVec M' n w v ↔ NullVec M n w v := by
  -- once row `p` of `M` annihilates `v`, the step only permutes the other rows (as far as `v` sees)
  have hperm : rowDot M w v p = 0 → ∀ i, i < n → i ≠ col →
      rowDot M' w v i = rowDot M w v (if i = p then col else i) := by
    intro hp0 i hi hic
    rw [rowDot_step hE v i hi, if_neg hic, hp0, zero_div, mul_zero, sub_zero]
  constructor
  · intro h
    have hp0 : rowDot M w v p = 0 := by
      have := h col hcn
      rw [rowDot_step hE v col hcn, if_pos rfl] at this
      exact (div_eq_zero_iff.mp this).resolve_right hpiv
    intro k hk
    by_cases hkp : k = p
    · rw [hkp]
      exact hp0
    · by_cases hkc : k = col
      · have := hperm hp0 p hpn (fun e => hkp (hkc.trans e.symm))
        rw [if_pos rfl, h p hpn] at this
        rw [hkc, ← this]
      · have := hperm hp0 k hk hkc
        rw [if_neg hkp, h k hk] at this
        exact this.symm
  · intro h i hi
    by_cases hic : i = col
    · rw [rowDot_step hE v i hi, if_pos hic, h p hpn, zero_div]
    · rw [hperm (h p hpn) i hi hic]
      by_cases hip : i = p
      · rw [if_pos hip]
        exact h col hcn
      · rw [if_neg hip]
        exact h i hi

theorem pivotCol_step (hcw : col < w) (hpiv : mentryM M p col ≠ 0) :
    ∀ i, i < n → mentryM M' i col = if i = col then 1 else 0 := by
  intro i hi
  rw [hE i hi col hcw]
  unfold stepEntry
  by_cases hic : i = col
  · rw [if_pos hic, if_pos hic, div_self hpiv]
  · rw [if_neg hic, if_neg hic, div_self hpiv, mul_one, sub_self]

theorem unitCols_step (hcw : col < w) (hcp : col ≤ p) (hpn : p < n)
    (hpiv : mentryM M p col ≠ 0) (hU : UnitCols M n col) : UnitCols M' n (col + 1) := by
  intro i hi j hj
  by_cases hjc : j = col
  · rw [hjc]
    exact pivotCol_step hE hcw hpiv i hi
  · have hjlt : j < col := lt_of_le_of_ne (Nat.le_of_lt_succ hj) hjc
    have hjp : j < p := hjlt.trans_le hcp
    rw [hE i hi j (hjlt.trans hcw)]
    unfold stepEntry
    have hpj : mentryM M p j = 0 := by
      rw [hU p hpn j hjlt, if_neg hjp.ne']
    rw [hpj, zero_div, mul_zero, sub_zero]
    by_cases hic : i = col
    · rw [if_pos hic, if_neg (fun e => hjc (e.symm.trans hic))]
    · rw [if_neg hic]
      by_cases hip : i = p
      · rw [if_pos hip, hU col (hcp.trans_lt hpn) j hjlt, if_neg hjlt.ne', if_neg (hip ▸ hjp.ne')]
      · rw [if_neg hip, hU i hi j hjlt]

end StepAlgebra

section Run
variable {K : Type} [Field K] [IsZero K]

theorem gjRun_succ (n w : ℕ) (M : Mat K) (c : ℕ) :
    gjRun n w M (c + 1) = (gjRun n w M c).bind (fun M1 => gjStep n w M1 c) := by
  unfold gjRun
  rw [List.range_succ, List.foldl_append]
  simp only [List.foldl_cons, List.foldl_nil]
  cases (List.foldl (fun (acc : Option (Mat K)) col =>
    match acc with
    | none => none
    | some M => gjStep n w M col) (some M) (List.range c)) <;> rfl

theorem solveMat_eq (A B : Mat K) (n m : ℕ) :
    solveMat A B n m = (gjRun n (n + m) (augMat A B n m) n).map
      (fun M => vec n (fun i => vec m (fun j => mentryM M i (j + n)))) := rfl

variable [LawfulIsZero K]

theorem gjRun_inv {n w : ℕ} (hnw : n ≤ w) (M0 : Mat K) :
    ∀ c, c ≤ n → ∀ M, gjRun n w M0 c = some M →
      UnitCols M n c ∧ ∀ v, NullVec M n w v ↔ NullVec M0 n w v := by
  intro c
  induction c with
  | zero =>
    intro _ M h
    cases h
    exact ⟨fun i _ j hj => absurd hj (Nat.not_lt_zero j), fun v => Iff.rfl⟩
  | succ c ih =>
    intro hc M h
    rw [gjRun_succ, Option.bind_eq_some_iff] at h
    obtain ⟨M1, h1, h⟩ := h
    have hcn : c < n := Nat.lt_of_succ_le hc
    obtain ⟨hU, hN⟩ := ih hcn.le M1 h1
    obtain ⟨p, hcp, hpn, hpz, hE⟩ := gjStep_some h
    have hpiv : mentryM M1 p c ≠ 0 := (isZero_false_iff _).mp hpz
    refine ⟨unitCols_step hE (hcn.trans_le hnw) hcp hpn hpiv hU, fun v => ?_⟩
    rw [nullVec_step hE hcn hpn hpiv v]
    exact hN v

end Run

section Aug
variable {K : Type} [Field K]

theorem mentryM_augMat (A B : Mat K) (n m i j : ℕ) (hi : i < n) (hj : j < n + m) :
    mentryM (augMat A B n m) i j = if j < n then mentryM A i j else mentryM B i (j - n) := by
  unfold augMat
  rw [mentryM_vec_vec n (n + m)
    (fun i j => if j < n then mentryM A i j else mentryM B i (j - n)) i j hi hj]

theorem rowDot_aug (M : Mat K) (n m j0 : ℕ) (hj0 : j0 < m) (x : ℕ → K) (i : ℕ) :
    rowDot M (n + m) (fun k => if k < n then x k else if k = n + j0 then -1 else 0) i
      = ∑ k ∈ range n, mentryM M i k * x k - mentryM M i (n + j0) := by
  unfold rowDot
  rw [Finset.sum_range_add, sub_eq_add_neg]
  refine congrArg₂ (· + ·) (Finset.sum_congr rfl (fun k hk => ?_)) ?_
  · beta_reduce
    rw [if_pos (mem_range.mp hk)]
  · rw [Finset.sum_eq_single j0]
    · beta_reduce
      rw [if_neg (Nat.not_lt.mpr (Nat.le_add_right n j0)), if_pos rfl, mul_neg, mul_one]
    · intro k _ hk
      beta_reduce
      rw [if_neg (Nat.not_lt.mpr (Nat.le_add_right n k)),
        if_neg (fun e => hk (Nat.add_left_cancel e)), mul_zero]
    · intro h
      exact absurd (mem_range.mpr hj0) h

theorem rowDot_support (M : Mat K) {n w : ℕ} (hnw : n ≤ w) (v : ℕ → K)
    (hv : ∀ k, n ≤ k → v k = 0) (i : ℕ) :
    rowDot M w v i = ∑ k ∈ range n, mentryM M i k * v k := by
  obtain ⟨m, rfl⟩ := Nat.exists_eq_add_of_le hnw
  unfold rowDot
  rw [Finset.sum_range_add, add_eq_left]
  apply Finset.sum_eq_zero
  intro k _
  rw [hv (n + k) (Nat.le_add_right n k), mul_zero]

theorem sum_unitCols {M : Mat K} {n c : ℕ} (hU : UnitCols M n c) (x : ℕ → K) (i : ℕ) (hi : i < n) :
    ∑ k ∈ range c, mentryM M i k * x k = if i < c then x i else 0 := by
  have e : ∀ k ∈ range c, mentryM M i k * x k = if k = i then x i else 0 := by
    intro k hk
    rw [hU i hi k (mem_range.mp hk)]
    by_cases hik : i = k
    · rw [if_pos hik, if_pos hik.symm, one_mul, hik]
    · rw [if_neg hik, if_neg (fun e => hik e.symm), zero_mul]
  rw [Finset.sum_congr rfl e, Finset.sum_ite_eq' (range c) i]
  simp only [mem_range]

theorem sum_augMat_left (A B : Mat K) (n m : ℕ) (x : ℕ → K) (i : ℕ) (hi : i < n) :
    ∑ k ∈ range n, mentryM (augMat A B n m) i k * x k = ∑ k ∈ range n, mentryM A i k * x k := by
  apply Finset.sum_congr rfl
  intro k hk
  have hk' := mem_range.mp hk
  rw [mentryM_augMat A B n m i k hi (Nat.lt_add_right m hk'), if_pos hk']

theorem mentryM_identity (n i j : ℕ) (hi : i < n) (hj : j < n) :
    mentryM (identity n : Mat K) i j = if i = j then 1 else 0 := by
  unfold identity
  rw [mentryM_vec_vec n n (fun i j => if i = j then (1 : K) else 0) i j hi hj]

end Aug

section Shape
variable {K : Type} [Field K] [IsZero K]

theorem solveVec_length {A : Mat K} {b : List K} {n : ℕ} {v : List K}
    (h : solveVec A b n = some v) : v.length = n := by
  unfold solveVec at h
  rw [Option.map_eq_some_iff] at h
  obtain ⟨X, _, rfl⟩ := h
  exact vec_length _ _

theorem lsFit_length [StarRing K] {X : Mat K} {rows p : ℕ} {a : List K} {e : K}
    (h : lsFit X rows p = some (a, e)) : a.length = p :=
  solveVec_length ((lstsq_unfold X rows p) ▸ (lsFit_eq_some h).1)

end Shape

section Sound
variable {K : Type} [Field K] [IsZero K] [LawfulIsZero K]

theorem solveMat_some {A B : Mat K} {n m : ℕ} {X : Mat K} (h : solveMat A B n m = some X) :
    ∃ M, UnitCols M n n ∧ (∀ v, NullVec M n (n + m) v ↔ NullVec (augMat A B n m) n (n + m) v) ∧
      ∀ k, k < n → ∀ j, j < m → mentryM X k j = mentryM M k (j + n) := by
  rw [solveMat_eq, Option.map_eq_some_iff] at h
  obtain ⟨M, hr, rfl⟩ := h
  obtain ⟨hU, hN⟩ := gjRun_inv (Nat.le_add_right n m) (augMat A B n m) n (Nat.le_refl n) M hr
  exact ⟨M, hU, hN, fun k hk j hj => mentryM_vec_vec n m (fun i j => mentryM M i (j + n)) k j hk hj⟩

theorem solveMat_sound {A B : Mat K} {n m : ℕ} {X : Mat K} (h : solveMat A B n m = some X) :
    ∀ i, i < n → ∀ j, j < m →
      ∑ k ∈ range n, mentryM A i k * mentryM X k j = mentryM B i j := by
  obtain ⟨M, hU, hN, hX⟩ := solveMat_some h
  intro i hi j hj
  -- `(X_{·j}; -e_j)` is a null vector of `[I | X]`, hence of `[A | B]`
  have hnull : NullVec M n (n + m)
      (fun k => if k < n then mentryM X k j else if k = n + j then -1 else 0) := by
    intro i' hi'
    rw [rowDot_aug M n m j hj, sum_unitCols hU _ i' hi', if_pos hi', hX i' hi' j hj,
      Nat.add_comm n j, sub_self]
  have := (hN _).mp hnull i hi
  rw [rowDot_aug _ n m j hj, sum_augMat_left A B n m _ i hi,
    mentryM_augMat A B n m i (n + j) hi (Nat.add_lt_add_left hj n),
    if_neg (Nat.not_lt.mpr (Nat.le_add_right n j)),
    Nat.add_sub_cancel_left] at this
  exact sub_eq_zero.mp this

/-- the reduced left block is the identity -/
theorem solveMat_nonsing {A B : Mat K} {n m : ℕ} {X : Mat K}
    (h : solveMat A B n m = some X) : Nonsing A n := by
  obtain ⟨M, hU, hN, -⟩ := solveMat_some h
  intro v hv
  have hsupp : ∀ k, n ≤ k → (fun k => if k < n then v k else 0) k = 0 :=
    fun k hk => if_neg (Nat.not_lt.mpr hk)
  have hnull : NullVec (augMat A B n m) n (n + m) (fun k => if k < n then v k else 0) := by
    intro i hi
    rw [rowDot_support _ (Nat.le_add_right n m) _ hsupp, sum_augMat_left A B n m _ i hi, ← hv i hi]
    exact Finset.sum_congr rfl (fun k hk => by rw [if_pos (mem_range.mp hk)])
  intro k hk
  have := (hN _).mpr hnull k hk
  rw [rowDot_support _ (Nat.le_add_right n m) _ hsupp, sum_unitCols hU _ k hk, if_pos hk,
    if_pos hk] at this
  exact this

theorem solveVec_sound {A : Mat K} {b : List K} {n : ℕ} {v : List K}
    (h : solveVec A b n = some v) :
    ∀ i, i < n → ∑ k ∈ range n, mentryM A i k * nth v k = nth b i := by
  unfold solveVec at h
  simp only [Option.map_eq_some_iff] at h
  obtain ⟨X, hX, rfl⟩ := h
  intro i hi
  have := solveMat_sound hX i hi 0 Nat.one_pos
  have eB : mentryM (vec n (fun i => [nth b i])) i 0 = nth b i := by
    unfold mentryM
    rw [getD_vec_lt _ hi _]
    rfl
  rw [eB] at this
  rw [← this]
  apply Finset.sum_congr rfl
  intro k hk
  rw [nth_vec, if_pos (mem_range.mp hk)]

end Sound

section SoundStar
variable {K : Type} [Field K] [StarRing K] [IsZero K] [LawfulIsZero K]

theorem lsFit_sound {X : Mat K} {rows p : ℕ} {a : List K} {e : K}
    (h : lsFit X rows p = some (a, e)) :
    NormalEq (col0 X) (colR X) rows p (nth a) ∧ e = lsEnergy (col0 X) (colR X) rows p (nth a) := by
  have hs := (lsFit_eq_some h).1
  rw [lstsq_unfold] at hs
  have hn := (normalEq_iff_gramSystem X rows p (nth a)).mpr (fun k hk => solveVec_sound hs k hk)
  exact ⟨hn, (lsFit_error h hn).1⟩

end SoundStar

section Complete
variable {K : Type} [Field K]

theorem nullVec_of_zero_col {M : Mat K} {n w c : ℕ} (hcn : c < n) (hnw : n ≤ w)
    (hU : UnitCols M n c) (h0 : ∀ i, c ≤ i → i < n → mentryM M i c = 0) :
    NullVec M n w (fun k => if k < c then -(mentryM M k c) else if k = c then 1 else 0) := by
  intro i hi
  have hsupp : ∀ k, c + 1 ≤ k →
      (fun k => if k < c then -(mentryM M k c) else if k = c then (1 : K) else 0) k = 0 := by
    intro k hk
    simp only [if_neg (Nat.not_lt.mpr (Nat.le_of_succ_le hk)), if_neg (Nat.lt_of_succ_le hk).ne']
  have hlow : ∀ k ∈ range c,
      mentryM M i k * (if k < c then -(mentryM M k c) else if k = c then (1 : K) else 0)
        = mentryM M i k * -(mentryM M k c) :=
    fun k hk => by rw [if_pos (mem_range.mp hk)]
  rw [rowDot_support M (Nat.succ_le_of_lt (hcn.trans_le hnw)) _ hsupp, Finset.sum_range_succ,
    Finset.sum_congr rfl hlow, sum_unitCols hU _ i hi, if_neg (Nat.lt_irrefl c), if_pos rfl,
    mul_one]
  by_cases hic : i < c
  · rw [if_pos hic, neg_add_cancel]
  · rw [if_neg hic, zero_add]
    exact h0 i (Nat.not_lt.mp hic) hi

variable [IsZero K] [LawfulIsZero K]

theorem gjRun_complete {n w : ℕ} (hnw : n ≤ w) (M0 : Mat K) (hinj : Nonsing M0 n) :
    ∀ c, c ≤ n → ∃ M, gjRun n w M0 c = some M := by
  intro c
  induction c with
  | zero => intro _; exact ⟨M0, rfl⟩
  | succ c ih =>
    intro hc
    have hcn : c < n := Nat.lt_of_succ_le hc
    obtain ⟨M1, h1⟩ := ih hcn.le
    rw [gjRun_succ, h1]
    simp only [Option.bind_some]
    cases hs : gjStep n w M1 c with
    | some M => exact ⟨M, rfl⟩
    | none =>
      exfalso
      obtain ⟨hU, hN⟩ := gjRun_inv hnw M0 c hcn.le M1 h1
      have h0 : ∀ i, c ≤ i → i < n → mentryM M1 i c = 0 := fun i hci hin =>
        (LawfulIsZero.isZero_iff _).mp (gjStep_none hs i hci hin)
      have hnull := (hN _).mp (nullVec_of_zero_col hcn hnw hU h0)
      have hsupp : ∀ k, n ≤ k →
          (fun k => if k < c then -(mentryM M1 k c) else if k = c then (1 : K) else 0) k = 0 := by
        intro k hk
        simp only [if_neg (Nat.not_lt.mpr (hcn.le.trans hk)), if_neg (hcn.trans_le hk).ne']
      have := hinj _ (fun i hi => by
        have := hnull i hi
        rw [rowDot_support _ hnw _ hsupp] at this
        exact this) c hcn
      simp only [if_neg (Nat.lt_irrefl c)] at this
      exact one_ne_zero this

theorem solveMat_complete (A B : Mat K) (n m : ℕ) (hinj : Nonsing A n) :
    ∃ X, solveMat A B n m = some X := by
  rw [solveMat_eq]
  obtain ⟨M, hM⟩ := gjRun_complete (Nat.le_add_right n m) (augMat A B n m) (fun v hv => hinj v (fun i hi => by
    rw [← sum_augMat_left A B n m v i hi]
    exact hv i hi)) n (Nat.le_refl n)
  rw [hM]
  exact ⟨_, rfl⟩

theorem solveVec_complete (A : Mat K) (b : List K) (n : ℕ) (hinj : Nonsing A n) :
    ∃ v, solveVec A b n = some v := by
  obtain ⟨X, hX⟩ := solveMat_complete A (vec n (fun i => [nth b i])) n 1 hinj
  unfold solveVec
  rw [hX]
  exact ⟨_, rfl⟩

theorem solveVec_nonsing {A : Mat K} {b : List K} {n : ℕ} {v0 : List K}
    (h : solveVec A b n = some v0) : Nonsing A n := by
  unfold solveVec at h
  rw [Option.map_eq_some_iff] at h
  obtain ⟨X, hX, _⟩ := h
  exact solveMat_nonsing hX

end Complete

section CompleteStar
variable {K : Type} [Field K] [StarRing K] [IsZero K] [LawfulIsZero K]

theorem lsFit_some_iff (X : Mat K) (rows p : ℕ) :
    (∃ a e, lsFit X rows p = some (a, e)) ↔ GramInj (colR X) rows p := by
  constructor
  · rintro ⟨a, e, h⟩ d hd
    have h1 := (lsFit_eq_some h).1
    rw [lstsq_unfold] at h1
    apply solveVec_nonsing h1 d
    intro k hk
    rw [gram_apply X rows p d k hk]
    exact hd k hk
  · intro hG
    obtain ⟨a, ha⟩ := solveVec_complete
      (matMul (conjT (negXc X rows p) rows p) (negXc X rows p) p rows p)
      (matVec (conjT (negXc X rows p) rows p) (rhsX1 X rows) p rows) p (fun v hv => hG v (fun b hb => by
        rw [← gram_apply X rows p v b hb]
        exact hv b hb))
    rw [← lstsq_unfold] at ha
    obtain ⟨e, he⟩ := lsFit_of_lstsq ha
    exact ⟨a, e, he⟩

/-- success of the elimination means that the Gram matrix is nonsingular -/
theorem lsFit_solution_unique {X : Mat K} {rows p : ℕ} {a : List K} {e : K}
    (h : lsFit X rows p = some (a, e)) (a' : ℕ → K)
    (h' : NormalEq (col0 X) (colR X) rows p a') : ∀ j, j < p → a' j = nth a j :=
  normalEq_unique ((lsFit_some_iff X rows p).mp ⟨a, e, h⟩) (lsFit_sound h).1 h'

theorem lsFit_eq_some_iff (X : Mat K) (rows p : ℕ) (a : List K) (e : K) :
    lsFit X rows p = some (a, e) ↔
      a.length = p ∧ NormalEq (col0 X) (colR X) rows p (nth a) ∧
      e = lsEnergy (col0 X) (colR X) rows p (nth a) ∧ GramInj (colR X) rows p := by
  constructor
  · intro h
    exact ⟨lsFit_length h, (lsFit_sound h).1, (lsFit_sound h).2,
      (lsFit_some_iff X rows p).mp ⟨a, e, h⟩⟩
  · rintro ⟨hl, hn, he, hG⟩
    obtain ⟨a0, e0, h0⟩ := (lsFit_some_iff X rows p).mpr hG
    have ha : a = a0 :=
      list_eq_of_nth_eq (lsFit_length h0) hl (fun j hj => lsFit_solution_unique h0 (nth a) hn j hj)
    subst ha
    rw [h0, he, (lsFit_sound h0).2]

end CompleteStar

section LeastSquaresRC
variable {𝕜 : Type} [RCLike 𝕜] [IsZero 𝕜] [LawfulIsZero 𝕜]

theorem lsFit_least_squares {X : Mat 𝕜} {rows p : ℕ} {a : List 𝕜} {e : 𝕜}
    (h : lsFit X rows p = some (a, e)) :
    NormalEq (col0 X) (colR X) rows p (nth a) ∧
    e = ((lsEnergyR (col0 X) (colR X) rows p (nth a) : ℝ) : 𝕜) ∧
    (∀ a' : ℕ → 𝕜, lsEnergyR (col0 X) (colR X) rows p (nth a)
      ≤ lsEnergyR (col0 X) (colR X) rows p a') ∧
    (∀ a' : ℕ → 𝕜, (∀ a'' : ℕ → 𝕜, lsEnergyR (col0 X) (colR X) rows p a'
        ≤ lsEnergyR (col0 X) (colR X) rows p a'') → ∀ j, j < p → a' j = nth a j) := by
  obtain ⟨hn, he⟩ := lsFit_sound h
  exact ⟨hn, by rw [he, lsEnergy_ofReal], lsEnergyR_le hn,
    fun a' hmin => lsFit_solution_unique h a' (normalEq_of_minimiser hmin)⟩

end LeastSquaresRC

section Examples

local instance ratIsZeroGJ : IsZero ℚ := ⟨fun q => decide (q = 0)⟩
local instance : LawfulIsZero ℚ := lawful_decide

/-- `[[0,1],[1,1]] v = [2,3]`: the pivot search skips row 0 (zero entry), swaps, and returns `v = [1,2]`;
a singular matrix is rejected; a `3 × 3` inverse needing two swaps. -/
example :
    solveVec ([[0, 1], [1, 1]] : Mat ℚ) [2, 3] 2 = some [1, 2] ∧
    gjStep 2 3 ([[0, 1, 2], [1, 1, 3]] : Mat ℚ) 0 = some [[1, 1, 3], [0, 1, 2]] ∧
    solveVec ([[1, 2], [2, 4]] : Mat ℚ) [1, 1] 2 = none ∧
    inverse ([[0, 0, 2], [0, 1, 0], [4, 0, 0]] : Mat ℚ) 3
      = some [[0, 0, 1 / 4], [0, 1, 0], [1 / 2, 0, 0]] := by
  decide +kernel

example : ∀ i, i < 2 →
    ∑ k ∈ range 2, mentryM ([[0, 1], [1, 1]] : Mat ℚ) i k * nth ([1, 2] : List ℚ) k
      = nth ([2, 3] : List ℚ) i :=
  solveVec_sound (by decide +kernel)

end Examples

end SpecVerif.GJL
