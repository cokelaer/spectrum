import SpecVerif.Proofs.Lemmas.Periodogram
import SpecVerif.Proofs.Lemmas.LeastSquares
import SpecVerif.Proofs.Lemmas.LevinsonPD
import SpecVerif.Proofs.Lemmas.SchurCohn
/-
  The Yule–Walker estimator `aryule` (biased autocorrelation + Levinson) and the two-stage `maEstimate`.
  `XᴴX = N·T` (`gram_autocorrelation`) turns Levinson's invariant into the normal equations of the
  'autocorrelation' data matrix `X`; a non-zero signal gives `X` a trivial kernel (`shift_injective`:
  triangular argument from the first non-zero sample), hence `T` positive definite, `P > 0`, `|k_i| < 1` and
  Schur–Cohn stability.  `ls_pythagoras`, `normal_eq_unique`: the facts of `Lemmas/LeastSquares.lean` for the
  columns of ONE matrix (`X i 0` against `X i (j+1)`).  The lemmas restated in C12 stay here because C15
  uses them and Cnn files do not import each other.
-/
namespace SpecVerif.YuleL
open Finset SpecVerif SpecVerif.LSL

section Lists
variable {K : Type} [Zero K]

theorem cons_nth_tail (l : List K) (h : l ≠ []) : nth l 0 :: l.tail = l := by
  cases l with
  | nil => exact absurd rfl h
  | cons a l => rfl

theorem length_pos_of_nonzero (x : List K) (hx : ∃ j, j < x.length ∧ nth x j ≠ 0) : 0 < x.length :=
  let ⟨j, hj, _⟩ := hx
  Nat.lt_of_le_of_lt (Nat.zero_le j) hj

end Lists

section Shift
variable {K : Type} [Field K]

/-- triangular argument: with `j0` the first non-zero sample, row `j0 + j` of `X v = 0` reads
`x[j0]·v_j + (terms with v_b, b < j) = 0`. -/
theorem shift_injective (x : List K) (m : ℕ) (hx : ∃ j, j < x.length ∧ nth x j ≠ 0) (v : ℕ → K)
    (hv : ∀ i, i < x.length + m → ∑ j ∈ range (m + 1), shiftEntry x i j * v j = 0) :
    ∀ j, j ≤ m → v j = 0 := by
  classical
  have hex : ∃ j, nth x j ≠ 0 := let ⟨j, _, h⟩ := hx; ⟨j, h⟩
  have hj0ne : nth x (Nat.find hex) ≠ 0 := Nat.find_spec hex
  have hj0min : ∀ i, i < Nat.find hex → nth x i = 0 := fun i hi => by
    by_contra h; exact Nat.find_min hex hi h
  have hj0lt : Nat.find hex < x.length := by
    by_contra h
    exact hj0ne (nth_of_ge x _ (not_lt.mp h))
  generalize Nat.find hex = j0 at hj0ne hj0min hj0lt
  intro j
  induction j using Nat.strong_induction_on with
  | _ j ih =>
    intro hj
    have hrow := hv (j0 + j) (Nat.add_lt_add_of_lt_of_le hj0lt hj)
    rw [Finset.sum_eq_single j] at hrow
    · have e : shiftEntry x (j0 + j) j = nth x j0 := by
        unfold shiftEntry
        rw [if_pos (Nat.le_add_left j j0), Nat.add_sub_cancel]
      rw [e] at hrow
      exact (mul_eq_zero.mp hrow).resolve_left hj0ne
    · intro b hb hbj
      have hb' : b ≤ m := Nat.lt_succ_iff.mp (mem_range.mp hb)
      rcases Nat.lt_or_gt_of_ne hbj with h | h
      · rw [ih b h hb', mul_zero]
      · have e : shiftEntry x (j0 + j) b = 0 := by
          unfold shiftEntry
          by_cases hle : b ≤ j0 + j
          · rw [if_pos hle]; exact hj0min _ (by omega)
          · rw [if_neg hle]
        rw [e, zero_mul]
    · intro h
      exact absurd (mem_range.mpr (Nat.lt_succ_of_le hj)) h

end Shift

section Generic
variable {K : Type} [Field K] [StarRing K]

theorem aryule_unfold (x : List K) (p : ℕ) :
    aryule x p .biased
      = levRun (rePart (nth (correlation x x p .biased 1) 0)) (correlation x x p .biased 1).tail p :=
  rfl

theorem yuleR_ne_nil (x : List K) (p : ℕ) (rms2 : K) : correlation x x p .biased rms2 ≠ [] :=
  List.ne_nil_of_length_pos (by rw [correlation_length]; omega)

theorem yuleT_length (x : List K) (p : ℕ) (rms2 : K) :
    (correlation x x p .biased rms2).tail.length = p := by
  rw [List.length_tail, correlation_length, Nat.add_sub_cancel]

theorem nth_biased (x : List K) (p k : ℕ) (hk : k ≤ p) (rms2 : K) :
    nth (correlation x x p .biased rms2) k
      = (∑ j ∈ range (x.length - k), nth x (j + k) * star (nth x j)) / (x.length : K) := by
  rw [nth_correlation x x p .biased rms2 k hk, corrRaw_eq, Nat.max_self]

theorem rePart_r0 (x : List K) (p : ℕ) (rms2 : K) (h2 : (2 : K) ≠ 0) :
    rePart (nth (correlation x x p .biased rms2) 0) = nth (correlation x x p .biased rms2) 0 :=
  rePart_of_star_eq h2 (biased_r0_eq_meanPow x p rms2).2

theorem aryule_eq_levRun (x : List K) (p : ℕ) (h2 : (2 : K) ≠ 0) :
    aryule x p .biased
      = levRun (nth (correlation x x p .biased 1) 0) (correlation x x p .biased 1).tail p := by
  rw [aryule_unfold, rePart_r0 x p 1 h2]

theorem aryule_A_length (x : List K) (p : ℕ) : (aryule x p .biased).A.length = p :=
  levRun_A_length _ _ p

theorem aryule_ref_length (x : List K) (p : ℕ) : (aryule x p .biased).ref.length = p :=
  levRun_ref_length _ _ p

theorem ma_eq_two_yule (x : List K) (Q M : ℕ) (b : List K) (rho : K) :
    maEstimate x Q M = .ok (b, rho) ↔
      0 < Q ∧ Q < M ∧ b = (aryule ((1 : K) :: (aryule x M .biased).A) Q .biased).A
        ∧ rho = (aryule x M .biased).P := by
  unfold maEstimate
  by_cases h : Q = 0 ∨ Q ≥ M
  · rw [if_pos h]
    constructor
    · intro he; cases he
    · rintro ⟨h1, h2, _⟩; omega
  · rw [if_neg h]
    simp only [Except.ok.injEq, Prod.mk.injEq]
    constructor
    · rintro ⟨rfl, rfl⟩
      exact ⟨by omega, by omega, rfl, rfl⟩
    · rintro ⟨_, _, rfl, rfl⟩
      exact ⟨rfl, rfl⟩

theorem ma_error (x : List K) (Q M : ℕ) :
    maEstimate x Q M = .error "value" ↔ Q = 0 ∨ Q ≥ M := by
  unfold maEstimate
  by_cases h : Q = 0 ∨ Q ≥ M
  · rw [if_pos h]; exact ⟨fun _ => h, fun _ => rfl⟩
  · rw [if_neg h]
    constructor
    · intro he; cases he
    · intro h'; exact absurd h' h

theorem ma_length (x : List K) (Q M : ℕ) (b : List K) (rho : K)
    (h : maEstimate x Q M = .ok (b, rho)) : b.length = Q := by
  obtain ⟨_, _, rfl, _⟩ := (ma_eq_two_yule x Q M b rho).mp h
  exact aryule_A_length _ Q

theorem corrmtx_injective (x : List K) (m : ℕ) (hx : ∃ j, j < x.length ∧ nth x j ≠ 0) (v : ℕ → K)
    (hv : ∀ i, i < x.length + m →
      ∑ j ∈ range (m + 1), mentry (corrmtx x m .autocorrelation) i j * v j = 0) :
    ∀ j, j ≤ m → v j = 0 := by
  apply shift_injective x m hx v
  intro i hi
  rw [← hv i hi]
  apply Finset.sum_congr rfl
  intro j hj
  rw [mentry_autocorrelation x m i j hi (Nat.lt_succ_iff.mp (mem_range.mp hj))]

/-- `(Xᴴ X α)_b = N·(T α)_b` -/
theorem gram_apply (x : List K) (p : ℕ) (rms2 : K) (hN : (x.length : K) ≠ 0) (α : ℕ → K) (b : ℕ)
    (hb : b ≤ p) :
    ∑ i ∈ range (x.length + p), star (mentry (corrmtx x p .autocorrelation) i b)
        * ∑ j ∈ range (p + 1), mentry (corrmtx x p .autocorrelation) i j * α j
      = (x.length : K)
          * ∑ j ∈ range (p + 1), hermToep (correlation x x p .biased rms2) b j * α j := by
  have h1 : ∀ i ∈ range (x.length + p), star (mentry (corrmtx x p .autocorrelation) i b)
        * ∑ j ∈ range (p + 1), mentry (corrmtx x p .autocorrelation) i j * α j
      = ∑ j ∈ range (p + 1), (star (mentry (corrmtx x p .autocorrelation) i b)
          * mentry (corrmtx x p .autocorrelation) i j) * α j := by
    intro i _
    rw [Finset.mul_sum]
    apply Finset.sum_congr rfl
    intro j _
    rw [mul_assoc]
  rw [Finset.sum_congr rfl h1, Finset.sum_comm, Finset.mul_sum]
  apply Finset.sum_congr rfl
  intro j hj
  rw [← Finset.sum_mul, gram_autocorrelation x p rms2 hN b j hb (Nat.lt_succ_iff.mp (mem_range.mp hj)),
    mul_assoc]

/-- the list form `hermToep` (`Lemmas/Correlation.lean`) and the function form `hR`
(`Lemmas/Levinson.lean`) of the Hermitian Toeplitz entry -/
theorem hermToep_eq_hR (R : List K) : hermToep R = hR (nth R) := rfl

theorem aryule_toeplitz_rows (x : List K) (p : ℕ) (h2 : (2 : K) ≠ 0)
    (hP : (aryule x p .biased).P ≠ 0) (b : ℕ) (hb : b ≤ p) :
    ∑ j ∈ range (p + 1), hermToep (correlation x x p .biased 1) b j
        * alphaOf (aryule x p .biased).A j
      = if b = 0 then (aryule x p .biased).P else 0 := by
  rw [aryule_eq_levRun x p h2] at hP ⊢
  have h := levRun_LevEq _ _ (biased_r0_eq_meanPow x p 1).2 p
    (fun j hj => levRun_P_ne_zero _ _ p hP j (by omega))
  rw [rseq_nth_tail] at h
  rw [hermToep_eq_hR]
  exact h b hb

/-- normal equations of least squares on the 'autocorrelation' data matrix, all rows `b ≤ p`:
`Σ_i conj(X_ib)·(X_i0 + Σ_j X_{i,j+1} a_j) = N·P` for `b = 0` and `0` for `1 ≤ b ≤ p` -/
theorem aryule_normal_rows (x : List K) (p : ℕ) (h2 : (2 : K) ≠ 0) (hN : (x.length : K) ≠ 0)
    (hP : (aryule x p .biased).P ≠ 0) (b : ℕ) (hb : b ≤ p) :
    ∑ i ∈ range (x.length + p), star (mentry (corrmtx x p .autocorrelation) i b)
        * (mentry (corrmtx x p .autocorrelation) i 0
            + ∑ j ∈ range p, mentry (corrmtx x p .autocorrelation) i (j + 1)
                * nth (aryule x p .biased).A j)
      = if b = 0 then (x.length : K) * (aryule x p .biased).P else 0 := by
  have h1 : ∀ i ∈ range (x.length + p), star (mentry (corrmtx x p .autocorrelation) i b)
        * (mentry (corrmtx x p .autocorrelation) i 0
            + ∑ j ∈ range p, mentry (corrmtx x p .autocorrelation) i (j + 1)
                * nth (aryule x p .biased).A j)
      = star (mentry (corrmtx x p .autocorrelation) i b)
        * ∑ j ∈ range (p + 1), mentry (corrmtx x p .autocorrelation) i j
            * alphaOf (aryule x p .biased).A j := by
    intro i _
    -- `α = [1, a]`: the residual of row `i` is `Σ_{j≤p} X_{i,j} α_j`
    rw [Finset.sum_range_succ' _ p, alphaOf_zero, mul_one, add_comm]
    rfl
  rw [Finset.sum_congr rfl h1, gram_apply x p 1 hN _ b hb, aryule_toeplitz_rows x p h2 hP b hb]
  by_cases h : b = 0
  · rw [if_pos h, if_pos h]
  · rw [if_neg h, if_neg h, mul_zero]

theorem aryule_normalEq (x : List K) (p : ℕ) (h2 : (2 : K) ≠ 0) (hN : (x.length : K) ≠ 0)
    (hP : (aryule x p .biased).P ≠ 0) :
    NormalEq (fun i => mentry (corrmtx x p .autocorrelation) i 0)
      (fun i j => mentry (corrmtx x p .autocorrelation) i (j + 1)) (x.length + p) p
      (nth (aryule x p .biased).A) := by
  intro b hb
  have h := aryule_normal_rows x p h2 hN hP (b + 1) hb
  rwa [if_neg (Nat.succ_ne_zero b)] at h

/-- the residual energy is `N·P`: the residual is orthogonal to the regressors (`LSL.cross_zero`), and
`X₁ᴴ e = N·P` -/
theorem aryule_resid_energy (x : List K) (p : ℕ) (h2 : (2 : K) ≠ 0) (hN : (x.length : K) ≠ 0)
    (hP : (aryule x p .biased).P ≠ 0) :
    ∑ i ∈ range (x.length + p),
        star (mentry (corrmtx x p .autocorrelation) i 0
            + ∑ j ∈ range p, mentry (corrmtx x p .autocorrelation) i (j + 1)
                * nth (aryule x p .biased).A j)
        * (mentry (corrmtx x p .autocorrelation) i 0
            + ∑ j ∈ range p, mentry (corrmtx x p .autocorrelation) i (j + 1)
                * nth (aryule x p .biased).A j)
      = (x.length : K) * (aryule x p .biased).P := by
  have h0 := aryule_normal_rows x p h2 hN hP 0 (Nat.zero_le _)
  have hc := cross_zero (aryule_normalEq x p h2 hN hP) (nth (aryule x p .biased).A)
  rw [if_pos rfl] at h0
  simp only [star_add, add_mul]
  rw [Finset.sum_add_distrib, ← h0]
  exact add_eq_left.mpr hc

end Generic

section RC
variable {F : Type} [RCLike F]

theorem length_cast_ne_zero (x : List F) (hx : ∃ j, j < x.length ∧ nth x j ≠ 0) :
    ((x.length : ℕ) : F) ≠ 0 :=
  Nat.cast_ne_zero.mpr (length_pos_of_nonzero x hx).ne'

/-- `vᴴ T v = ‖X v‖² / N` as an element of `F` (the `RCLike` form of `C09.toeplitz_psd`) -/
theorem quad_form_eq_rc (x : List F) (hN : 0 < x.length) (m : ℕ) (rms2 : F) (v : ℕ → F) :
    sesq (m + 1) (hermToep (correlation x x m .biased rms2)) v v
      = (((∑ i ∈ range (x.length + m),
            ‖∑ b ∈ range (m + 1), mentry (corrmtx x m .autocorrelation) i b * v b‖ ^ 2)
          / (x.length : ℝ) : ℝ) : F) := by
  have hNC : ((x.length : ℕ) : F) ≠ 0 := by
    exact_mod_cast hN.ne'
  have h := toeplitz_quadratic_form x m rms2 hNC v
  rw [sum_star_mul_self_eq] at h
  rw [sesq_eq_sum, RCLike.ofReal_div, RCLike.ofReal_natCast, ← h, mul_div_cancel_left₀ _ hNC]

theorem toeplitz_pd_rc (x : List F) (hx : ∃ j, j < x.length ∧ nth x j ≠ 0) (m : ℕ) (rms2 : F) :
    PosDef (m + 1) (hermToep (correlation x x m .biased rms2)) := by
  intro v ⟨b, hb, hvb⟩
  have hN := length_pos_of_nonzero x hx
  rw [quad_form_eq_rc x hN m rms2 v, RCLike.ofReal_re]
  refine div_pos (sum_norm_sq_pos ?_) (by exact_mod_cast hN)
  by_contra hcon
  exact hvb (corrmtx_injective x m hx v (fun i hi => not_not.mp (fun h => hcon ⟨i, hi, h⟩)) b
    (Nat.lt_succ_iff.mp hb))

theorem yule_stable_params (x : List F) (hx : ∃ j, j < x.length ∧ nth x j ≠ 0) (p : ℕ) :
    star (aryule x p .biased).P = (aryule x p .biased).P
    ∧ 0 < RCLike.re (aryule x p .biased).P
    ∧ ∀ i, i < p → ‖nth (aryule x p .biased).ref i‖ < 1 := by
  rw [aryule_eq_levRun x p two_ne_zero]
  have hpd : ToepPD (rseq (nth (correlation x x p .biased (1 : F)) 0)
      (correlation x x p .biased 1).tail) p := by
    have h := toeplitz_pd_rc x hx p 1
    rwa [hermToep_eq_hR, ← rseq_nth_tail] at h
  obtain ⟨hP, hk⟩ := levRun_pd _ _ (biased_r0_eq_meanPow x p (1 : F)).2 p hpd
  exact ⟨(hP p le_rfl).1, (hP p le_rfl).2, hk⟩

theorem aryule_P_ne_zero (x : List F) (hx : ∃ j, j < x.length ∧ nth x j ≠ 0) (p : ℕ) :
    (aryule x p .biased).P ≠ 0 := by
  intro h
  have := (yule_stable_params x hx p).2.1
  rw [h] at this
  simp at this

theorem yule_last_coeff_lt_one (x : List F) (hx : ∃ j, j < x.length ∧ nth x j ≠ 0) (p : ℕ) :
    ‖nth (aryule x (p + 1) .biased).A p‖ < 1 := by
  have h := (yule_stable_params x hx (p + 1)).2.2 p (by omega)
  rw [aryule_unfold] at h ⊢
  rwa [levRun_A_last, ← nth_levRun_ref _ _ (p + 1) p (by omega)]

theorem yule_stable (x : List F) (hx : ∃ j, j < x.length ∧ nth x j ≠ 0) (p : ℕ) (z : F)
    (hz : z ^ p + ∑ j ∈ range p, nth (aryule x p .biased).A j * z ^ (p - 1 - j) = 0) :
    ‖z‖ < 1 := by
  have hk := (yule_stable_params x hx p).2.2
  rw [aryule_unfold] at hk hz
  exact SchurL.levRun_root_lt_one _ _ p hk z hz

theorem yule_no_unit_zeros (x : List F) (hx : ∃ j, j < x.length ∧ nth x j ≠ 0) (p : ℕ) (w : F)
    (hw : ‖w‖ ≤ 1) : 1 + ∑ j ∈ range p, nth (aryule x p .biased).A j * w ^ (j + 1) ≠ 0 := by
  have hk := (yule_stable_params x hx p).2.2
  rw [aryule_unfold] at hk ⊢
  exact SchurL.levRun_rev_ne_zero _ _ p hk w hw

theorem ls_pythagoras (R C : ℕ) (X : ℕ → ℕ → F) (a a' : ℕ → F)
    (ha : ∀ b, 1 ≤ b → b ≤ C →
      ∑ i ∈ range R, star (X i b) * (X i 0 + ∑ j ∈ range C, X i (j + 1) * a j) = 0) :
    ∑ i ∈ range R, ‖X i 0 + ∑ j ∈ range C, X i (j + 1) * a' j‖ ^ 2
      = ∑ i ∈ range R, ‖X i 0 + ∑ j ∈ range C, X i (j + 1) * a j‖ ^ 2
        + ∑ i ∈ range R, ‖∑ j ∈ range C, X i (j + 1) * (a' j - a j)‖ ^ 2 :=
  pythagorasR (X1 := fun i => X i 0) (Xc := fun i j => X i (j + 1))
    (fun b hb => ha (b + 1) (Nat.le_add_left 1 b) hb) a'

/-- if `X` (rows `i < R`, columns `j ≤ C`) has trivial kernel, two solutions of the normal equations
`X_cᴴ (X_0 + X_c a) = 0` agree: the regressor block `X_c` has full column rank, so its Gram matrix is
nonsingular (`LSL.gramInj_of_colInj`, `LSL.normalEq_unique`) -/
theorem normal_eq_unique (R C : ℕ) (X : ℕ → ℕ → F)
    (hinj : ∀ v : ℕ → F, (∀ i, i < R → ∑ j ∈ range (C + 1), X i j * v j = 0) →
      ∀ j, j ≤ C → v j = 0)
    (a a' : ℕ → F)
    (ha : ∀ b, 1 ≤ b → b ≤ C →
      ∑ i ∈ range R, star (X i b) * (X i 0 + ∑ j ∈ range C, X i (j + 1) * a j) = 0)
    (ha' : ∀ b, 1 ≤ b → b ≤ C →
      ∑ i ∈ range R, star (X i b) * (X i 0 + ∑ j ∈ range C, X i (j + 1) * a' j) = 0) :
    ∀ j, j < C → a j = a' j := by
  have hC : ShiftLSL.ColInj (fun i j => X i (j + 1)) R C := by
    intro d hd j hj
    -- `d`, padded with a leading zero, lies in the kernel of `X`
    have hw := hinj (fun j => if j = 0 then 0 else d (j - 1)) (fun i hi => by
      rw [Finset.sum_range_succ', if_pos rfl, mul_zero, add_zero]
      exact hd i hi) (j + 1) hj
    rwa [if_neg (Nat.succ_ne_zero j), Nat.add_sub_cancel] at hw
  exact normalEq_unique (X1 := fun i => X i 0) (gramInj_of_colInj hC)
    (fun b hb => ha' (b + 1) (Nat.le_add_left 1 b) hb)
    (fun b hb => ha (b + 1) (Nat.le_add_left 1 b) hb)

end RC

end SpecVerif.YuleL
