import SpecVerif.Model.Object
/-
  The state machine of `Model/Object.lean`: `ObjInv` (the axis follows NFFT/sampling; a state not marked `modified` stores the
  estimate of its CURRENT attributes in its CURRENT `sides`) and `SideOk` (a current PSD of complex data is never one-sided).
  `objStep_setSides` is the `sides` setter in closed form; `step_cases` is the single case analysis of `objStep` through which
  `ObjInv`, `SideOk` and `ObjInvF` are shown to survive a step.
-/
namespace SpecVerif.ObjL
open SpecVerif

/-- The reachable-state invariant: the `Range` axis follows `NFFT`/`sampling`, and an object that is not
marked `modified` stores the estimate of its *current* attributes in its *current* `sides`. -/
def ObjInv (s : ObjState) : Prop :=
  s.rangeN = s.a.nfft ∧ s.rangeSamp = s.a.samp ∧
  (s.modified = false → ∀ snap sd, s.cache = some (snap, sd) → snap = s.a ∧ sd = s.sides)

/-- the `tgt` that `objStep s (.setSides arg)` computes inline (`dflt` ↦ `defaultSide cplx`) -/
def argSide (arg : SideArg) (cplx : Bool) : Side :=
  match arg with
  | .one => .one | .two => .two | .center => .center | .dflt => defaultSide cplx

def sideArg : Side → SideArg
  | .one => .one | .two => .two | .center => .center

theorem argSide_sideArg (sd : Side) (c : Bool) : argSide (sideArg sd) c = sd := by
  cases sd <;> rfl

theorem objState_eta (s : ObjState) :
    ({ a := s.a, sides := s.sides, cache := s.cache, modified := s.modified, rangeN := s.rangeN,
       rangeSamp := s.rangeSamp, parametric := s.parametric } : ObjState) = s := by
  cases s; rfl

theorem attrs_eta (a : Attrs) :
    ({ dataId := a.dataId, cplx := a.cplx, N := a.N, nfft := a.nfft, samp := a.samp, detrend := a.detrend,
       scale := a.scale, window := a.window, lag := a.lag, arOrder := a.arOrder, maOrder := a.maOrder } : Attrs)
      = a := by
  cases a; rfl

/-- `setSides` in closed form: the target side is `argSide arg s.a.cplx`; over a stored PSD the estimate is first brought up
to date (`s1`), which fixes the snapshot that stays stored. -/
theorem objStep_setSides (s : ObjState) (arg : SideArg) :
    objStep s (.setSides arg) =
      match s.cache with
      | none => ({ s with sides := argSide arg s.a.cplx, modified := false }, false)
      | some (snap, _) =>
        let s1 := if s.modified then recompute s else s
        if s1.sides ≠ argSide arg s.a.cplx ∧ s.a.cplx = true ∧ argSide arg s.a.cplx = .one then (s1, true)
        else ({ s1 with cache := some (if s.modified then s.a else snap, argSide arg s.a.cplx),
                        sides := argSide arg s.a.cplx, modified := false }, false) := by
  rcases s with ⟨a, sides, cache, modified, rn, rs, par⟩
  rcases cache with _ | ⟨snap, sd⟩
  · cases arg <;> rfl
  · cases modified <;> cases arg <;> rfl

/-- the operations that call the estimator (`self()`) in state `s`: an explicit call, a read of `psd` when nothing is stored
or the stored PSD is not current, and a `sides` assignment over a stored PSD that is not current -/
def recomputes (s : ObjState) : ObjOp → Bool
  | .call => true
  | .read => s.cache.isNone || s.modified
  | .setSides _ => s.cache.isSome && s.modified
  | _ => false

/-- The shapes of a step.  The state is left as it is (a guarded setter given the present value, a read of a current PSD, a
rejected `sides`); or it is marked `modified` and has its axis rebuilt from the new attributes (every other setter); or the
estimate is recomputed; or `sides` is recorded while nothing is stored; or `sides` is assigned to a state `s1` whose stored
PSD is current (`s` itself, or `s` recomputed).  A property of states survives every step as soon as it survives these. -/
theorem step_cases {P : ObjState → Prop} (s : ObjState) (op : ObjOp) (hsame : P s)
    (hmod : ∀ s' : ObjState, s'.modified = true →
      (s.rangeN = s.a.nfft → s'.rangeN = s'.a.nfft) → (s.rangeSamp = s.a.samp → s'.rangeSamp = s'.a.samp) → P s')
    (hrec : recomputes s op = true → P (recompute s))
    (hnone : ∀ tgt, s.cache = none → P { s with sides := tgt, modified := false })
    (hassign : ∀ (s1 : ObjState) (snap : Attrs) (sd tgt : Side), P s1 → s1.modified = false →
      s1.cache = some (snap, sd) → ¬(s1.sides ≠ tgt ∧ s1.a.cplx = true ∧ tgt = .one) →
      P { s1 with cache := some (snap, tgt), sides := tgt, modified := false }) :
    P (objStep s op).1 := by
  have hnfft : ∀ n, P (applyNfft s n) := by
    intro n
    unfold applyNfft
    split
    · exact hsame
    · exact hmod _ rfl (fun _ => rfl) id
  cases op with
  | setSides arg =>
    rw [objStep_setSides]
    rcases s with ⟨a, sides, cache, modified, rn, rs, par⟩
    rcases cache with _ | ⟨snap, sd⟩
    · exact hnone _ rfl
    · cases modified
      · simp only [Bool.false_eq_true, if_false]
        split
        · exact hsame
        · exact hassign _ snap sd _ hsame rfl rfl ‹_›
      · have hr := hrec rfl
        simp only [if_true]
        split
        · exact hr
        · exact hassign _ a _ _ hr rfl rfl ‹_›
  | call => exact hrec rfl
  | read =>
    simp only [objStep]
    split
    · exact hrec ‹_›
    · exact hsame
  | setNfft n => exact hnfft n
  | setNfftNone => exact hnfft _
  | setNfftPow2 => exact hnfft _
  | setData d c n => exact hmod _ rfl id id
  | setArOrder o => exact hmod _ rfl id id
  | setMaOrder o => exact hmod _ rfl id id
  | setSamp x =>
    simp only [objStep]
    split
    · exact hsame
    · exact hmod _ rfl id (fun _ => rfl)
  | _ =>
    simp only [objStep]
    split
    · exact hsame
    · exact hmod _ rfl id id

theorem step_inv (s : ObjState) (op : ObjOp) (h : ObjInv s) : ObjInv (objStep s op).1 := by
  refine step_cases s op h ?_ (fun _ => ⟨h.1, h.2.1, fun _ snap sd hc => by cases hc; exact ⟨rfl, rfl⟩⟩) ?_ ?_
  · intro s' hm hN hS
    exact ⟨hN h.1, hS h.2.1, fun hf => nomatch hm.symm.trans hf⟩
  · intro tgt hc
    exact ⟨h.1, h.2.1, fun _ snap sd hc' => nomatch hc.symm.trans hc'⟩
  · intro s1 snap sd tgt h1 hm hc _
    refine ⟨h1.1, h1.2.1, fun _ snap' sd' hc' => ?_⟩
    cases hc'
    exact ⟨(h1.2.2 hm snap sd hc).1, rfl⟩

theorem run_inv (s : ObjState) (ops : List ObjOp) (h : ObjInv s) : ObjInv (objRun s ops) := by
  induction ops generalizing s with
  | nil => exact h
  | cons o os ih => exact ih _ (step_inv s o h)

theorem init_inv (a : Attrs) (par : Bool) : ObjInv (objInit a par) := by
  simp [ObjInv, objInit]

theorem objRun_cons (s : ObjState) (op : ObjOp) (ops : List ObjOp) :
    objRun s (op :: ops) = objRun (objStep s op).1 ops := rfl

theorem objRun_nil (s : ObjState) : objRun s [] = s := rfl

theorem objRun_append (s : ObjState) (l₁ l₂ : List ObjOp) :
    objRun s (l₁ ++ l₂) = objRun (objRun s l₁) l₂ := by
  simp [objRun, List.foldl_append]

theorem read_state (s : ObjState) (h : ObjInv s) :
    (objStep s .read).1 =
      { s with cache := some (s.a, (objStep s .read).1.sides), sides := (objStep s .read).1.sides,
               modified := false } := by
  rcases s with ⟨a, sides, cache, modified, rn, rs, par⟩
  rcases cache with _ | ⟨snap, sd⟩
  · rfl
  · cases modified
    · -- a current stored PSD is left alone; the invariant pins the stored pair to `(a, sides)`
      obtain ⟨rfl, rfl⟩ := h.2.2 rfl snap sd rfl
      rfl
    · rfl

/-- An up-to-date stored PSD of complex data is never in the one-sided representation. -/
def SideOk (s : ObjState) : Prop :=
  s.modified = false → s.cache.isSome = true → ¬(s.a.cplx = true ∧ s.sides = .one)

theorem init_sideOk (a : Attrs) (par : Bool) : SideOk (objInit a par) := by
  simp [SideOk, objInit]

theorem recompute_sideOk (s : ObjState) : SideOk (recompute s) := by
  intro _ _ h
  -- complex data is stored two-sided by default
  have hs : defaultSide s.a.cplx = .one := h.2
  rw [show s.a.cplx = true from h.1] at hs
  exact absurd hs (by decide)

theorem step_sideOk (s : ObjState) (op : ObjOp) (h : SideOk s) : SideOk (objStep s op).1 := by
  refine step_cases s op h ?_ (fun _ => recompute_sideOk s) ?_ ?_
  · intro s' hm _ _ hf
    exact nomatch hm.symm.trans hf
  · intro tgt hc _ hs
    rw [hc] at hs
    cases hs
  · intro s1 snap sd tgt h1 hm hc hadm _ _ hbad
    -- an admitted assignment of `.one` to complex data means the current side was `.one` already
    exact hadm ⟨fun he => h1 hm (by rw [hc]; rfl) ⟨hbad.1, he.trans hbad.2⟩, hbad⟩

theorem run_sideOk (s : ObjState) (ops : List ObjOp) (h : SideOk s) : SideOk (objRun s ops) := by
  induction ops generalizing s with
  | nil => exact h
  | cons o os ih => exact ih _ (step_sideOk s o h)

theorem setSides_attrs (s : ObjState) (arg : SideArg) : (objStep s (.setSides arg)).1.a = s.a := by
  rw [objStep_setSides]
  rcases s with ⟨a, sides, cache, modified, rn, rs, par⟩
  rcases cache with _ | ⟨snap, sd⟩
  · rfl
  · -- raising or not, the result carries the attributes of `s1`, which is `s` or `recompute s`
    cases modified
    · simp only [Bool.false_eq_true, if_false]
      split
      · rfl
      · rfl
    · simp only [if_true]
      split
      · rfl
      · rfl

theorem read_cache (s : ObjState) (h : ObjInv s) :
    (objStep s .read).1.cache = some (s.a, (objStep s .read).1.sides) := by
  rw [read_state s h]

theorem read_of_modified (s : ObjState) (hm : s.modified = true) :
    (objStep s .read).1 = recompute s := by
  simp [objStep, hm]

/-- invariant of `nextPow2.go n fuel (2^k)`: the result is `2^j`, `j ≥ k`, no `2^i` with `k ≤ i < j` reaches `n`, and
`n ≤ 2^j` if the fuel suffices -/
theorem nextPow2_go_spec (n : Nat) : ∀ (fuel k : Nat), ∃ j, nextPow2.go n fuel (2 ^ k) = 2 ^ j ∧ k ≤ j ∧
    (∀ i, k ≤ i → i < j → 2 ^ i < n) ∧ (n ≤ 2 ^ (k + fuel) → n ≤ 2 ^ j) := by
  intro fuel
  induction fuel with
  | zero => intro k; exact ⟨k, rfl, Nat.le_refl _, fun i h1 h2 => absurd h1 (Nat.not_le.mpr h2), id⟩
  | succ f ih =>
    intro k
    simp only [nextPow2.go]
    split
    · exact ⟨k, rfl, Nat.le_refl _, fun i h1 h2 => absurd h1 (Nat.not_le.mpr h2), fun _ => ‹_›⟩
    · rename_i hlt
      obtain ⟨j, hj, hkj, hmin, hge⟩ := ih (k + 1)
      rw [Nat.pow_succ, Nat.mul_comm] at hj
      rw [Nat.add_right_comm] at hge
      refine ⟨j, hj, by omega, ?_, hge⟩
      intro i h1 h2
      by_cases hik : i = k
      · subst hik; omega
      · exact hmin i (by omega) h2

end SpecVerif.ObjL
