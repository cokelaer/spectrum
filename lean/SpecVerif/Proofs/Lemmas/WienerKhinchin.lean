import SpecVerif.Proofs.Lemmas.DFT
import SpecVerif.Proofs.Lemmas.Correlation
import SpecVerif.Proofs.Lemmas.Periodogram
import Mathlib.Tactic.Abel
/-
  Wiener–Khinchin lemmas: a square summed by diagonals, the function-level identity
  `|Σ x_a z^a|² = r_0 + Σ_{m≥1} (r_m z^m + star r_m z^{-m})` on the unit circle, the DFT of the lag
  sequence `correlogramSeq` when its two halves do not overlap, and the resulting closed form of a
  bin of the model's `correlogram`.
-/
namespace SpecVerif
open Finset

section Diag
variable {M : Type} [AddCommMonoid M]

/-- strict lower triangle summed by diagonals: `a = n + m`, `b = n`, `m ≥ 1`. -/
theorem sum_lower_by_diag (N : ℕ) (g : ℕ → ℕ → M) :
    ∑ a ∈ range N, ∑ b ∈ range a, g a b
      = ∑ m ∈ Ico 1 N, ∑ n ∈ range (N - m), g (n + m) n := by
  induction N with
  | zero => simp
  | succ N ih =>
    rw [Finset.sum_range_succ, ih]
    -- right side: for every `m` split off the last term `n = N - m` of the inner sum
    have h1 : ∑ m ∈ Ico 1 (N + 1), ∑ n ∈ range (N + 1 - m), g (n + m) n
        = ∑ m ∈ Ico 1 (N + 1), ((∑ n ∈ range (N - m), g (n + m) n) + g N (N - m)) := by
      apply Finset.sum_congr rfl
      intro m hm
      have hm' : m ≤ N := Nat.lt_succ_iff.mp (Finset.mem_Ico.mp hm).2
      rw [Nat.succ_sub hm', Finset.sum_range_succ, Nat.sub_add_cancel hm']
    rw [h1, Finset.sum_add_distrib]
    congr 1
    · -- the extra m = N term has empty inner range
      rcases Nat.eq_zero_or_pos N with h0 | hpos
      · subst h0; simp
      · rw [Finset.sum_Ico_succ_top hpos, Nat.sub_self, Finset.sum_range_zero, add_zero]
    · -- Σ_{b<N} g N b = Σ_{m=1}^{N} g N (N-m)
      rw [Finset.sum_Ico_eq_sum_range]
      simp only [Nat.add_sub_cancel]
      rw [← Finset.sum_range_reflect]
      apply Finset.sum_congr rfl
      intro j hj
      have := Finset.mem_range.mp hj
      congr 1; omega

/-- full square = diagonal + lower + upper, both by diagonals. -/
theorem sum_square_by_diag (N : ℕ) (g : ℕ → ℕ → M) :
    ∑ a ∈ range N, ∑ b ∈ range N, g a b
      = (∑ a ∈ range N, g a a)
        + ∑ m ∈ Ico 1 N, ∑ n ∈ range (N - m), (g (n + m) n + g n (n + m)) := by
  have split : ∀ a ∈ range N, ∑ b ∈ range N, g a b
      = g a a + ∑ b ∈ range a, g a b + ∑ b ∈ Ico (a + 1) N, g a b := by
    intro a ha
    have ha' : a + 1 ≤ N := Finset.mem_range.mp ha
    rw [Finset.range_eq_Ico, ← Finset.sum_Ico_consecutive _ (Nat.zero_le a) (Nat.le_of_succ_le ha'),
      ← Finset.sum_Ico_consecutive _ (Nat.le_succ a) ha']
    simp only [Nat.Ico_succ_singleton, Finset.sum_singleton, ← Finset.range_eq_Ico]
    abel
  rw [Finset.sum_congr rfl split]
  simp only [Finset.sum_add_distrib]
  rw [sum_lower_by_diag N g]
  -- upper triangle: swap order of summation then use the lower lemma on gᵀ
  have upper : ∑ a ∈ range N, ∑ b ∈ Ico (a + 1) N, g a b = ∑ b ∈ range N, ∑ a ∈ range b, g a b :=
    Finset.sum_comm' (s := range N) (t := fun a => Ico (a + 1) N) (t' := range N)
      (s' := fun b => range b) (f := fun a b => g a b)
      (by intro a b; simp only [Finset.mem_Ico, Finset.mem_range]; omega)
  rw [upper, sum_lower_by_diag N (fun a b => g b a)]
  abel

end Diag

/-- `Σ_a Σ_b z^a·M_{ab}·z^{-b}` by diagonals: the `m`-th lower diagonal carries `z^m`, the `m`-th upper
diagonal `z^{-m}` -/
theorem sum_pow_mul_inv_pow_by_diag {K : Type} [Field K] (N : ℕ) (M : ℕ → ℕ → K) {z : K}
    (hz : z ≠ 0) :
    ∑ a ∈ range N, ∑ b ∈ range N, z ^ a * M a b * z⁻¹ ^ b
      = (∑ a ∈ range N, M a a)
        + ∑ m ∈ Ico 1 N, ((∑ n ∈ range (N - m), M (n + m) n) * z ^ m
            + (∑ n ∈ range (N - m), M n (n + m)) * z⁻¹ ^ m) := by
  have hc : ∀ n, z ^ n * z⁻¹ ^ n = 1 := fun n => by rw [← mul_pow, mul_inv_cancel₀ hz, one_pow]
  rw [sum_square_by_diag N (fun a b => z ^ a * M a b * z⁻¹ ^ b)]
  refine congrArg₂ (· + ·) (Finset.sum_congr rfl fun a _ => ?_) (Finset.sum_congr rfl fun m _ => ?_)
  · rw [mul_right_comm, hc, one_mul]
  · rw [Finset.sum_mul, Finset.sum_mul, ← Finset.sum_add_distrib]
    apply Finset.sum_congr rfl
    intro n _
    rw [pow_add z, pow_add z⁻¹]
    calc z ^ n * z ^ m * M (n + m) n * z⁻¹ ^ n + z ^ n * M n (n + m) * (z⁻¹ ^ n * z⁻¹ ^ m)
        = (M (n + m) n * z ^ m + M n (n + m) * z⁻¹ ^ m) * (z ^ n * z⁻¹ ^ n) := by ring
      _ = M (n + m) n * z ^ m + M n (n + m) * z⁻¹ ^ m := by rw [hc, mul_one]

section WK
variable {K : Type} [Field K] [StarRing K]

/-- `corrRaw x x N m` of the model for a sequence given as a function (`nth_correlation_biased_self`
is the bridge) -/
def rawCorr (N : ℕ) (x : ℕ → K) (m : ℕ) : K := ∑ n ∈ range (N - m), x (n + m) * star (x n)

/-- Wiener–Khinchin at one frequency `z` on the unit circle (`star z = z⁻¹`). -/
theorem wiener_khinchin (N : ℕ) (x : ℕ → K) (z : K) (hz : z ≠ 0) (hstar : star z = z⁻¹) :
    (∑ a ∈ range N, x a * z ^ a) * star (∑ a ∈ range N, x a * z ^ a)
      = rawCorr N x 0
        + ∑ m ∈ Ico 1 N, (rawCorr N x m * z ^ m + star (rawCorr N x m) * z⁻¹ ^ m) := by
  have h := sum_pow_mul_inv_pow_by_diag N (fun a b => x a * star (x b)) hz
  have e : ∀ a b, x a * z ^ a * (star (x b) * z⁻¹ ^ b) = z ^ a * (x a * star (x b)) * z⁻¹ ^ b :=
    fun a b => by ring
  rw [star_sum, Finset.sum_mul_sum]
  simp only [star_mul', star_pow, hstar, e]
  -- the `m`-th upper diagonal sum is the conjugate of the `m`-th lower one
  have hup : ∀ m, star (∑ n ∈ range (N - m), x (n + m) * star (x n))
      = ∑ n ∈ range (N - m), x n * star (x (n + m)) := by
    intro m
    rw [star_sum]
    exact Finset.sum_congr rfl (fun n _ => by rw [star_mul', star_star, mul_comm])
  rw [h]
  unfold rawCorr
  simp only [Nat.sub_zero, Nat.add_zero, hup]

theorem wiener_khinchin_root {ω : K} (hω0 : ω ≠ 0) (hstar : star ω = ω⁻¹) (N : ℕ) (x : ℕ → K)
    (k : ℕ) :
    (∑ j ∈ range N, x j * ω ^ (j * k)) * star (∑ j ∈ range N, x j * ω ^ (j * k))
      = rawCorr N x 0
        + ∑ m ∈ Ico 1 N, (rawCorr N x m * ω ^ (m * k) + star (rawCorr N x m) * ω⁻¹ ^ (m * k)) := by
  have h := wiener_khinchin N x (ω ^ k) (pow_ne_zero _ hω0) (by rw [star_pow, hstar, inv_pow])
  simp only [pow_mul', inv_pow] at h ⊢
  exact h

theorem dftBin_correlogramSeq {ω : K} {nfft L : ℕ} (hL : 2 * L + 1 ≤ nfft) (hω : ω ^ nfft = 1)
    (rxy ryx w : List K) (k : ℕ) :
    dftBin (twiddles ω nfft) nfft (correlogramSeq rxy ryx w L nfft) k
      = nth rxy 0 + ∑ m ∈ Ico 1 (L + 1),
          (nth rxy m * nth w (m - 1) * ω ^ (m * k)
            + star (nth ryx m) * nth w (m - 1) * ω⁻¹ ^ (m * k)) := by
  rw [dftBin_eq_full (Nat.lt_of_lt_of_le (Nat.succ_pos _) hL) hω,
    sum_two_sided hω hL _ (fun i h1 h2 => nth_correlogramSeq_mid rxy ryx w h1 h2),
    nth_correlogramSeq_zero hL]
  refine congrArg (_ + ·) (Finset.sum_congr rfl ?_)
  intro m hm
  have hm' := Finset.mem_Ico.mp hm
  rw [nth_correlogramSeq_pos hL rxy ryx w hm'.1 (Nat.lt_succ_iff.mp hm'.2),
    nth_correlogramSeq_neg hL rxy ryx w hm'.1 (Nat.lt_succ_iff.mp hm'.2)]

theorem nth_correlation_biased_self (x : List K) (L : ℕ) (rms2 : K) {m : ℕ} (hm : m ≤ L) :
    nth (correlation x x L .biased rms2) m = rawCorr x.length (nth x) m / (x.length : K) := by
  rw [nth_correlation_biased x x L rms2 hm, Nat.max_self, corrRaw_eq]
  unfold rawCorr
  rfl

/-- **closed form of a correlogram bin**: rectangular lag window, `lag = N-1`, biased normalisation and
`2N-1 ≤ NFFT` (no wrap-around) give `|Σ_j x_j ω^{jk}|²/N` in every bin. -/
theorem correlogram_bin_eq {ω : K} {nfft : ℕ} (x w : List K) (rms2 : K) (hN : 1 ≤ x.length)
    (hnfft : 2 * x.length - 1 ≤ nfft) (hω : ω ^ nfft = 1) (hstar : star ω = ω⁻¹)
    (hw : ∀ i, i < x.length - 1 → nth w i = 1) (h2 : (2 : K) ≠ 0) (k : ℕ) (hk : k < nfft) :
    nth (correlogram (twiddles ω nfft) x x w (x.length - 1) nfft .biased rms2) k
      = (∑ j ∈ range x.length, nth x j * ω ^ (j * k))
          * star (∑ j ∈ range x.length, nth x j * ω ^ (j * k)) / (x.length : K) := by
  have hL : 2 * (x.length - 1) + 1 ≤ nfft := by omega
  have hω0 : ω ≠ 0 := ne_zero_of_pow_eq_one (Nat.lt_of_lt_of_le (Nat.succ_pos _) hL) hω
  -- the DFT of the lag sequence is the squared modulus: every lag is the raw lag sum over `N`
  have hbin : dftBin (twiddles ω nfft) nfft
      (correlogramSeq (correlation x x (x.length - 1) .biased rms2)
        (correlation x x (x.length - 1) .biased rms2) w (x.length - 1) nfft) k
      = (∑ j ∈ range x.length, nth x j * ω ^ (j * k))
          * star (∑ j ∈ range x.length, nth x j * ω ^ (j * k)) / (x.length : K) := by
    rw [dftBin_correlogramSeq hL hω, wiener_khinchin_root hω0 hstar,
      nth_correlation_biased_self x _ rms2 (Nat.zero_le _), Nat.sub_add_cancel hN, add_div,
      Finset.sum_div]
    refine congrArg (_ + ·) (Finset.sum_congr rfl ?_)
    intro m hm
    have hm' := Finset.mem_Ico.mp hm
    rw [nth_correlation_biased_self x _ rms2 (Nat.le_sub_one_of_lt hm'.2),
      hw (m - 1) (Nat.sub_lt_sub_right hm'.1 hm'.2), star_div₀, star_natCast, mul_one, mul_one,
      div_mul_eq_mul_div, div_mul_eq_mul_div, add_div]
  rw [correlogram_eq, nth_correlogramPsd _ _ _ _ _ _ hk, hbin]
  apply rePart_of_star_eq h2
  rw [star_div₀, star_natCast, star_mul', star_star, mul_comm]

end WK
end SpecVerif
