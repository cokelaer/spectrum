import SpecVerif.Proofs.Lemmas.Window
/-
  The Kaiser and Taylor windows of `Model/Window.lean` at `R := ℝ` (instance `instRealFnReal`).
  `besselI0` (the model's 60-step fold) is the 61-term partial sum `Σ_{k ≤ 60} q^k / (k!)²`, `q = x²/4`, hence `≥ 1`, even and
  monotone in `|x|`; that is all the Kaiser bounds use.  The Taylor window is the model's text with its inner `W` and `scale` named.
-/
namespace SpecVerif.KaiserL
open Finset SpecVerif SpecVerif.WinL

noncomputable def i0poly (q : ℝ) : ℝ := ∑ k ∈ range 61, q ^ k / ((k.factorial : ℝ)) ^ 2

/-- the step of the model's fold, on (partial sum, last term) -/
noncomputable def i0step (q : ℝ) (acc : ℝ × ℝ) (k : ℕ) : ℝ × ℝ :=
  (acc.1 + acc.2 * q / ((((k + 1) * (k + 1) : ℕ)) : ℝ), acc.2 * q / ((((k + 1) * (k + 1) : ℕ)) : ℝ))

theorem i0term_succ (q : ℝ) (n : ℕ) :
    q ^ n / ((n.factorial : ℝ)) ^ 2 * q / ((((n + 1) * (n + 1) : ℕ)) : ℝ)
      = q ^ (n + 1) / (((n + 1).factorial : ℝ)) ^ 2 := by
  have h1 : ((n.factorial : ℕ) : ℝ) ≠ 0 := by exact_mod_cast n.factorial_ne_zero
  have h2 : ((n : ℝ) + 1) ≠ 0 := Nat.cast_add_one_ne_zero n
  rw [Nat.factorial_succ]
  push_cast
  field_simp
  ring

theorem i0fold (q : ℝ) (n : ℕ) :
    (List.range n).foldl (i0step q) ((1 : ℝ), (1 : ℝ))
      = (∑ k ∈ range (n + 1), q ^ k / ((k.factorial : ℝ)) ^ 2, q ^ n / ((n.factorial : ℝ)) ^ 2) := by
  induction n with
  | zero => simp
  | succ n ih =>
    rw [List.range_succ, List.foldl_append, ih]
    simp only [List.foldl_cons, List.foldl_nil, i0step]
    rw [i0term_succ, Finset.sum_range_succ _ (n + 1)]

theorem besselI0_eq (x : ℝ) : besselI0 x = i0poly (x * x / 4) := by
  show ((List.range 60).foldl (i0step (x * x / ((4 : ℕ) : ℝ))) ((1 : ℝ), (1 : ℝ))).1 = _
  rw [i0fold]
  have e4 : (((4 : ℕ) : ℝ)) = 4 := by norm_num
  rw [e4]
  rfl

theorem mul_self_div_four_nonneg (x : ℝ) : 0 ≤ x * x / 4 :=
  div_nonneg (mul_self_nonneg x) (by norm_num)

theorem i0poly_ge_one (q : ℝ) (hq : 0 ≤ q) : 1 ≤ i0poly q := by
  unfold i0poly
  have h := Finset.single_le_sum (f := fun k => q ^ k / ((k.factorial : ℝ)) ^ 2)
    (fun k _ => by positivity) (Finset.mem_range.mpr (by norm_num : 0 < 61))
  simpa using h

theorem i0poly_mono (p q : ℝ) (hp : 0 ≤ p) (hpq : p ≤ q) : i0poly p ≤ i0poly q := by
  unfold i0poly
  refine Finset.sum_le_sum (fun k _ => ?_)
  have : p ^ k ≤ q ^ k := pow_le_pow_left₀ hp hpq k
  exact div_le_div_of_nonneg_right this (by positivity)

theorem i0poly_zero : i0poly 0 = 1 := by
  unfold i0poly
  rw [Finset.sum_eq_single 0]
  · simp
  · intro k _ hk
    rw [zero_pow hk, zero_div]
  · intro h
    exact absurd (Finset.mem_range.mpr (by norm_num : 0 < 61)) h

theorem besselI0_ge_one (x : ℝ) : 1 ≤ besselI0 x := by
  rw [besselI0_eq]
  exact i0poly_ge_one _ (mul_self_div_four_nonneg x)

theorem besselI0_pos (x : ℝ) : 0 < besselI0 x := lt_of_lt_of_le one_pos (besselI0_ge_one x)

theorem besselI0_zero : besselI0 (0 : ℝ) = 1 := by
  rw [besselI0_eq]
  simp [i0poly_zero]

theorem besselI0_neg (x : ℝ) : besselI0 (-x) = besselI0 x := by
  rw [besselI0_eq, besselI0_eq, neg_mul_neg]

theorem besselI0_abs (x : ℝ) : besselI0 |x| = besselI0 x := by
  rw [besselI0_eq, besselI0_eq, abs_mul_abs_self]

theorem besselI0_mono (x y : ℝ) (h : |x| ≤ |y|) : besselI0 x ≤ besselI0 y := by
  rw [besselI0_eq, besselI0_eq]
  apply i0poly_mono
  · exact mul_self_div_four_nonneg x
  · have := mul_self_le_mul_self (abs_nonneg x) h
    rw [abs_mul_abs_self, abs_mul_abs_self] at this
    linarith

/-- for `|u| ≤ 1` the radicand `1 − u²` is non-negative: the square root in the model is a genuine one -/
theorem radicand_nonneg (u : ℝ) (hu : |u| ≤ 1) : 0 ≤ 1 - u * u :=
  sub_nonneg.mpr (abs_le_one_iff_mul_self_le_one.mp hu)

theorem abs_mul_sqrt_le (beta r : ℝ) (h1 : r ≤ 1) : |beta * Real.sqrt r| ≤ |beta| := by
  rw [abs_mul, abs_of_nonneg (Real.sqrt_nonneg r)]
  have : Real.sqrt r ≤ 1 := by
    rw [← Real.sqrt_one]
    exact Real.sqrt_le_sqrt h1
  exact mul_le_of_le_one_right (abs_nonneg _) this

theorem kaiser_sample_le_one (beta u : ℝ) :
    besselI0 (beta * RealFn.sqrt (1 - u * u)) / besselI0 beta ≤ 1 := by
  rw [div_le_one (besselI0_pos beta), sqrt_real]
  exact besselI0_mono _ _ (abs_mul_sqrt_le beta _ (sub_le_self _ (mul_self_nonneg u)))

/-- the lower bound `1 / I₀(β)` is attained at the end points, where `u = ±1` (`C20.first_kaiser`) -/
theorem kaiser_sample_ge (beta y : ℝ) : 1 / besselI0 beta ≤ besselI0 y / besselI0 beta :=
  div_le_div_of_nonneg_right (besselI0_ge_one y) (besselI0_pos beta).le

/-- the model's inner function `W` of `wTaylor` (verbatim) -/
noncomputable def taylorW (N nbar : ℕ) (sll : ℝ) : ℝ → ℝ :=
  let B := RealFn.exp (RealFn.log ((10 : Nat) : ℝ) * (-sll / ((20 : Nat) : ℝ)))
  let A := RealFn.log (B + RealFn.sqrt (B * B - 1)) / RealFn.pi
  let nb : ℝ := (nbar : ℝ)
  let s2 := nb * nb / (A * A + (nb - dec 5 1) * (nb - dec 5 1))
  let ma : List Nat := (List.range (nbar - 1)).map (fun i => i + 1)
  let Fm := fun (m : Nat) =>
    let mm : ℝ := (m : ℝ)
    let numer := (if (m + 1) % 2 = 0 then (1 : ℝ) else -1) *
      ma.foldl (fun (acc : ℝ) (j : Nat) => acc * (1 - mm * mm / s2 / (A * A + ((j : ℝ) - dec 5 1) * ((j : ℝ) - dec 5 1)))) 1
    let denom := two * ma.foldl (fun (acc : ℝ) (j : Nat) => if j = m then acc else acc * (1 - mm * mm / ((j : ℝ) * (j : ℝ)))) 1
    numer / denom
  fun (x : ℝ) =>
    two * ma.foldl (fun (acc : ℝ) (m : Nat) => acc + Fm m * RealFn.cos (two * RealFn.pi * (m : ℝ) * (x - (N : ℝ) / two + dec 5 1) / (N : ℝ))) 0 + 1

/-- the model's normalising constant `scale = W((N-1)/2)` of `wTaylor` -/
noncomputable def taylorScale (N nbar : ℕ) (sll : ℝ) : ℝ := taylorW N nbar sll (((N - 1 : Nat) : ℝ) / two)

theorem wTaylor_eq (N nbar : ℕ) (sll : ℝ) :
    wTaylor N nbar sll = vec N (fun n => taylorW N nbar sll (n : ℝ) / taylorScale N nbar sll) := rfl

theorem taylor_cos_mirror (N n : ℕ) (hn : n < N) (m : ℕ) :
    RealFn.cos (two * RealFn.pi * (m : ℝ) * (((N - 1 - n : ℕ) : ℝ) - (N : ℝ) / two + dec 5 1) / (N : ℝ))
      = RealFn.cos (two * RealFn.pi * (m : ℝ) * ((n : ℝ) - (N : ℝ) / two + dec 5 1) / (N : ℝ)) := by
  rw [cos_real, cos_real, ← Real.cos_neg]
  congr 1
  have hc : ((N - 1 - n : ℕ) : ℝ) = (N : ℝ) - 1 - n := by
    rw [Nat.cast_sub (by omega), Nat.cast_sub (by omega), Nat.cast_one]
  rw [hc, two_real, dec_real]
  ring

/-- with `nbar = 1` there are no cosine terms: `W ≡ 1` -/
theorem taylorScale_nbar_one (N : ℕ) (sll : ℝ) : taylorScale N 1 sll = 1 := by
  show (two : ℝ) * 0 + 1 = 1
  rw [mul_zero, zero_add]

end SpecVerif.KaiserL
