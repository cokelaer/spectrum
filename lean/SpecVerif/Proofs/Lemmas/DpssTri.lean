import SpecVerif.Proofs.Lemmas.Dpss
import SpecVerif.Proofs.Lemmas.Sesq
import SpecVerif.Model.DpssTri
/-
  The symmetric tridiagonal matrix `T` that `multitap` (src/cpp/mydpss.c) hands to EISPACK and the sinc concentration
  kernel `K`.

    * `T K = K T` entry by entry (Slepian 1978): per entry the elementary identity
      `sin(θ(k-1)) + sin(θ(k+1)) = 2 cos θ · sin(θk)`, `θ = 2πW`;
    * `T` is unreduced (all `offdiag[i]`, `1 ≤ i ≤ N-1`, are non-zero); from that `Proofs/C18.lean` gets that an eigenvector
      with `v 0 = 0` vanishes (three-term recurrence), that every eigenspace of `T` is one-dimensional, and that every
      eigenvector of `T` is an eigenvector of `K`.  Here are the two closure facts that argument uses: eigenvectors for one `θ`
      form a subspace, and `K v` is again one (`kernel_apply_eigvec`).

  Vectors are functions `ℕ → ℝ` of which only the values on `[0,N)` are read (this composes with `fun n => raw.getD n 0`
  used by the theorems of `Proofs/C18.lean`).  Everything at `R := ℝ` (instance `instRealFnReal`).
-/
namespace SpecVerif.DpssTriL
open Finset SpecVerif SpecVerif.DpssL

theorem dpssDiag_real (N : ℕ) (W : ℝ) (i : ℕ) :
    dpssDiag N W i = -Real.cos (2 * Real.pi * W) * (((N : ℝ) - 1) / 2 - (i : ℝ)) ^ 2 := by
  simp only [dpssDiag, cos_real, pi_real]
  push_cast
  ring

theorem dpssOff_real (N i : ℕ) : (dpssOff N i : ℝ) = -((i : ℝ) * ((N : ℝ) - (i : ℝ))) / 2 := by
  simp only [dpssOff]
  push_cast
  ring

theorem dpssOff_zero (N : ℕ) : (dpssOff N 0 : ℝ) = 0 := by
  rw [dpssOff_real]; simp

theorem dpssOff_self (N : ℕ) : (dpssOff N N : ℝ) = 0 := by
  rw [dpssOff_real]; simp

/-- the matrix is unreduced: every coupling `offdiag[i]`, `1 ≤ i ≤ N-1`, is non-zero (it is `-i(N-i)/2 < 0`) -/
theorem dpssOff_neg {N i : ℕ} (h1 : 1 ≤ i) (h2 : i < N) : (dpssOff N i : ℝ) < 0 := by
  rw [dpssOff_real]
  have hi : (0 : ℝ) < (i : ℝ) := by exact_mod_cast h1
  have hNi : (0 : ℝ) < (N : ℝ) - (i : ℝ) := sub_pos.mpr (by exact_mod_cast h2)
  exact div_neg_of_neg_of_pos (neg_neg_of_pos (mul_pos hi hNi)) two_pos

theorem dpssOff_ne_zero {N i : ℕ} (h1 : 1 ≤ i) (h2 : i < N) : (dpssOff N i : ℝ) ≠ 0 :=
  (dpssOff_neg h1 h2).ne

theorem dpssTriEntry_symm (N : ℕ) (W : ℝ) (i j : ℕ) : dpssTriEntry N W i j = dpssTriEntry N W j i := by
  unfold dpssTriEntry
  by_cases h1 : i = j
  · rw [h1]
  rw [if_neg h1, if_neg (Ne.symm h1)]
  by_cases hA : i + 1 = j
  · rw [if_pos hA, if_neg (show ¬ j + 1 = i by omega), if_pos hA]
  · rw [if_neg hA, if_neg hA]

/-- row `i` of `T v` in three-term form; the term `offdiag[0]·v(0-1)` of row `0` and the term `offdiag[N]·v(N)` of
row `N-1` vanish because `offdiag[0] = offdiag[N] = 0` -/
noncomputable def triRow (N : ℕ) (W : ℝ) (v : ℕ → ℝ) (i : ℕ) : ℝ :=
  dpssOff N i * v (i - 1) + dpssDiag N W i * v i + dpssOff N (i + 1) * v (i + 1)

/-- `offdiag[N] = 0`: the guard `i + 1 < N` of the last row is immaterial -/
theorem dpssOff_succ_ite {N i : ℕ} (hi : i < N) (x : ℝ) :
    (if i + 1 < N then dpssOff N (i + 1) * x else 0) = dpssOff N (i + 1) * x := by
  by_cases h : i + 1 < N
  · rw [if_pos h]
  · rw [if_neg h, show i + 1 = N by omega, dpssOff_self, zero_mul]

/-- `offdiag[0] = 0`: the guard `i = 0` of the first row is immaterial -/
theorem dpssOff_zero_ite (N i : ℕ) (x : ℝ) :
    (if i = 0 then (0 : ℝ) else dpssOff N i * x) = dpssOff N i * x := by
  by_cases h0 : i = 0
  · rw [if_pos h0, h0, dpssOff_zero, zero_mul]
  · rw [if_neg h0]

theorem sum_entry_eq_triRow {N : ℕ} (W : ℝ) (v : ℕ → ℝ) {i : ℕ} (hi : i < N) :
    ∑ j ∈ range N, dpssTriEntry N W i j * v j = triRow N W v i := by
  have hf : ∀ j, dpssTriEntry N W i j * v j
      = (if j = i then dpssDiag N W i * v i else 0)
        + (if j = i + 1 then dpssOff N (i + 1) * v (i + 1) else 0)
        + (if j + 1 = i then dpssOff N i * v (i - 1) else 0) := by
    intro j
    unfold dpssTriEntry
    by_cases h1 : i = j
    · subst h1
      rw [if_pos rfl, if_pos rfl, if_neg (Nat.succ_ne_self i).symm, if_neg (Nat.succ_ne_self i), add_zero, add_zero]
    rw [if_neg h1, if_neg (Ne.symm h1), zero_add]
    by_cases h2 : i + 1 = j
    · subst h2
      rw [if_pos rfl, if_pos rfl, if_neg (by omega), add_zero]
    rw [if_neg h2, if_neg (Ne.symm h2), zero_add]
    by_cases h3 : j + 1 = i
    · subst h3
      rw [if_pos rfl, if_pos rfl, Nat.add_sub_cancel]
    · rw [if_neg h3, if_neg h3, zero_mul]
  simp only [hf, Finset.sum_add_distrib, Finset.sum_ite_eq', Finset.mem_range, if_pos hi]
  unfold triRow
  have hC : ∑ j ∈ range N, (if j + 1 = i then dpssOff N i * v (i - 1) else 0) = dpssOff N i * v (i - 1) := by
    cases i with
    | zero => simp [dpssOff_zero]
    | succ k =>
      have hk : k < N := by omega
      simp only [Nat.add_right_cancel_iff, Finset.sum_ite_eq', Finset.mem_range, if_pos hk]
  rw [dpssOff_succ_ite hi, hC]
  ring

/-- no side condition: both sides vanish at `x = 0` -/
theorem mul_rho (W x : ℝ) : x * rho W x = Real.sin (2 * Real.pi * W * x) / Real.pi := by
  unfold rho
  by_cases h : x = 0
  · subst h; simp
  · rw [if_neg h]
    have hpi : Real.pi ≠ 0 := Real.pi_ne_zero
    field_simp

theorem sin_pred_add_sin_succ (θ x : ℝ) :
    Real.sin (θ * (x - 1)) + Real.sin (θ * (x + 1)) = 2 * Real.cos θ * Real.sin (θ * x) := by
  rw [show θ * (x - 1) = θ * x - θ by ring, show θ * (x + 1) = θ * x + θ by ring, Real.sin_sub, Real.sin_add]
  ring

/-- `offdiag[0] = 0` makes the row-`0` corner harmless: under the coupling `offdiag[m]` the index `m - 1` may be read as a real -/
theorem dpssOff_mul_pred (N m : ℕ) (f : ℝ → ℝ) :
    (dpssOff N m : ℝ) * f ((m - 1 : ℕ) : ℝ) = dpssOff N m * f ((m : ℝ) - 1) := by
  cases m with
  | zero => rw [dpssOff_zero, zero_mul, zero_mul]
  | succ k => rw [Nat.add_sub_cancel, Nat.cast_succ, add_sub_cancel_right]

/-- commutation in three-term form, `(T K)[m,n] = (K T)[m,n]` for all `m`, `n`.  With `x = m - n`, `c = cos 2πW`:
`diag[m] - diag[n] = c·x·(N-1-m-n)`, `offdiag[m] - offdiag[n+1] = -(x-1)(N-1-m-n)/2`,
`offdiag[m+1] - offdiag[n] = -(x+1)(N-1-m-n)/2`, so
`(TK - KT)[m,n] = (N-1-m-n)/2 · (2c·xρ(x) - (x-1)ρ(x-1) - (x+1)ρ(x+1))`, which vanishes by `mul_rho` and the sine identity -/
theorem triRow_comm (N : ℕ) (W : ℝ) (m n : ℕ) :
    triRow N W (fun j => sincKernel W j n) m = triRow N W (fun j => sincKernel W m j) n := by
  unfold triRow
  simp only [sincKernel_eq_rho]
  rw [dpssOff_mul_pred N m (fun x => rho W (x - (n : ℝ))), dpssOff_mul_pred N n (fun x => rho W ((m : ℝ) - x))]
  simp only [Nat.cast_succ]
  rw [sub_right_comm (m : ℝ) 1 n, sub_sub_eq_add_sub (m : ℝ) n 1, add_sub_right_comm (m : ℝ) 1 n,
    sub_add_eq_sub_sub (m : ℝ) n 1]
  have e1 := mul_rho W ((m : ℝ) - (n : ℝ) - 1)
  have e0 := mul_rho W ((m : ℝ) - (n : ℝ))
  have e2 := mul_rho W ((m : ℝ) - (n : ℝ) + 1)
  have tr := sin_pred_add_sin_succ (2 * Real.pi * W) ((m : ℝ) - (n : ℝ))
  rw [dpssOff_real, dpssOff_real, dpssOff_real, dpssOff_real, dpssDiag_real, dpssDiag_real]
  push_cast
  generalize rho W ((m : ℝ) - (n : ℝ) - 1) = r1 at *
  generalize rho W ((m : ℝ) - (n : ℝ)) = r0 at *
  generalize rho W ((m : ℝ) - (n : ℝ) + 1) = r2 at *
  generalize Real.sin (2 * Real.pi * W * ((m : ℝ) - (n : ℝ) - 1)) = S1 at *
  generalize Real.sin (2 * Real.pi * W * ((m : ℝ) - (n : ℝ))) = S0 at *
  generalize Real.sin (2 * Real.pi * W * ((m : ℝ) - (n : ℝ) + 1)) = S2 at *
  generalize Real.cos (2 * Real.pi * W) = c at *
  linear_combination (-(((N : ℝ) - 1 - (m : ℝ) - (n : ℝ)) / 2)) * e1
    + (2 * c * (((N : ℝ) - 1 - (m : ℝ) - (n : ℝ)) / 2)) * e0
    + (-(((N : ℝ) - 1 - (m : ℝ) - (n : ℝ)) / 2)) * e2
    + (-((((N : ℝ) - 1 - (m : ℝ) - (n : ℝ)) / 2) / Real.pi)) * tr

theorem tri_mul_kernel_comm {N : ℕ} (W : ℝ) {m n : ℕ} (hm : m < N) (hn : n < N) :
    ∑ j ∈ range N, dpssTriEntry N W m j * sincKernel W j n
      = ∑ j ∈ range N, sincKernel W m j * dpssTriEntry N W j n := by
  rw [sum_entry_eq_triRow W (fun j => sincKernel W j n) hm, triRow_comm,
    ← sum_entry_eq_triRow W (fun j => sincKernel W m j) hn]
  apply Finset.sum_congr rfl
  intro j _
  rw [dpssTriEntry_symm N W n j, mul_comm]

/-- eigenvectors of `T` for one `θ` form a subspace (only `v 0 … v (N-1)` are read) -/
theorem eigvec_lincomb {N : ℕ} {W θ : ℝ} {u v : ℕ → ℝ}
    (hu : ∀ i, i < N → ∑ j ∈ range N, dpssTriEntry N W i j * u j = θ * u i)
    (hv : ∀ i, i < N → ∑ j ∈ range N, dpssTriEntry N W i j * v j = θ * v i) (a b : ℝ) :
    ∀ i, i < N → ∑ j ∈ range N, dpssTriEntry N W i j * (a * u j + b * v j) = θ * (a * u i + b * v i) := by
  intro i hi
  have h : ∑ j ∈ range N, dpssTriEntry N W i j * (a * u j + b * v j)
      = a * ∑ j ∈ range N, dpssTriEntry N W i j * u j + b * ∑ j ∈ range N, dpssTriEntry N W i j * v j := by
    rw [Finset.mul_sum, Finset.mul_sum, ← Finset.sum_add_distrib]
    apply Finset.sum_congr rfl
    intro j _; ring
  rw [h, hu i hi, hv i hi]; ring

theorem sum_mul_sum_assoc (N : ℕ) (A : ℕ → ℝ) (B : ℕ → ℕ → ℝ) (v : ℕ → ℝ) :
    ∑ j ∈ range N, A j * ∑ l ∈ range N, B j l * v l = ∑ l ∈ range N, (∑ j ∈ range N, A j * B j l) * v l :=
  (sum_mul_assoc N (fun _ k => A k) B (fun l _ => v l) 0 0).symm

/-- `K v` is again an eigenvector of `T` for the same eigenvalue: `T (K v) = (T K) v = (K T) v = K (T v) = θ K v` -/
theorem kernel_apply_eigvec {N : ℕ} {W θ : ℝ} {v : ℕ → ℝ}
    (hv : ∀ i, i < N → ∑ j ∈ range N, dpssTriEntry N W i j * v j = θ * v i) :
    ∀ i, i < N → ∑ j ∈ range N, dpssTriEntry N W i j * (∑ m ∈ range N, sincKernel W j m * v m)
      = θ * ∑ m ∈ range N, sincKernel W i m * v m := by
  intro i hi
  rw [sum_mul_sum_assoc,
    Finset.sum_congr rfl (fun l hl => by rw [tri_mul_kernel_comm W hi (Finset.mem_range.mp hl)]),
    ← sum_mul_sum_assoc,
    Finset.sum_congr rfl (fun j hj => by rw [hv j (Finset.mem_range.mp hj), mul_left_comm]),
    ← Finset.mul_sum]

end SpecVerif.DpssTriL
