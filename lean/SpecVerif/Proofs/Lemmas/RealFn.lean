import SpecVerif.Model.RealFn
import Mathlib.Analysis.SpecialFunctions.Artanh
import Mathlib.Analysis.SpecialFunctions.Trigonometric.Inverse
/-
  The instance of the model's real special functions (`RealFn`) at `ℝ`, and what the conversions defined
  through them are there.
-/
namespace SpecVerif

noncomputable instance instRealFnReal : RealFn ℝ where
  pi := Real.pi
  cos := Real.cos
  sin := Real.sin
  exp := Real.exp
  log := Real.log
  sqrt := Real.sqrt
  tanh := Real.tanh
  artanh := Real.artanh
  arcsin := Real.arcsin
  abs := fun x => |x|
  sinc := fun x => if x = 0 then 1 else Real.sin (Real.pi * x) / (Real.pi * x)
  lt := fun a b => decide (a < b)

theorem pi_real : (RealFn.pi : ℝ) = Real.pi := rfl
theorem cos_real (x : ℝ) : RealFn.cos x = Real.cos x := rfl
theorem sin_real (x : ℝ) : RealFn.sin x = Real.sin x := rfl
theorem exp_real (x : ℝ) : RealFn.exp x = Real.exp x := rfl
theorem abs_real (x : ℝ) : RealFn.abs x = |x| := rfl
theorem sqrt_real (x : ℝ) : RealFn.sqrt x = Real.sqrt x := rfl
theorem sinc_real (x : ℝ) :
    RealFn.sinc x = if x = 0 then 1 else Real.sin (Real.pi * x) / (Real.pi * x) := rfl
theorem lt_real (a b : ℝ) : RealFn.lt a b = decide (a < b) := rfl

theorem rc2lar_real (k : ℝ) : rc2lar k = -2 * Real.artanh (-k) := by
  simp [rc2lar, RealFn.artanh]

theorem lar2rc_real (g : ℝ) : lar2rc g = -Real.tanh (-g / 2) := by
  simp [lar2rc, RealFn.tanh]

theorem rc2is_real (k : ℝ) : rc2is k = 2 / Real.pi * Real.arcsin k := by
  simp [rc2is, RealFn.arcsin, RealFn.pi]

theorem is2rc_real (s : ℝ) : is2rc s = Real.sin (s * Real.pi / 2) := by
  simp [is2rc, RealFn.sin, RealFn.pi]

end SpecVerif
