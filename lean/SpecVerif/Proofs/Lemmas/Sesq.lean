import SpecVerif.Proofs.Lemmas.Basic
import SpecVerif.Proofs.Lemmas.Norm
import Mathlib.Algebra.BigOperators.Field
/-
  Linear algebra on the indices `< m`: a matrix is a function `ℕ → ℕ → K`, a vector a function `ℕ → K`.
  Products with the identity and inverses; the Hermitian form `sesq m M x y = xᴴ M y`; `PosDef m M`, positive
  definiteness of the leading `m × m` block, with the Schur-complement step `sesq_pd_succ` that carries it one
  order up.  Levinson's positivity (`Lemmas/LevinsonPD.lean`), Yule–Walker (`Lemmas/Yule.lean`) and the
  minimum-variance forms (`Lemmas/Minvar.lean`, `Lemmas/GohbergSemencul.lean`, C16) are stated with these.
-/
namespace SpecVerif
open Finset

/-! ### matrices as functions `ℕ → ℕ → K`, indices `< m` -/

section Matrix
variable {K : Type} [Field K]

theorem sum_delta_mul {m i : ℕ} (hi : i < m) (f : ℕ → K) :
    ∑ l ∈ range m, (if i = l then 1 else 0) * f l = f i := by
  simp only [ite_mul, one_mul, zero_mul]
  rw [Finset.sum_ite_eq (range m) i, if_pos (mem_range.mpr hi)]

theorem sum_mul_delta {m j : ℕ} (hj : j < m) (f : ℕ → K) :
    ∑ l ∈ range m, f l * (if l = j then 1 else 0) = f j := by
  simp only [mul_ite, mul_one, mul_zero]
  rw [Finset.sum_ite_eq' (range m) j, if_pos (mem_range.mpr hj)]

theorem sum_mul_assoc (m : ℕ) (A R X : ℕ → ℕ → K) (i j : ℕ) :
    ∑ l ∈ range m, (∑ k ∈ range m, A i k * R k l) * X l j
      = ∑ k ∈ range m, A i k * ∑ l ∈ range m, R k l * X l j := by
  simp only [Finset.sum_mul, Finset.mul_sum]
  rw [Finset.sum_comm]
  simp only [mul_assoc]

/-- a left inverse and a right inverse of the same matrix agree: `X = (A·R)·X = A·(R·X) = A` -/
theorem left_inverse_eq_right_inverse (m : ℕ) (A R X : ℕ → ℕ → K)
    (hAR : ∀ i j, i < m → j < m → ∑ l ∈ range m, A i l * R l j = if i = j then 1 else 0)
    (hRX : ∀ i j, i < m → j < m → ∑ l ∈ range m, R i l * X l j = if i = j then 1 else 0)
    (i j : ℕ) (hi : i < m) (hj : j < m) : X i j = A i j := by
  have h := sum_mul_assoc m A R X i j
  have e1 : ∀ l ∈ range m, (∑ k ∈ range m, A i k * R k l) * X l j
      = (if i = l then 1 else 0) * X l j :=
    fun l hl => by rw [hAR i l hi (mem_range.mp hl)]
  have e2 : ∀ k ∈ range m, A i k * ∑ l ∈ range m, R k l * X l j
      = A i k * (if k = j then 1 else 0) :=
    fun k hk => by rw [hRX k j (mem_range.mp hk) hj]
  rw [Finset.sum_congr rfl e1, Finset.sum_congr rfl e2, sum_delta_mul hi, sum_mul_delta hj] at h
  exact h

theorem mul_inverse_apply (m : ℕ) (R X : ℕ → ℕ → K)
    (hRX : ∀ i j, i < m → j < m → ∑ l ∈ range m, R i l * X l j = if i = j then 1 else 0)
    (e : ℕ → K) (i : ℕ) (hi : i < m) :
    ∑ l ∈ range m, R i l * ∑ j ∈ range m, X l j * e j = e i := by
  have e1 : ∀ l ∈ range m, (∑ k ∈ range m, R i k * X k l) * e l = (if i = l then 1 else 0) * e l :=
    fun l hl => by rw [hRX i l hi (mem_range.mp hl)]
  -- associativity with the vector `e` as a one-column matrix
  rw [← sum_mul_assoc m R X (fun j _ => e j) i 0, Finset.sum_congr rfl e1, sum_delta_mul hi]

end Matrix

section Field
variable {K : Type} [Field K] [StarRing K]

/-- the sesquilinear form `xᴴ M y`; the quadratic form of `M` is `sesq m M e e`.  C09, C10, C12 and C16 write it
out as the double sum: `sesq_eq_sum` is the bridge -/
def sesq (m : ℕ) (M : ℕ → ℕ → K) (x y : ℕ → K) : K :=
  ∑ i ∈ range m, ∑ j ∈ range m, star (x i) * M i j * y j

theorem sesq_eq_sum (m : ℕ) (M : ℕ → ℕ → K) (x y : ℕ → K) :
    sesq m M x y = ∑ i ∈ range m, ∑ j ∈ range m, star (x i) * M i j * y j := rfl

theorem sesq_congr (m : ℕ) {M N : ℕ → ℕ → K} (h : ∀ i j, i < m → j < m → M i j = N i j)
    (x y : ℕ → K) : sesq m M x y = sesq m N x y := by
  unfold sesq
  apply Finset.sum_congr rfl
  intro i hi
  apply Finset.sum_congr rfl
  intro j hj
  rw [h i j (mem_range.mp hi) (mem_range.mp hj)]

theorem sesq_div (m : ℕ) (M : ℕ → ℕ → K) (P : K) (x y : ℕ → K) :
    sesq m (fun i j => M i j / P) x y = sesq m M x y / P := by
  unfold sesq
  rw [Finset.sum_div]
  apply Finset.sum_congr rfl
  intro i _
  rw [Finset.sum_div]
  apply Finset.sum_congr rfl
  intro j _
  ring

theorem sesq_add_smul_right (N : ℕ) (R : ℕ → ℕ → K) (x y y' : ℕ → K) (c : K) :
    sesq N R x (fun j => y j + c * y' j) = sesq N R x y + c * sesq N R x y' := by
  unfold sesq
  rw [Finset.mul_sum, ← Finset.sum_add_distrib]
  apply Finset.sum_congr rfl
  intro i _
  rw [Finset.mul_sum, ← Finset.sum_add_distrib]
  apply Finset.sum_congr rfl
  intro j _
  ring

theorem sesq_star (N : ℕ) (R : ℕ → ℕ → K) (hR : ∀ i j, star (R i j) = R j i) (x y : ℕ → K) :
    star (sesq N R x y) = sesq N R y x := by
  unfold sesq
  rw [star_sum]
  simp only [star_sum]
  rw [Finset.sum_comm]
  apply Finset.sum_congr rfl
  intro i _
  apply Finset.sum_congr rfl
  intro j _
  rw [star_mul', star_mul', star_star, hR j i]
  ring

theorem sesq_eq_sum_mulVec (N : ℕ) (R : ℕ → ℕ → K) (x y : ℕ → K) :
    sesq N R x y = ∑ i ∈ range N, star (x i) * ∑ j ∈ range N, R i j * y j := by
  unfold sesq
  simp only [Finset.mul_sum, mul_assoc]

theorem sesq_right_unit (N : ℕ) (R : ℕ → ℕ → K) (β : ℕ → K) (P : K) (n : ℕ) (hn : n < N)
    (hβ : ∀ i, i < N → ∑ j ∈ range N, R i j * β j = if i = n then P else 0) (x : ℕ → K) :
    sesq N R x β = star (x n) * P := by
  have e1 : ∀ i ∈ range N, star (x i) * ∑ j ∈ range N, R i j * β j
      = star (x i) * P * (if i = n then 1 else 0) :=
    fun i hi => by rw [hβ i (mem_range.mp hi), mul_ite, mul_ite, mul_one, mul_zero, mul_zero]
  rw [sesq_eq_sum_mulVec, Finset.sum_congr rfl e1, sum_mul_delta hn]

/-- a vector vanishing on the indices `m ≤ i < n` only sees the leading `m × m` block -/
theorem sesq_of_zero_beyond {m n : ℕ} (hmn : m ≤ n) (R : ℕ → ℕ → K) (v : ℕ → K)
    (hv : ∀ i, m ≤ i → i < n → v i = 0) : sesq n R v v = sesq m R v v := by
  unfold sesq
  rw [sum_range_zero_tail _ hmn (fun i hi hi' => by
    rw [hv i hi hi', star_zero]
    exact Finset.sum_eq_zero (fun j _ => by rw [zero_mul, zero_mul]))]
  exact Finset.sum_congr rfl (fun i _ =>
    sum_range_zero_tail _ hmn (fun j hj hj' => by rw [hv j hj hj', mul_zero]))

/-- **splitting off the last coordinate** (`R` Hermitian, `R β = P e_N` on the indices `≤ N`, `β_N = 1`):
`w = v − v_N β` vanishes at `N` and `vᴴ R v = wᴴ R w + conj(v_N)·v_N·P`, the first term taken over the
leading `N × N` block -/
theorem sesq_split_last (N : ℕ) (R : ℕ → ℕ → K) (hR : ∀ i j, star (R i j) = R j i)
    (β : ℕ → K) (P : K)
    (hβ : ∀ i, i < N + 1 → ∑ j ∈ range (N + 1), R i j * β j = if i = N then P else 0)
    (hβN : β N = 1) (v : ℕ → K) :
    sesq (N + 1) R v v
      = sesq N R (fun i => v i - v N * β i) (fun i => v i - v N * β i) + star (v N) * (v N * P) := by
  set w : ℕ → K := fun i => v i - v N * β i with hw
  have hwN : w N = 0 := by
    show v N - v N * β N = 0
    rw [hβN, mul_one, sub_self]
  -- `xᴴ R v = xᴴ R w + v_N·conj(x_N)·P` for every `x`, since `v = w + v_N β`
  have hright : ∀ x : ℕ → K,
      sesq (N + 1) R x v = sesq (N + 1) R x w + v N * (star (x N) * P) := by
    intro x
    rw [← sesq_right_unit (N + 1) R β P N (Nat.lt_succ_self N) hβ x, ← sesq_add_smul_right]
    congr 1
    funext i
    show v i = v i - v N * β i + v N * β i
    rw [sub_add_cancel]
  rw [hright v, ← sesq_star (N + 1) R hR w v, hright w, hwN, star_zero, zero_mul, mul_zero, add_zero,
    sesq_star (N + 1) R hR w w, sesq_of_zero_beyond (Nat.le_succ N) R w (fun i hi hi' => by rwa [show i = N by omega]), mul_left_comm]

theorem sesq_inverse (m : ℕ) (R X : ℕ → ℕ → K) (hR : ∀ i j, star (R i j) = R j i)
    (hRX : ∀ i j, i < m → j < m → ∑ l ∈ range m, R i l * X l j = if i = j then 1 else 0)
    (e : ℕ → K) :
    sesq m X e e
      = sesq m R (fun l => ∑ j ∈ range m, X l j * e j) (fun l => ∑ j ∈ range m, X l j * e j) := by
  rw [← sesq_star m R hR, sesq_eq_sum_mulVec, sesq_eq_sum_mulVec, star_sum]
  apply Finset.sum_congr rfl
  intro i hi
  rw [mul_inverse_apply m R X hRX e i (mem_range.mp hi), star_mul', star_star, mul_comm]

end Field

section RC
variable {𝕜 : Type} [RCLike 𝕜]

/-- positive definiteness of the leading `m × m` block of `M` -/
def PosDef (m : ℕ) (M : ℕ → ℕ → 𝕜) : Prop :=
  ∀ v : ℕ → 𝕜, (∃ i, i < m ∧ v i ≠ 0) → 0 < RCLike.re (sesq m M v v)

theorem PosDef.congr {m : ℕ} {M N : ℕ → ℕ → 𝕜} (h : ∀ i j, i < m → j < m → M i j = N i j)
    (hpd : PosDef m N) : PosDef m M :=
  fun v hv => by rw [sesq_congr m h]; exact hpd v hv

/-- every leading block of a positive definite block is positive definite (extend the vector by zero) -/
theorem PosDef.mono {m n : ℕ} (hmn : m ≤ n) {M : ℕ → ℕ → 𝕜} (hpd : PosDef n M) : PosDef m M := by
  intro v ⟨i, hi, hvi⟩
  have h := hpd (fun i => if i < m then v i else 0) ⟨i, lt_of_lt_of_le hi hmn, by rwa [if_pos hi]⟩
  rw [sesq_of_zero_beyond hmn M _ (fun i hi _ => if_neg (not_lt.mpr hi))] at h
  rwa [show sesq m M (fun i => if i < m then v i else 0) (fun i => if i < m then v i else 0)
      = sesq m M v v from
    Finset.sum_congr rfl (fun a ha => Finset.sum_congr rfl (fun b hb => by
      simp only [if_pos (mem_range.mp ha), if_pos (mem_range.mp hb)]))] at h

/-- a sum of squares of a family that is not identically zero is positive -/
theorem sum_norm_sq_pos {R : ℕ} {f : ℕ → 𝕜} (hf : ∃ i, i < R ∧ f i ≠ 0) :
    0 < ∑ i ∈ range R, ‖f i‖ ^ 2 := by
  obtain ⟨i, hi, hfi⟩ := hf
  exact Finset.sum_pos' (fun _ _ => sq_nonneg _)
    ⟨i, mem_range.mpr hi, pow_pos (norm_pos_iff.mpr hfi) 2⟩

theorem sesq_pd_nonneg {N : ℕ} {R : ℕ → ℕ → 𝕜} (hpd : PosDef N R) (w : ℕ → 𝕜) :
    0 ≤ RCLike.re (sesq N R w w) := by
  by_cases hw : ∃ i, i < N ∧ w i ≠ 0
  · exact (hpd w hw).le
  · have hz : sesq N R w w = 0 := by
      refine Finset.sum_eq_zero (fun i _ => Finset.sum_eq_zero (fun j hj => ?_))
      rw [not_not.mp (fun hne => hw ⟨j, mem_range.mp hj, hne⟩), mul_zero]
    rw [hz, map_zero]

/-- **one order up** (Schur complement) -/
theorem sesq_pd_succ (N : ℕ) (R : ℕ → ℕ → 𝕜) (hR : ∀ i j, star (R i j) = R j i)
    (β : ℕ → 𝕜) (P : 𝕜) (hPpos : 0 < RCLike.re P)
    (hβ : ∀ i, i < N + 1 → ∑ j ∈ range (N + 1), R i j * β j = if i = N then P else 0)
    (hβN : β N = 1) (hpd : PosDef N R) : PosDef (N + 1) R := by
  intro v hv
  rw [sesq_split_last N R hR β P hβ hβN v, ← mul_assoc, star_mul_self_eq, map_add,
    RCLike.re_ofReal_mul]
  by_cases hc0 : v N = 0
  · -- `v_N = 0`: `w = v` is non-zero on the leading block
    obtain ⟨i, hi, hvi⟩ := hv
    have hiN : i < N := by
      by_contra hcon
      exact hvi (by rw [show i = N by omega, hc0])
    have hw : (fun i => v i - v N * β i) = v := by
      funext i
      rw [hc0, zero_mul, sub_zero]
    rw [hw, hc0, norm_zero, zero_pow two_ne_zero, zero_mul, add_zero]
    exact hpd v ⟨i, hiN, hvi⟩
  · exact add_pos_of_nonneg_of_pos (sesq_pd_nonneg hpd _)
      (mul_pos (pow_pos (norm_pos_iff.mpr hc0) 2) hPpos)

end RC

end SpecVerif
