import SpecVerif.Model.Sides
import SpecVerif.Proofs.Lemmas.Basic
/-
  Side conversions (`onesided` / `twosided` / `centerdc`) as refinements of one abstract object: a
  two-sided spectrum `S : ℕ → K` of `n = NFFT` bins (only `S k`, `k < n`, matter).
-/
namespace SpecVerif
open Finset

section Spec
variable {K : Type}

/-- the spectrum of real data: bin `k` and bin `n - k` (frequency `-k`) carry the same value -/
def SymmSpec (n : ℕ) (S : ℕ → K) : Prop := ∀ k, 0 < k → k < n → S k = S (n - k)

/-- two-sided representation: entry `k` is bin `k` -/
def repTwo (n : ℕ) (S : ℕ → K) : List K := vec n S

/-- centre-DC representation: entry `a` is bin `a - n/2`, i.e. `S` at `(a - n/2) mod n` -/
def repCenter (n : ℕ) (S : ℕ → K) : List K := vec n (fun a => S ((a + n - n / 2) % n))

/-- one-sided representation: entry `k ≤ n/2` is the sum of `S` over the bins of frequency `±k`
    (one bin for DC and for the Nyquist bin of an even `n`, two bins otherwise) -/
def repOne [Add K] (n : ℕ) (S : ℕ → K) : List K :=
  vec (n / 2 + 1) (fun k =>
    if k = 0 then S 0 else if n % 2 = 0 ∧ k = n / 2 then S k else S k + S (n - k))

def rep [Add K] : Side → ℕ → (ℕ → K) → List K
  | .one, n, S => repOne n S
  | .two, n, S => repTwo n S
  | .center, n, S => repCenter n S

/-- the two-sided bin index (`0 ≤ · < n`) of an integer frequency bin `b` -/
def binIdx (n : ℕ) (b : Int) : ℕ := (b % (n : Int)).toNat

/-- `S` summed over the distinct two-sided bins among `{b, -b}` (folding by sign) -/
def foldBin [Add K] (n : ℕ) (S : ℕ → K) (b : Int) : K :=
  if binIdx n b = binIdx n (-b) then S (binIdx n b) else S (binIdx n b) + S (binIdx n (-b))

/-- the value the representation for `sd` must hold at integer frequency bin `b`: `S` at that bin
    (mod `n`) for two-sided and centre-DC, `S` folded over `±b` for one-sided -/
def binValue [Add K] : Side → ℕ → (ℕ → K) → Int → K
  | .one, n, S, b => foldBin n S b
  | .two, n, S, b => S (binIdx n b)
  | .center, n, S, b => S (binIdx n b)

end Spec

section Path
variable {K : Type} [Add K] [Mul K] [Div K] [OfNat K 0] [NatCast K]

/-- a sequence of conversions: from representation `s` convert to each side of the list in turn;
    fails as soon as one step fails -/
def convertPath (isComplex : Bool) (nfft : ℕ) : Side → List Side → List K → Option (List K)
  | _, [], p => some p
  | s, t :: ts, p => (convert s t isComplex nfft p).bind (convertPath isComplex nfft t ts)

end Path

section Lemmas
variable {K : Type}

@[simp] theorem repTwo_length (n : ℕ) (S : ℕ → K) : (repTwo n S).length = n :=
  vec_length _ _

@[simp] theorem repCenter_length (n : ℕ) (S : ℕ → K) : (repCenter n S).length = n :=
  vec_length _ _

variable [Field K]

@[simp] theorem repOne_length (n : ℕ) (S : ℕ → K) : (repOne n S).length = n / 2 + 1 :=
  vec_length _ _

theorem nth_repTwo {n k : ℕ} (hk : k < n) (S : ℕ → K) : nth (repTwo n S) k = S k :=
  nth_vec_lt S hk

theorem nth_repCenter {n a : ℕ} (ha : a < n) (S : ℕ → K) :
    nth (repCenter n S) a = S ((a + n - n / 2) % n) :=
  nth_vec_lt _ ha

theorem add_mod_add_mod_cancel {n a b : ℕ} (h : a + b = n) {i : ℕ} (hi : i < n) :
    ((i + a) % n + b) % n = i := by
  rw [Nat.mod_add_mod, Nat.add_assoc, h, Nat.add_mod_right, Nat.mod_eq_of_lt hi]

theorem succ_div_two (n : ℕ) : (n + 1) / 2 = n - n / 2 := by
  omega

theorem fftshift_repTwo (n : ℕ) (S : ℕ → K) : fftshift (repTwo n S) = repCenter n S := by
  simp only [fftshift, repTwo, repCenter, vec_length]
  apply vec_ext
  intro i hi
  rw [nth_vec_lt S (Nat.mod_lt _ (Nat.zero_lt_of_lt hi)), succ_div_two, Nat.add_sub_assoc (Nat.div_le_self n 2)]

theorem ifftshift_repCenter (n : ℕ) (S : ℕ → K) : ifftshift (repCenter n S) = repTwo n S := by
  simp only [ifftshift, repTwo, repCenter, vec_length]
  apply vec_ext
  intro i hi
  rw [nth_vec_lt _ (Nat.mod_lt _ (Nat.zero_lt_of_lt hi)), Nat.add_sub_assoc (Nat.div_le_self n 2),
    add_mod_add_mod_cancel (Nat.add_sub_cancel' (Nat.div_le_self n 2)) hi]

theorem twosided2onesided_repTwo {n : ℕ} (hn : 1 ≤ n) {S : ℕ → K} (hS : SymmSpec n S) :
    twosided2onesided (repTwo n S) = repOne n S := by
  simp only [twosided2onesided, repTwo, repOne, vec_length]
  apply vec_ext
  intro i hi
  by_cases h0 : i = 0
  · subst h0
    have : 0 < n := hn
    simp [nth_vec, this]
  · have hin : i < n := (Nat.lt_succ_iff.mp hi).trans_lt (Nat.div_lt_self hn Nat.one_lt_two)
    simp only [h0, if_false, nth_vec, hin, if_true]
    split_ifs
    · rfl
    · rw [Nat.cast_ofNat, two_mul, ← hS i (Nat.pos_of_ne_zero h0) hin]

/-! ### the one-sided representation by position: DC, Nyquist, interior

The definitions test the position of bin `k` through `n / 2` and `n % 2`; below it is compared with `n` through `2 * k`. -/

theorem nyquist_iff {n k : ℕ} : (n % 2 = 0 ∧ k = n / 2) ↔ 2 * k = n := by
  omega

theorem lt_half_succ_iff {n k : ℕ} : k < n / 2 + 1 ↔ 2 * k ≤ n := by
  omega

theorem lt_sub_half_iff {n k : ℕ} : k < n - n / 2 ↔ 2 * k < n := by
  omega

theorem lt_of_two_mul_lt {n k : ℕ} (h : 2 * k < n) : k < n := by
  omega

theorem lt_two_mul_sub {n k : ℕ} (h : 2 * k < n) : n < 2 * (n - k) := by
  omega

theorem two_mul_sub_lt {n k : ℕ} (hk : k < n) (h : n < 2 * k) : 2 * (n - k) < n := by
  omega

theorem onesided_cases {n k : ℕ} (hk : k < n / 2 + 1) :
    k = 0 ∨ (0 < k ∧ 2 * k = n) ∨ (0 < k ∧ 2 * k < n) := by
  have := lt_half_succ_iff.mp hk
  omega

theorem nth_repOne {n k : ℕ} (hk : 2 * k ≤ n) (S : ℕ → K) :
    nth (repOne n S) k = if k = 0 then S 0 else if 2 * k = n then S k else S k + S (n - k) := by
  rw [repOne, nth_vec_lt _ (lt_half_succ_iff.mpr hk)]
  simp only [nyquist_iff]

theorem nth_repOne_zero (n : ℕ) (S : ℕ → K) : nth (repOne n S) 0 = S 0 := by
  rw [nth_repOne (Nat.zero_le n), if_pos rfl]

theorem nth_repOne_nyq {n k : ℕ} (h0 : 0 < k) (hk : 2 * k = n) (S : ℕ → K) :
    nth (repOne n S) k = S k := by
  rw [nth_repOne hk.le, if_neg h0.ne', if_pos hk]

theorem nth_repOne_interior {n k : ℕ} (h0 : 0 < k) (hk : 2 * k < n) (S : ℕ → K) :
    nth (repOne n S) k = S k + S (n - k) := by
  rw [nth_repOne hk.le, if_neg h0.ne', if_neg hk.ne]

/-- the symmetric two-sided spectrum that a one-sided list of `n/2+1` values stands for: DC and Nyquist as stored, every
other value halved and placed at both signs of its frequency.  Written with the tests of `unfoldOne` (`n % 2 = 0 ∧ k = n / 2`,
`k < n / 2 + 1`) so that `unfoldOne_eq` closes by `rfl`; `unfoldSpec_eq` is the form to use. -/
def unfoldSpec (n : ℕ) (p : List K) (k : ℕ) : K :=
  if k = 0 then nth p 0
  else if n % 2 = 0 ∧ k = n / 2 then nth p k
  else if k < n / 2 + 1 then nth p k / 2
  else nth p (n - k) / 2

theorem unfoldSpec_eq (n : ℕ) (p : List K) (k : ℕ) :
    unfoldSpec n p k = if k = 0 then nth p 0 else if 2 * k = n then nth p k
      else if 2 * k ≤ n then nth p k / 2 else nth p (n - k) / 2 := by
  simp only [unfoldSpec, nyquist_iff, lt_half_succ_iff]

theorem unfoldSpec_zero (n : ℕ) (p : List K) : unfoldSpec n p 0 = nth p 0 :=
  if_pos rfl

theorem unfoldSpec_nyq {n k : ℕ} (h0 : 0 < k) (hk : 2 * k = n) (p : List K) :
    unfoldSpec n p k = nth p k := by
  rw [unfoldSpec_eq, if_neg h0.ne', if_pos hk]

theorem unfoldSpec_pos {n k : ℕ} (h0 : 0 < k) (hk : 2 * k < n) (p : List K) :
    unfoldSpec n p k = nth p k / 2 := by
  rw [unfoldSpec_eq, if_neg h0.ne', if_neg hk.ne, if_pos hk.le]

theorem unfoldSpec_neg {n k : ℕ} (hk : n < 2 * k) (p : List K) :
    unfoldSpec n p k = nth p (n - k) / 2 := by
  rw [unfoldSpec_eq, if_neg (by rintro rfl; exact Nat.not_lt_zero n hk), if_neg hk.ne', if_neg hk.not_ge]

theorem unfoldSpec_symm (n : ℕ) (p : List K) : SymmSpec n (unfoldSpec n p) := by
  intro k hk0 hkn
  rcases Nat.lt_trichotomy (2 * k) n with h | h | h
  · rw [unfoldSpec_pos hk0 h, unfoldSpec_neg (lt_two_mul_sub h), Nat.sub_sub_self hkn.le]
  · rw [Nat.sub_eq_of_eq_add (h.symm.trans (two_mul k))]
  · rw [unfoldSpec_neg h, unfoldSpec_pos (Nat.sub_pos_of_lt hkn) (two_mul_sub_lt hkn h)]

theorem convert_flag_iff {n : ℕ} : (n % 2 = 1 ∧ n / 2 + 1 = (n + 1) / 2) ↔ n % 2 = 1 := by
  omega

theorem unfoldOne_length_odd {n : ℕ} (h : n % 2 = 1) : 2 * (n / 2 + 1) - 1 = n := by
  omega

theorem unfoldOne_length_even {n : ℕ} (h : n % 2 = 0) : 2 * (n / 2 + 1) - 2 = n := by
  omega

/-- holds for ANY one-sided list (no symmetry, no `2 ≠ 0`): index arithmetic only, both parities at once; `hodd` is met by the
parity flag that `convert` computes -/
theorem unfoldOne_eq {n : ℕ} (hn : 1 ≤ n) (p : List K) (hp : p.length = n / 2 + 1)
    (odd : Bool) (hodd : odd = true ↔ n % 2 = 1) :
    unfoldOne p odd = repTwo n (unfoldSpec n p) := by
  have heven : (!odd) = true ↔ n % 2 = 0 := by
    rw [Bool.not_eq_true', ← Bool.not_eq_true, hodd]
    exact Nat.mod_two_ne_one
  have hlen : (if odd = true then 2 * (n / 2 + 1) - 1 else 2 * (n / 2 + 1) - 2) = n := by
    split
    · exact unfoldOne_length_odd (hodd.mp ‹_›)
    · exact unfoldOne_length_even (heven.mp (by simpa using ‹¬ odd = true›))
  have hdeg : ¬ (n / 2 + 1 = 1 ∧ n % 2 = 0) := by
    omega
  unfold unfoldOne
  simp only [hp, hlen, heven, if_neg hdeg, Nat.add_sub_cancel, Nat.cast_ofNat]
  -- what is left of `unfoldOne` is `vec n` of the body of `unfoldSpec`, test for test
  rfl

theorem unfoldSpec_repOne (h2 : (2 : K) ≠ 0) {n : ℕ} {S : ℕ → K} (hS : SymmSpec n S)
    {k : ℕ} (hk : k < n) : unfoldSpec n (repOne n S) k = S k := by
  have half : ∀ j, 0 < j → j < n → (S j + S (n - j)) / 2 = S j := by
    intro j hj0 hjn
    rw [← hS j hj0 hjn, ← two_mul, mul_div_cancel_left₀ _ h2]
  rcases Nat.eq_zero_or_pos k with rfl | h0
  · rw [unfoldSpec_zero, nth_repOne_zero]
  rcases Nat.lt_trichotomy (2 * k) n with h | h | h
  · rw [unfoldSpec_pos h0 h, nth_repOne_interior h0 h, half k h0 hk]
  · rw [unfoldSpec_nyq h0 h, nth_repOne_nyq h0 h]
  · rw [unfoldSpec_neg h, nth_repOne_interior (Nat.sub_pos_of_lt hk) (two_mul_sub_lt hk h), Nat.sub_sub_self hk.le, add_comm,
      half k h0 hk]

theorem unfoldOne_repOne (h2 : (2 : K) ≠ 0) {n : ℕ} (hn : 1 ≤ n) {S : ℕ → K} (hS : SymmSpec n S)
    (odd : Bool) (hodd : odd = true ↔ n % 2 = 1) :
    unfoldOne (repOne n S) odd = repTwo n S := by
  rw [unfoldOne_eq hn _ (repOne_length n S) odd hodd]
  exact vec_ext fun k hk => unfoldSpec_repOne h2 hS hk

theorem sum_rot {n m : ℕ} (hm : m ≤ n) (g : ℕ → K) :
    ∑ k ∈ range n, g ((k + n - m) % n) = ∑ k ∈ range n, g k := by
  obtain ⟨d, rfl⟩ := Nat.exists_eq_add_of_le hm
  have hidx : ∀ k, k + (m + d) - m = k + d := fun k => by rw [Nat.add_left_comm, Nat.add_sub_cancel_left]
  simp only [hidx]
  -- left: the first `m` indices do not wrap, the last `d` wrap to `0 … d-1`; right: the first `d`, then the other `m`
  rw [sum_range_add, add_comm m d, sum_range_add g, add_comm]
  congr 1
  · refine sum_congr rfl fun x hx => ?_
    rw [add_comm m x, add_assoc, add_comm m d, Nat.add_mod_right, Nat.mod_eq_of_lt]
    exact (mem_range.mp hx).trans_le (Nat.le_add_right d m)
  · refine sum_congr rfl fun a ha => ?_
    rw [Nat.mod_eq_of_lt, add_comm]
    exact add_comm d m ▸ Nat.add_lt_add_right (mem_range.mp ha) d

theorem repCenter_sum (n : ℕ) (S : ℕ → K) : (repCenter n S).sum = ∑ k ∈ range n, S k := by
  rw [repCenter, vec_sum, sum_rot (Nat.div_le_self n 2)]

/-- no symmetry needed: every entry is its own bin plus, at the interior frequencies `1 ≤ k < n - n/2`, the mirror bin
`S (n - k)`; the mirror bins are the bins `n/2 < j < n` read backwards -/
theorem repOne_sum {n : ℕ} (hn : 1 ≤ n) (S : ℕ → K) : (repOne n S).sum = ∑ k ∈ range n, S k := by
  have entry : ∀ k ∈ range (n / 2 + 1),
      (if k = 0 then S 0 else if n % 2 = 0 ∧ k = n / 2 then S k else S k + S (n - k))
        = S k + if k ∈ Ico 1 (n - n / 2) then S (n - k) else 0 := by
    intro k hk
    have hk2 : 2 * k ≤ n := lt_half_succ_iff.mp (mem_range.mp hk)
    simp only [mem_Ico, lt_sub_half_iff, nyquist_iff]
    rcases Nat.eq_zero_or_pos k with rfl | h0
    · rw [if_pos rfl, if_neg (fun h => absurd h.1 (Nat.not_succ_le_zero 0)), add_zero]
    · rw [if_neg h0.ne']
      rcases hk2.eq_or_lt with he | hl
      · rw [if_pos he, if_neg (fun h => absurd he h.2.ne), add_zero]
      · rw [if_neg hl.ne, if_pos ⟨h0, hl⟩]
  have hsub : Ico 1 (n - n / 2) ⊆ range (n / 2 + 1) := fun k hk =>
    mem_range.mpr (lt_half_succ_iff.mpr (lt_sub_half_iff.mp (mem_Ico.mp hk).2).le)
  rw [repOne, vec_sum, sum_congr rfl entry, sum_add_distrib,
    sum_ite_mem, inter_eq_right.mpr hsub, sum_Ico_reflect S 1 ((Nat.sub_le n _).trans (Nat.le_succ n)),
    show n + 1 - (n - n / 2) = n / 2 + 1 by rw [Nat.succ_sub (Nat.sub_le _ _), Nat.sub_sub_self (Nat.div_le_self n 2)],
    Nat.add_sub_cancel, range_eq_Ico, range_eq_Ico,
    sum_Ico_consecutive S (Nat.zero_le _) (Nat.succ_le_of_lt (Nat.div_lt_self hn Nat.one_lt_two))]

theorem rangeBins_length (sd : Side) (n : ℕ) :
    (rangeBins sd n).length = match sd with
      | .one => n / 2 + 1
      | .two => n
      | .center => n := by
  cases sd
  · simp only [rangeBins, List.length_map, List.length_range]
    split_ifs
    · rfl
    · omega
  · simp only [rangeBins, List.length_map, List.length_range]
  · simp only [rangeBins, List.length_map, List.length_range]

theorem rangeBins_one_getElem (n i : ℕ) (h : i < (rangeBins .one n).length) :
    (rangeBins .one n)[i] = (i : Int) := by
  simp [rangeBins]

theorem rangeBins_two_getElem (n i : ℕ) (h : i < (rangeBins .two n).length) :
    (rangeBins .two n)[i] = (i : Int) := by
  simp [rangeBins]

theorem rangeBins_center_getElem (n i : ℕ) (h : i < (rangeBins .center n).length) :
    (rangeBins .center n)[i] = (i : Int) - ((n / 2 : ℕ) : Int) := by
  simp [rangeBins]

theorem binIdx_eq {n : ℕ} (r : ℕ) (q b : Int) (hr : r < n) (h : b = (r : Int) + (n : Int) * q) :
    binIdx n b = r := by
  unfold binIdx
  rw [h, Int.add_mul_emod_self_left, Int.emod_eq_of_lt (by omega) (by omega), Int.toNat_natCast]

theorem binIdx_lt {n : ℕ} (hn : 0 < n) (b : Int) : binIdx n b < n := by
  unfold binIdx
  have h1 : b % (n : Int) < n := Int.emod_lt_of_pos _ (by omega)
  have h0 : 0 ≤ b % (n : Int) := Int.emod_nonneg _ (by omega)
  omega

theorem binIdx_natCast {n i : ℕ} (hi : i < n) : binIdx n (i : Int) = i :=
  binIdx_eq i 0 _ hi (by simp)

theorem binIdx_neg_natCast {n i : ℕ} (h0 : 0 < i) (hi : i < n) : binIdx n (-(i : Int)) = n - i :=
  binIdx_eq (n - i) (-1) _ (Nat.sub_lt (Nat.zero_lt_of_lt hi) h0)
    (by rw [Nat.cast_sub hi.le, Int.mul_neg_one, ← sub_eq_add_neg, sub_sub_cancel_left])

theorem binIdx_center {n i : ℕ} :
    binIdx n ((i : Int) - ((n / 2 : ℕ) : Int)) = (i + n - n / 2) % n := by
  -- adding `n` to the bin makes it the natural number `i + n - n/2`
  rw [binIdx, ← Int.add_mul_emod_self_left _ (n : Int) 1, Int.mul_one, sub_add_eq_add_sub, ← Nat.cast_add,
    ← Nat.cast_sub ((Nat.div_le_self n 2).trans (Nat.le_add_left n i)), ← Int.natCast_mod, Int.toNat_natCast]

theorem nth_repOne_eq_foldBin {n : ℕ} (hn : 1 ≤ n) (S : ℕ → K) {k : ℕ} (hk : k < n / 2 + 1) :
    nth (repOne n S) k = foldBin n S (k : Int) := by
  unfold foldBin
  have hkn : k < n := (Nat.lt_succ_iff.mp hk).trans_lt (Nat.div_lt_self hn Nat.one_lt_two)
  rcases onesided_cases hk with rfl | ⟨h0, h⟩ | ⟨h0, h⟩
  · have z : binIdx n 0 = 0 := binIdx_natCast (i := 0) hn
    rw [Nat.cast_zero, neg_zero, if_pos rfl, z, nth_repOne_zero]
  · rw [nth_repOne_nyq h0 h, binIdx_natCast hkn, binIdx_neg_natCast h0 hkn,
      if_pos (Nat.sub_eq_of_eq_add (h.symm.trans (two_mul k))).symm]
  · rw [nth_repOne_interior h0 h, binIdx_natCast hkn, binIdx_neg_natCast h0 hkn,
      if_neg fun e => Nat.lt_asymm h (by rw [e]; exact lt_two_mul_sub h)]

/-- every list of the right length is the representation of some spectrum (this one and the two `_complete` lemmas below) -/
theorem repTwo_complete {n : ℕ} (p : List K) (hp : p.length = n) : repTwo n (nth p) = p := by
  subst hp
  exact (eq_vec_nth p).symm

theorem repCenter_complete {n : ℕ} (p : List K) (hp : p.length = n) :
    repCenter n (fun k => nth p ((k + n / 2) % n)) = p := by
  refine list_ext_nth ((repCenter_length _ _).trans hp.symm) fun a ha => ?_
  rw [repCenter_length] at ha
  rw [nth_repCenter ha, Nat.add_sub_assoc (Nat.div_le_self n 2),
    add_mod_add_mod_cancel (Nat.sub_add_cancel (Nat.div_le_self n 2)) ha]

theorem repOne_complete (h2 : (2 : K) ≠ 0) {n : ℕ} (p : List K) (hp : p.length = n / 2 + 1) :
    repOne n (unfoldSpec n p) = p := by
  refine list_ext_nth ((repOne_length _ _).trans hp.symm) fun k hk => ?_
  rw [repOne_length] at hk
  rcases onesided_cases hk with rfl | ⟨h0, h⟩ | ⟨h0, h⟩
  · rw [nth_repOne_zero, unfoldSpec_zero]
  · rw [nth_repOne_nyq h0 h, unfoldSpec_nyq h0 h]
  · rw [nth_repOne_interior h0 h, unfoldSpec_pos h0 h, unfoldSpec_neg (lt_two_mul_sub h),
      Nat.sub_sub_self (lt_of_two_mul_lt h).le, ← add_div, ← two_mul, mul_div_cancel_left₀ _ h2]

theorem path_of_refines (P : Side → Prop) (isComplex : Bool) (n : ℕ) (S : ℕ → K)
    (href : ∀ s t, P s → P t → convert s t isComplex n (rep s n S) = some (rep t n S))
    (ts : List Side) (s : Side) (hs : P s) (hts : ∀ t ∈ ts, P t) :
    convertPath isComplex n s ts (rep s n S) = some (rep (ts.getLastD s) n S) := by
  induction ts generalizing s with
  | nil => rfl
  | cons t ts ih =>
    have ht : P t := hts t (List.mem_cons_self ..)
    rw [convertPath, href s t hs ht, Option.bind_some, ih t ht fun u hu => hts u (List.mem_cons_of_mem _ hu),
      List.getLastD_cons]

end Lemmas
end SpecVerif
