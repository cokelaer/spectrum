import SpecVerif.Proofs.Lemmas.Correlation
import SpecVerif.Proofs.Lemmas.Norm
import SpecVerif.Model.Estimators
import Mathlib.Algebra.BigOperators.Ring.Finset
import Mathlib.Tactic.LinearCombination
import Mathlib.Tactic.Linarith
/-
  Least squares on a data matrix given by functions `X1 : ℕ → K` (first column) and `Xc : ℕ → ℕ → K`
  (regressors): the residual is `X1 + Xc a` — the sign convention of `lsFit`, which hands `-X_c` to
  `lstsq`.  Normal equations ⇔ minimiser (Pythagoras; the converse needs an order: `RCLike`); the
  solution is unique when the Gram matrix `X_cᴴX_c` has a trivial kernel (`GramInj`); the square system
  that `lstsq` hands to `solveVec` is the normal equations (`normalEq_iff_gramSystem`).
-/
namespace SpecVerif.LSL
open Finset SpecVerif

section Generic
variable {K : Type} [Field K]

def lsRes (X1 : ℕ → K) (Xc : ℕ → ℕ → K) (p : ℕ) (a : ℕ → K) (i : ℕ) : K :=
  X1 i + ∑ j ∈ range p, Xc i j * a j

def lsDiff (Xc : ℕ → ℕ → K) (p : ℕ) (a a' : ℕ → K) (i : ℕ) : K :=
  ∑ j ∈ range p, Xc i j * (a' j - a j)

theorem lsRes_add_diff (X1 : ℕ → K) (Xc : ℕ → ℕ → K) (p : ℕ) (a a' : ℕ → K) (i : ℕ) :
    lsRes X1 Xc p a' i = lsRes X1 Xc p a i + lsDiff Xc p a a' i := by
  unfold lsRes lsDiff
  rw [add_assoc, ← Finset.sum_add_distrib]
  refine congrArg (X1 i + ·) (Finset.sum_congr rfl (fun j _ => ?_))
  rw [← mul_add, add_sub_cancel]

theorem lsRes_congr {X1 X1' : ℕ → K} {Xc Xc' : ℕ → ℕ → K} {p : ℕ} {a a' : ℕ → K} {i : ℕ}
    (h1 : X1 i = X1' i) (hc : ∀ j, j < p → Xc i j = Xc' i j) (ha : ∀ j, j < p → a j = a' j) :
    lsRes X1 Xc p a i = lsRes X1' Xc' p a' i := by
  unfold lsRes
  rw [h1]
  refine congrArg (X1' i + ·) (Finset.sum_congr rfl (fun j hj => ?_))
  rw [hc j (mem_range.mp hj), ha j (mem_range.mp hj)]

theorem lsRes_perturb (X1 : ℕ → K) (Xc : ℕ → ℕ → K) (p : ℕ) (a : ℕ → K) (b : ℕ) (hb : b < p)
    (τ : K) (i : ℕ) :
    lsRes X1 Xc p (fun j => a j - if j = b then τ else 0) i = lsRes X1 Xc p a i - Xc i b * τ := by
  unfold lsRes
  have : ∀ j ∈ range p, Xc i j * (a j - if j = b then τ else 0)
      = Xc i j * a j - (if j = b then Xc i j * τ else 0) := by
    intro j _
    by_cases h : j = b
    · rw [if_pos h, if_pos h, mul_sub]
    · rw [if_neg h, if_neg h, sub_zero, sub_zero]
  rw [Finset.sum_congr rfl this, Finset.sum_sub_distrib, Finset.sum_ite_eq' (range p) b,
    if_pos (mem_range.mpr hb)]
  ring

variable [StarRing K]

def lsEnergy (X1 : ℕ → K) (Xc : ℕ → ℕ → K) (r p : ℕ) (a : ℕ → K) : K :=
  ∑ i ∈ range r, lsRes X1 Xc p a i * star (lsRes X1 Xc p a i)

def NormalEq (X1 : ℕ → K) (Xc : ℕ → ℕ → K) (r p : ℕ) (a : ℕ → K) : Prop :=
  ∀ b, b < p → ∑ i ∈ range r, star (Xc i b) * lsRes X1 Xc p a i = 0

variable {X1 : ℕ → K} {Xc : ℕ → ℕ → K} {r p : ℕ} {a : ℕ → K}

theorem cross_zero (h : NormalEq X1 Xc r p a) (d : ℕ → K) :
    ∑ i ∈ range r, star (∑ j ∈ range p, Xc i j * d j) * lsRes X1 Xc p a i = 0 := by
  have h1 : ∀ i ∈ range r, star (∑ j ∈ range p, Xc i j * d j) * lsRes X1 Xc p a i
      = ∑ j ∈ range p, star (d j) * (star (Xc i j) * lsRes X1 Xc p a i) := by
    intro i _
    rw [star_sum, Finset.sum_mul]
    apply Finset.sum_congr rfl
    intro j _
    rw [star_mul']
    ring
  rw [Finset.sum_congr rfl h1, Finset.sum_comm]
  apply Finset.sum_eq_zero
  intro j hj
  rw [← Finset.mul_sum, h j (mem_range.mp hj), mul_zero]

theorem pythagoras (h : NormalEq X1 Xc r p a) (a' : ℕ → K) :
    lsEnergy X1 Xc r p a'
      = lsEnergy X1 Xc r p a + ∑ i ∈ range r, lsDiff Xc p a a' i * star (lsDiff Xc p a a' i) := by
  have c1 : ∑ i ∈ range r, star (lsDiff Xc p a a' i) * lsRes X1 Xc p a i = 0 := cross_zero h _
  have c2 : ∑ i ∈ range r, lsDiff Xc p a a' i * star (lsRes X1 Xc p a i) = 0 := by
    have := congrArg star c1
    rw [star_sum, star_zero] at this
    rw [← this]
    exact Finset.sum_congr rfl (fun i _ => by rw [star_mul', star_star])
  unfold lsEnergy
  have h1 : ∀ i ∈ range r, lsRes X1 Xc p a' i * star (lsRes X1 Xc p a' i)
      = lsRes X1 Xc p a i * star (lsRes X1 Xc p a i)
        + lsDiff Xc p a a' i * star (lsDiff Xc p a a' i)
        + (star (lsDiff Xc p a a' i) * lsRes X1 Xc p a i
          + lsDiff Xc p a a' i * star (lsRes X1 Xc p a i)) := by
    intro i _
    rw [lsRes_add_diff X1 Xc p a a' i, star_add]
    ring
  rw [Finset.sum_congr rfl h1, Finset.sum_add_distrib, Finset.sum_add_distrib,
    Finset.sum_add_distrib]
  rw [c1, c2, add_zero, add_zero]

theorem error_formula (h : NormalEq X1 Xc r p a) :
    ∑ i ∈ range r, star (X1 i) * X1 i
        + ∑ j ∈ range p, (∑ i ∈ range r, star (X1 i) * Xc i j) * a j
      = lsEnergy X1 Xc r p a := by
  have c1 := cross_zero h a
  unfold lsEnergy
  have h1 : ∀ i ∈ range r, lsRes X1 Xc p a i * star (lsRes X1 Xc p a i)
      = star (X1 i) * lsRes X1 Xc p a i
        + star (∑ j ∈ range p, Xc i j * a j) * lsRes X1 Xc p a i := by
    intro i _
    have hs : star (lsRes X1 Xc p a i) = star (X1 i) + star (∑ j ∈ range p, Xc i j * a j) :=
      star_add _ _
    rw [mul_comm, hs, add_mul]
  rw [Finset.sum_congr rfl h1, Finset.sum_add_distrib, c1, add_zero]
  have h2 : ∀ i ∈ range r, star (X1 i) * lsRes X1 Xc p a i
      = star (X1 i) * X1 i + ∑ j ∈ range p, star (X1 i) * Xc i j * a j := by
    intro i _
    unfold lsRes
    rw [mul_add, Finset.mul_sum]
    exact congrArg (star (X1 i) * X1 i + ·)
      (Finset.sum_congr rfl (fun j _ => (mul_assoc _ _ _).symm))
  rw [Finset.sum_congr rfl h2, Finset.sum_add_distrib, Finset.sum_comm]
  exact congrArg (∑ i ∈ range r, star (X1 i) * X1 i + ·)
    (Finset.sum_congr rfl (fun j _ => Finset.sum_mul _ _ _))

theorem energy_perturb (X1 : ℕ → K) (Xc : ℕ → ℕ → K) (r p : ℕ) (a : ℕ → K) (b : ℕ) (hb : b < p)
    (τ : K) :
    lsEnergy X1 Xc r p (fun j => a j - if j = b then τ else 0)
      = lsEnergy X1 Xc r p a
        - τ * star (∑ i ∈ range r, star (Xc i b) * lsRes X1 Xc p a i)
        - star τ * (∑ i ∈ range r, star (Xc i b) * lsRes X1 Xc p a i)
        + τ * star τ * ∑ i ∈ range r, Xc i b * star (Xc i b) := by
  unfold lsEnergy
  rw [star_sum, Finset.mul_sum, Finset.mul_sum, Finset.mul_sum, ← Finset.sum_sub_distrib,
    ← Finset.sum_sub_distrib, ← Finset.sum_add_distrib]
  apply Finset.sum_congr rfl
  intro i _
  rw [lsRes_perturb X1 Xc p a b hb τ i, star_sub, star_mul', star_mul', star_star]
  ring

theorem normalEq_of_res_zero (h : ∀ i, i < r → lsRes X1 Xc p a i = 0) : NormalEq X1 Xc r p a := by
  intro b _
  apply Finset.sum_eq_zero
  intro i hi
  rw [h i (mem_range.mp hi), mul_zero]

theorem lsEnergy_of_res_zero (h : ∀ i, i < r → lsRes X1 Xc p a i = 0) :
    lsEnergy X1 Xc r p a = 0 := by
  unfold lsEnergy
  apply Finset.sum_eq_zero
  intro i hi
  rw [h i (mem_range.mp hi), zero_mul]

end Generic
end SpecVerif.LSL

namespace SpecVerif.ShiftLSL
open Finset
variable {K : Type} [Field K] [StarRing K]

/-- the Gram matrix `X_cᴴX_c` of the `r × p` regressor block has a trivial kernel (`GramInj` and `ColInj`
stand in the namespace under which the statements of C04 name them) -/
def GramInj (Xc : ℕ → ℕ → K) (r p : ℕ) : Prop :=
  ∀ d : ℕ → K,
    (∀ b, b < p → ∑ i ∈ range r, star (Xc i b) * ∑ j ∈ range p, Xc i j * d j = 0) →
      ∀ j, j < p → d j = 0

/-- full column rank of the `r × p` regressor block -/
def ColInj (Xc : ℕ → ℕ → K) (r p : ℕ) : Prop :=
  ∀ d : ℕ → K, (∀ i, i < r → ∑ j ∈ range p, Xc i j * d j = 0) → ∀ j, j < p → d j = 0

end SpecVerif.ShiftLSL

namespace SpecVerif.LSL
open Finset SpecVerif SpecVerif.ShiftLSL

section Unique
variable {K : Type} [Field K] [StarRing K]

theorem normalEq_unique {X1 : ℕ → K} {Xc : ℕ → ℕ → K} {r p : ℕ} {a a' : ℕ → K}
    (hG : GramInj Xc r p) (h : NormalEq X1 Xc r p a) (h' : NormalEq X1 Xc r p a') :
    ∀ j, j < p → a' j = a j := by
  have key := hG (fun j => a' j - a j) (fun b hb => by
    have e : ∀ i ∈ range r, star (Xc i b) * ∑ j ∈ range p, Xc i j * (a' j - a j)
        = star (Xc i b) * lsRes X1 Xc p a' i - star (Xc i b) * lsRes X1 Xc p a i := by
      intro i _
      rw [lsRes_add_diff X1 Xc p a a' i]
      unfold lsDiff
      ring
    rw [Finset.sum_congr rfl e, Finset.sum_sub_distrib, h b hb, h' b hb, sub_zero])
  intro j hj
  exact sub_eq_zero.mp (key j hj)

/-- two least-squares problems whose normal equations and energies correspond under a map `τ` of the
coefficient vectors: a solution `a'` of the first is carried to the (unique) solution `a` of the second -/
theorem ls_transport {X1 X1' : ℕ → K} {Xc Xc' : ℕ → ℕ → K} {r r' p : ℕ} (τ : (ℕ → K) → ℕ → K)
    (φ : K → K) (hN : ∀ f, NormalEq X1' Xc' r' p f → NormalEq X1 Xc r p (τ f))
    (hE : ∀ f, lsEnergy X1' Xc' r' p f = φ (lsEnergy X1 Xc r p (τ f)))
    {a a' : ℕ → K} (h' : NormalEq X1' Xc' r' p a')
    (huniq : ∀ f, NormalEq X1 Xc r p f → ∀ j, j < p → f j = a j) :
    (∀ j, j < p → τ a' j = a j) ∧ lsEnergy X1' Xc' r' p a' = φ (lsEnergy X1 Xc r p a) := by
  have hag := huniq _ (hN _ h')
  refine ⟨hag, ?_⟩
  rw [hE]
  unfold lsEnergy
  exact congrArg φ (Finset.sum_congr rfl (fun i _ => by rw [lsRes_congr rfl (fun _ _ => rfl) hag]))

end Unique

section RC
variable {𝕜 : Type} [RCLike 𝕜]

noncomputable def lsEnergyR (X1 : ℕ → 𝕜) (Xc : ℕ → ℕ → 𝕜) (r p : ℕ) (a : ℕ → 𝕜) : ℝ :=
  ∑ i ∈ range r, ‖lsRes X1 Xc p a i‖ ^ 2

theorem lsEnergy_ofReal (X1 : ℕ → 𝕜) (Xc : ℕ → ℕ → 𝕜) (r p : ℕ) (a : ℕ → 𝕜) :
    lsEnergy X1 Xc r p a = ((lsEnergyR X1 Xc r p a : ℝ) : 𝕜) :=
  sum_mul_star_eq_ofReal _ _

theorem lsEnergyR_nonneg (X1 : ℕ → 𝕜) (Xc : ℕ → ℕ → 𝕜) (r p : ℕ) (a : ℕ → 𝕜) :
    0 ≤ lsEnergyR X1 Xc r p a :=
  Finset.sum_nonneg (fun _ _ => sq_nonneg _)

variable {X1 : ℕ → 𝕜} {Xc : ℕ → ℕ → 𝕜} {r p : ℕ} {a : ℕ → 𝕜}

theorem pythagorasR (h : NormalEq X1 Xc r p a) (a' : ℕ → 𝕜) :
    lsEnergyR X1 Xc r p a'
      = lsEnergyR X1 Xc r p a + ∑ i ∈ range r, ‖lsDiff Xc p a a' i‖ ^ 2 := by
  have hp := pythagoras h a'
  rw [lsEnergy_ofReal, lsEnergy_ofReal] at hp
  rw [sum_mul_star_eq_ofReal, ← RCLike.ofReal_add, RCLike.ofReal_inj] at hp
  exact hp

theorem lsEnergyR_le (h : NormalEq X1 Xc r p a) (a' : ℕ → 𝕜) :
    lsEnergyR X1 Xc r p a ≤ lsEnergyR X1 Xc r p a' := by
  rw [pythagorasR h a']
  exact le_add_of_nonneg_right (Finset.sum_nonneg (fun _ _ => sq_nonneg _))

theorem res_zero_of_energyR_zero (h : lsEnergyR X1 Xc r p a = 0) :
    ∀ i, i < r → lsRes X1 Xc p a i = 0 := by
  intro i hi
  unfold lsEnergyR at h
  have := (Finset.sum_eq_zero_iff_of_nonneg (fun _ _ => sq_nonneg _)).mp h i (mem_range.mpr hi)
  exact norm_eq_zero.mp ((pow_eq_zero_iff two_ne_zero).mp this)

theorem res_zero_of_normalEq_of_zero_fit {a0 : ℕ → 𝕜} (h : NormalEq X1 Xc r p a) (h0 : ∀ i, i < r → lsRes X1 Xc p a0 i = 0) :
    ∀ i, i < r → lsRes X1 Xc p a i = 0 := by
  apply res_zero_of_energyR_zero
  have hz : lsEnergyR X1 Xc r p a0 = 0 := by
    unfold lsEnergyR
    apply Finset.sum_eq_zero
    intro i hi
    rw [h0 i (mem_range.mp hi), norm_zero, zero_pow two_ne_zero]
  exact le_antisymm (hz ▸ lsEnergyR_le h a0) (lsEnergyR_nonneg X1 Xc r p a)

/-- a kernel vector `d` of the Gram matrix solves the normal equations of the problem with first
column `0`, which `0` fits exactly -/
theorem gramInj_of_colInj {Xc : ℕ → ℕ → 𝕜} {r p : ℕ} (hC : ColInj Xc r p) : GramInj Xc r p := by
  intro d hd
  have hres : ∀ (f : ℕ → 𝕜) i, lsRes (fun _ => 0) Xc p f i = ∑ j ∈ range p, Xc i j * f j :=
    fun f i => zero_add _
  have hn : NormalEq (fun _ => (0 : 𝕜)) Xc r p d := by
    intro b hb
    simp only [hres]
    exact hd b hb
  have h0 : ∀ i, i < r → lsRes (fun _ => (0 : 𝕜)) Xc p (fun _ => 0) i = 0 := by
    intro i _
    rw [hres]
    exact Finset.sum_eq_zero (fun j _ => mul_zero _)
  apply hC d
  intro i hi
  rw [← hres]
  exact res_zero_of_normalEq_of_zero_fit hn h0 i hi

theorem normalEq_of_minimiser
    (hmin : ∀ a' : ℕ → 𝕜, lsEnergyR X1 Xc r p a ≤ lsEnergyR X1 Xc r p a') :
    NormalEq X1 Xc r p a := by
  intro b hb
  have hS : ∑ i ∈ range r, Xc i b * star (Xc i b) = ((∑ i ∈ range r, ‖Xc i b‖ ^ 2 : ℝ) : 𝕜) :=
    sum_mul_star_eq_ofReal _ _
  have hSR0 : 0 ≤ ∑ i ∈ range r, ‖Xc i b‖ ^ 2 := Finset.sum_nonneg (fun _ _ => sq_nonneg _)
  have hE := energy_perturb X1 Xc r p a b hb
  generalize (∑ i ∈ range r, ‖Xc i b‖ ^ 2) = SR at hS hSR0
  generalize (∑ i ∈ range r, star (Xc i b) * lsRes X1 Xc p a i) = G at hE ⊢
  -- along the line `a - t·G·e_b`, `t` real, the energy is the parabola `E - t(2 - tS)|G|²`
  have key : ∀ t : ℝ, lsEnergyR X1 Xc r p (fun j => a j - if j = b then (t : 𝕜) * G else 0)
      = lsEnergyR X1 Xc r p a - t * (2 - t * SR) * ‖G‖ ^ 2 := by
    intro t
    have h := hE ((t : 𝕜) * G)
    rw [hS, lsEnergy_ofReal, lsEnergy_ofReal] at h
    have hst : star (t : 𝕜) = (t : 𝕜) := RCLike.conj_ofReal t
    have e1 : (t : 𝕜) * G * star G = ((t * ‖G‖ ^ 2 : ℝ) : 𝕜) := by
      rw [mul_assoc, mul_star_eq_ofReal, ← RCLike.ofReal_mul]
    have e2 : star ((t : 𝕜) * G) * G = ((t * ‖G‖ ^ 2 : ℝ) : 𝕜) := by
      rw [star_mul', hst, mul_assoc, mul_comm (star G) G, mul_star_eq_ofReal, ← RCLike.ofReal_mul]
    have e3 : (t : 𝕜) * G * star ((t : 𝕜) * G) = ((t ^ 2 * ‖G‖ ^ 2 : ℝ) : 𝕜) := by
      rw [mul_star_eq_ofReal, norm_mul, RCLike.norm_ofReal, mul_pow, sq_abs]
    rw [e1, e2, e3, ← RCLike.ofReal_sub, ← RCLike.ofReal_sub, ← RCLike.ofReal_mul,
      ← RCLike.ofReal_add, RCLike.ofReal_inj] at h
    rw [h]
    ring
  -- at `t = 1/(S+1)` (so `tS ≤ 1`) the parabola lies below `E` unless `G = 0`
  have hpos : 0 < SR + 1 := add_pos_of_nonneg_of_pos hSR0 one_pos
  have hts : 1 / (SR + 1) * SR ≤ 1 := by
    rw [one_div_mul_eq_div]
    exact (div_le_one hpos).mpr (le_add_of_nonneg_right zero_le_one)
  have hc : 0 < 1 / (SR + 1) * (2 - 1 / (SR + 1) * SR) :=
    mul_pos (one_div_pos.mpr hpos) (sub_pos.mpr (lt_of_le_of_lt hts one_lt_two))
  have hm := hmin (fun j => a j - if j = b then (((1 / (SR + 1) : ℝ)) : 𝕜) * G else 0)
  rw [key] at hm
  have hG0 : ‖G‖ ^ 2 ≤ 0 := by
    by_contra hcon
    exact absurd hm (not_le.mpr (sub_lt_self _ (mul_pos hc (not_le.mp hcon))))
  exact norm_eq_zero.mp ((pow_eq_zero_iff two_ne_zero).mp (le_antisymm hG0 (sq_nonneg _)))

end RC

section Model
variable {K : Type} [Field K]

/-- `t - 1 - j` is truncated subtraction: meant for `t ≥ p` -/
def fwdErr (x : List K) (p : ℕ) (a : ℕ → K) (t : ℕ) : K :=
  nth x t + ∑ j ∈ range p, a j * nth x (t - 1 - j)

def col0 (X : Mat K) (i : ℕ) : K := mentryM X i 0

def colR (X : Mat K) (i j : ℕ) : K := mentryM X i (j + 1)

theorem mentryM_eq_mentry (X : Mat K) (i j : ℕ) : mentryM X i j = mentry X i j := rfl

/-- the matrix `-X_c` handed to `lstsq` by `lsFit` -/
def negXc (X : Mat K) (rows p : ℕ) : Mat K :=
  vec rows (fun i => vec p (fun j => -(mentryM X i (j + 1))))

/-- the right-hand side `X_1` handed to `lstsq` by `lsFit` -/
def rhsX1 (X : Mat K) (rows : ℕ) : List K := vec rows (fun i => mentryM X i 0)

variable [StarRing K]

def bwdErr (x : List K) (p : ℕ) (a : ℕ → K) (s : ℕ) : K :=
  nth x s + ∑ j ∈ range p, star (a j) * nth x (s + 1 + j)

def fwdEnergy (x : List K) (p : ℕ) (a : ℕ → K) : K :=
  ∑ t ∈ Ico p x.length, fwdErr x p a t * star (fwdErr x p a t)

def bwdEnergy (x : List K) (p : ℕ) (a : ℕ → K) : K :=
  ∑ s ∈ range (x.length - p), bwdErr x p a s * star (bwdErr x p a s)

/-- the quantity `e = X₁ᴴX₁ + X₁ᴴX_c a` computed by `lsFit` -/
def lsErr (X : Mat K) (rows p : ℕ) (a : ℕ → K) : K :=
  ∑ i ∈ range rows, star (col0 X i) * col0 X i
    + ∑ j ∈ range p, (∑ i ∈ range rows, star (col0 X i) * colR X i j) * a j

variable [IsZero K]

theorem lsFit_eq (X : Mat K) (rows p : ℕ) :
    lsFit X rows p
      = (lstsq (negXc X rows p) (rhsX1 X rows) rows p).map (fun a => (a, lsErr X rows p (nth a))) := by
  unfold lsFit
  show (match lstsq (negXc X rows p) (rhsX1 X rows) rows p with
    | none => none
    | some a => some (a, _)) = _
  cases lstsq (negXc X rows p) (rhsX1 X rows) rows p with
  | none => rfl
  | some a =>
    have hX1 : ∀ i ∈ range rows, nth (vec rows (fun i => mentryM X i 0)) i = col0 X i :=
      fun i hi => nth_vec_lt _ (mem_range.mp hi)
    refine congrArg (fun e => some (a, e)) ?_
    rw [sumR_eq_sum, sumR_eq_sum]
    unfold lsErr
    refine congrArg₂ (· + ·) (Finset.sum_congr rfl (fun i hi => ?_))
      (Finset.sum_congr rfl (fun j _ => ?_))
    · rw [hX1 i hi]
      rfl
    · rw [sumR_eq_sum]
      exact congrArg (· * nth a j) (Finset.sum_congr rfl (fun i hi => by rw [hX1 i hi]; rfl))

theorem lsFit_eq_some {X : Mat K} {rows p : ℕ} {a : List K} {e : K}
    (h : lsFit X rows p = some (a, e)) :
    lstsq (negXc X rows p) (rhsX1 X rows) rows p = some a ∧ e = lsErr X rows p (nth a) := by
  rw [lsFit_eq, Option.map_eq_some_iff] at h
  obtain ⟨a0, h1, h2⟩ := h
  cases h2
  exact ⟨h1, rfl⟩

theorem lsFit_of_lstsq {X : Mat K} {rows p : ℕ} {a : List K}
    (h : lstsq (negXc X rows p) (rhsX1 X rows) rows p = some a) :
    ∃ e, lsFit X rows p = some (a, e) :=
  ⟨_, by rw [lsFit_eq, h]; rfl⟩

theorem lsFit_order_zero (X : Mat K) (rows : ℕ) :
    lsFit X rows 0 = some ([], ∑ i ∈ range rows, star (col0 X i) * col0 X i) := by
  -- no column: the elimination's fold over `range 0` is empty
  have hl : lstsq (negXc X rows 0) (rhsX1 X rows) rows 0 = some [] := rfl
  obtain ⟨e, he⟩ := lsFit_of_lstsq hl
  rw [he, (lsFit_eq_some he).2]
  unfold lsErr
  rw [Finset.sum_range_zero, add_zero]

/-- the hypothesis `hn` is the contract of the least-squares solver (`GJL.lsFit_sound` proves it for the
model's solver) -/
theorem lsFit_error {X : Mat K} {rows p : ℕ} {a : List K} {e : K}
    (h : lsFit X rows p = some (a, e)) (hn : NormalEq (col0 X) (colR X) rows p (nth a)) :
    e = lsEnergy (col0 X) (colR X) rows p (nth a) ∧
    ∀ a' : ℕ → K, lsEnergy (col0 X) (colR X) rows p a'
      = e + ∑ i ∈ range rows, lsDiff (colR X) p (nth a) a' i * star (lsDiff (colR X) p (nth a) a' i) := by
  have he : e = lsEnergy (col0 X) (colR X) rows p (nth a) := by
    rw [(lsFit_eq_some h).2]
    exact error_formula hn
  exact ⟨he, fun a' => he ▸ pythagoras hn a'⟩

/-- the hypothesis `hmin` is the literal contract of the least-squares solver: "returns a minimiser" -/
theorem lsFit_of_minimiser {𝕜 : Type} [RCLike 𝕜] [IsZero 𝕜] {X : Mat 𝕜} {rows p : ℕ} {a : List 𝕜} {e : 𝕜}
    (h : lsFit X rows p = some (a, e))
    (hmin : ∀ a' : ℕ → 𝕜, lsEnergyR (col0 X) (colR X) rows p (nth a)
      ≤ lsEnergyR (col0 X) (colR X) rows p a') :
    NormalEq (col0 X) (colR X) rows p (nth a) ∧
    e = ((lsEnergyR (col0 X) (colR X) rows p (nth a) : ℝ) : 𝕜) := by
  have hn := normalEq_of_minimiser hmin
  exact ⟨hn, by rw [(lsFit_error h hn).1, lsEnergy_ofReal]⟩

theorem fwdEnergy_ofReal {𝕜 : Type} [RCLike 𝕜] (x : List 𝕜) (p : ℕ) (a : ℕ → 𝕜) :
    fwdEnergy x p a = ((∑ t ∈ Ico p x.length, ‖fwdErr x p a t‖ ^ 2 : ℝ) : 𝕜) :=
  sum_mul_star_eq_ofReal _ _

theorem bwdEnergy_ofReal {𝕜 : Type} [RCLike 𝕜] (x : List 𝕜) (p : ℕ) (a : ℕ → 𝕜) :
    bwdEnergy x p a = ((∑ s ∈ range (x.length - p), ‖bwdErr x p a s‖ ^ 2 : ℝ) : 𝕜) :=
  sum_mul_star_eq_ofReal _ _

end Model

section System
variable {K : Type} [Field K]

theorem mentryM_vec_vec (R C : ℕ) (f : ℕ → ℕ → K) (i j : ℕ) (hi : i < R) (hj : j < C) :
    mentryM (vec R (fun i => vec C (f i))) i j = f i j :=
  mentry_vec_vec R C f i j hi hj

theorem mentryM_negXc (X : Mat K) (rows p i l : ℕ) (hi : i < rows) (hl : l < p) :
    mentryM (negXc X rows p) i l = -(colR X i l) := by
  unfold negXc
  rw [mentryM_vec_vec rows p (fun i j => -(mentryM X i (j + 1))) i l hi hl]
  rfl

theorem mentryM_matMul (A B : Mat K) (r n c i j : ℕ) (hi : i < r) (hj : j < c) :
    mentryM (matMul A B r n c) i j = ∑ k ∈ range n, mentryM A i k * mentryM B k j := by
  unfold matMul
  rw [mentryM_vec_vec r c (fun i j => sumR n (fun k => mentryM A i k * mentryM B k j)) i j hi hj,
    sumR_eq_sum]

theorem nth_matVec (A : Mat K) (v : List K) (r n i : ℕ) (hi : i < r) :
    nth (matVec A v r n) i = ∑ k ∈ range n, mentryM A i k * nth v k := by
  unfold matVec
  rw [nth_vec, if_pos hi, sumR_eq_sum]

variable [StarRing K]

theorem mentryM_conjT (M : Mat K) (r c k i : ℕ) (hk : k < c) (hi : i < r) :
    mentryM (conjT M r c) k i = star (mentryM M i k) := by
  unfold conjT
  rw [mentryM_vec_vec c r (fun j i => conj (mentryM M i j)) k i hk hi]
  rfl

/-- the square system `(-X_c)ᴴ(-X_c) a = (-X_c)ᴴ X_1` that the model's `lstsq` hands to the linear
solver (`solveVec`) inside `lsFit X rows p` -/
def GramSystem (X : Mat K) (rows p : ℕ) (a : ℕ → K) : Prop :=
  ∀ k, k < p →
    ∑ l ∈ range p,
        mentryM (matMul (conjT (negXc X rows p) rows p) (negXc X rows p) p rows p) k l * a l
      = nth (matVec (conjT (negXc X rows p) rows p) (rhsX1 X rows) p rows) k

theorem gram_eq_vec (X : Mat K) (rows p : ℕ) :
    matMul (conjT (negXc X rows p) rows p) (negXc X rows p) p rows p
      = vec p (fun k => vec p (fun l => ∑ i ∈ range rows, star (colR X i k) * colR X i l)) := by
  unfold matMul
  apply vec_ext
  intro k hk
  apply vec_ext
  intro l hl
  rw [sumR_eq_sum]
  apply Finset.sum_congr rfl
  intro i hi
  rw [mentryM_conjT _ rows p k i hk (mem_range.mp hi),
    mentryM_negXc X rows p i k (mem_range.mp hi) hk,
    mentryM_negXc X rows p i l (mem_range.mp hi) hl, star_neg, neg_mul_neg]

theorem gramRhs_eq_vec (X : Mat K) (rows p : ℕ) :
    matVec (conjT (negXc X rows p) rows p) (rhsX1 X rows) p rows
      = vec p (fun k => -∑ i ∈ range rows, star (colR X i k) * col0 X i) := by
  unfold matVec
  apply vec_ext
  intro k hk
  rw [sumR_eq_sum, ← Finset.sum_neg_distrib]
  apply Finset.sum_congr rfl
  intro i hi
  unfold rhsX1
  rw [mentryM_conjT _ rows p k i hk (mem_range.mp hi),
    mentryM_negXc X rows p i k (mem_range.mp hi) hk, nth_vec_lt _ (mem_range.mp hi), star_neg,
    neg_mul]
  rfl

theorem gram_apply (X : Mat K) (rows p : ℕ) (d : ℕ → K) (k : ℕ) (hk : k < p) :
    ∑ l ∈ range p,
        mentryM (matMul (conjT (negXc X rows p) rows p) (negXc X rows p) p rows p) k l * d l
      = ∑ i ∈ range rows, star (colR X i k) * ∑ l ∈ range p, colR X i l * d l := by
  have : ∀ l ∈ range p,
      mentryM (matMul (conjT (negXc X rows p) rows p) (negXc X rows p) p rows p) k l * d l
        = ∑ i ∈ range rows, star (colR X i k) * (colR X i l * d l) := by
    intro l hl
    rw [gram_eq_vec, mentryM_vec_vec p p _ k l hk (mem_range.mp hl), Finset.sum_mul]
    exact Finset.sum_congr rfl (fun i _ => mul_assoc _ _ _)
  rw [Finset.sum_congr rfl this, Finset.sum_comm]
  exact Finset.sum_congr rfl (fun i _ => (Finset.mul_sum _ _ _).symm)

theorem lstsq_unfold [IsZero K] (X : Mat K) (rows p : ℕ) :
    lstsq (negXc X rows p) (rhsX1 X rows) rows p
      = solveVec (matMul (conjT (negXc X rows p) rows p) (negXc X rows p) p rows p)
          (matVec (conjT (negXc X rows p) rows p) (rhsX1 X rows) p rows) p := rfl

theorem normalEq_iff_gramSystem (X : Mat K) (rows p : ℕ) (a : ℕ → K) :
    NormalEq (col0 X) (colR X) rows p a ↔ GramSystem X rows p a := by
  unfold NormalEq GramSystem
  apply forall_congr'
  intro k
  apply imp_congr_right
  intro hk
  rw [gram_apply X rows p a k hk, gramRhs_eq_vec, nth_vec_lt _ hk]
  have hN : ∑ i ∈ range rows, star (colR X i k) * lsRes (col0 X) (colR X) p a i
      = ∑ i ∈ range rows, star (colR X i k) * col0 X i
        + ∑ i ∈ range rows, star (colR X i k) * ∑ l ∈ range p, colR X i l * a l := by
    rw [← Finset.sum_add_distrib]
    exact Finset.sum_congr rfl (fun i _ => mul_add _ _ _)
  rw [hN, add_comm, ← eq_neg_iff_add_eq_zero]

end System
end SpecVerif.LSL
