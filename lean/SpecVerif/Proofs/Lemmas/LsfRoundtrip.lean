import SpecVerif.Proofs.Lemmas.LsfInterlace
/-
  `lsf2poly` assigns the sorted frequencies to the two polynomials by position (`z[0::2]`, `z[1::2]`).  If
  the sorted positive angles alternate between roots of `rQ` and of `rP` (`C11.lsf_sorted_alternate`), the
  slices with their conjugates are rearrangements of `rQ` and `rP` (`slices_perm_roots`).
-/
namespace SpecVerif.LsfRoundtripL
open Finset SpecVerif SpecVerif.LpcL SpecVerif.LsfCircleL SpecVerif.LsfInterlaceL

section Slices
variable {α : Type}

/-- `l[0::2]` -/
def evens : List α → List α
  | [] => []
  | [x] => [x]
  | x :: _ :: t => x :: evens t

/-- `l[1::2]` -/
def odds : List α → List α
  | [] => []
  | [_] => []
  | _ :: y :: t => y :: odds t

theorem evens_sublist : ∀ l : List α, (evens l).Sublist l
  | [] => List.Sublist.slnil
  | [_] => List.Sublist.refl _
  | x :: y :: t => ((evens_sublist t).cons y).cons_cons x

theorem odds_sublist : ∀ l : List α, (odds l).Sublist l
  | [] => List.Sublist.slnil
  | [x] => List.Sublist.cons x List.Sublist.slnil
  | x :: y :: t => ((odds_sublist t).cons_cons y).cons x

theorem slices_cons : ∀ (l : List α) (x : α),
    evens (x :: l) = x :: odds l ∧ odds (x :: l) = evens l
  | [], _ => ⟨rfl, rfl⟩
  | y :: t, x => ⟨congrArg (x :: ·) (slices_cons t y).2.symm, (slices_cons t y).1.symm⟩

theorem mem_slices (x : α) : ∀ l : List α,
    (x ∈ evens l ↔ ∃ (i : ℕ) (h : i < l.length), i % 2 = 0 ∧ l[i] = x)
    ∧ (x ∈ odds l ↔ ∃ (i : ℕ) (h : i < l.length), i % 2 = 1 ∧ l[i] = x)
  | [] =>
    ⟨⟨fun h => absurd h List.not_mem_nil, fun ⟨i, hi, _⟩ => absurd hi (Nat.not_lt_zero i)⟩,
      ⟨fun h => absurd h List.not_mem_nil, fun ⟨i, hi, _⟩ => absurd hi (Nat.not_lt_zero i)⟩⟩
  | a :: l => by
    obtain ⟨ihE, ihO⟩ := mem_slices x l
    rw [(slices_cons l a).1, (slices_cons l a).2, List.mem_cons, ihO, ihE]
    constructor
    · constructor
      · rintro (h | ⟨i, hi, hpar, hx⟩)
        · exact ⟨0, Nat.zero_lt_succ _, rfl, h.symm⟩
        · exact ⟨i + 1, Nat.succ_lt_succ hi, Nat.succ_mod_two_eq_zero_iff.mpr hpar, hx⟩
      · rintro ⟨i, hi, hpar, hx⟩
        rcases i with _ | i
        · exact Or.inl hx.symm
        · exact Or.inr ⟨i, Nat.lt_of_succ_lt_succ hi, Nat.succ_mod_two_eq_zero_iff.mp hpar, hx⟩
    · constructor
      · rintro ⟨i, hi, hpar, hx⟩
        exact ⟨i + 1, Nat.succ_lt_succ hi, Nat.succ_mod_two_eq_one_iff.mpr hpar, hx⟩
      · rintro ⟨i, hi, hpar, hx⟩
        rcases i with _ | i
        · exact absurd hpar (by decide)
        · exact ⟨i, Nat.lt_of_succ_lt_succ hi, Nat.succ_mod_two_eq_one_iff.mp hpar, hx⟩

end Slices

theorem angles_perm_roots (R : List ℂ) (A : List ℝ) (hnd : R.Nodup)
    (hunit : ∀ r ∈ R, ‖r‖ = 1 ∧ r ≠ 1 ∧ r ≠ -1) (hconj : ∀ r ∈ R, star r ∈ R)
    (hA : A.Nodup) (hrange : ∀ θ ∈ A, 0 < θ ∧ θ < Real.pi)
    (hsub : ∀ θ ∈ A, θ ∈ R.map Complex.arg)
    (hsup : ∀ r ∈ R, 0 < r.arg → r.arg ∈ A) :
    (A.map eit ++ (A.map eit).map star).Perm R := by
  have hlow : ∀ θ ∈ A, -Real.pi < θ := fun θ hθ => (neg_neg_of_pos Real.pi_pos).trans (hrange θ hθ).1
  have hinj : ∀ a b : ℝ, -Real.pi < a → a ≤ Real.pi → -Real.pi < b → b ≤ Real.pi →
      eit a = eit b → a = b := by
    intro a b ha1 ha2 hb1 hb2 h
    rw [← arg_eit a ha1 ha2, ← arg_eit b hb1 hb2, h]
  have hnd1 : (A.map eit).Nodup := by
    refine List.Nodup.map_on ?_ hA
    intro x hx y hy hxy
    exact hinj x y (hlow x hx) (hrange x hx).2.le (hlow y hy) (hrange y hy).2.le hxy
  have hnd2 : ((A.map eit).map star).Nodup := hnd1.map star_injective
  rw [List.perm_ext_iff_of_nodup ?_ hnd]
  · intro x
    rw [List.mem_append]
    constructor
    · rintro (h | h)
      · obtain ⟨θ, hθ, rfl⟩ := List.mem_map.mp h
        obtain ⟨r, hr, hrθ⟩ := List.mem_map.mp (hsub θ hθ)
        rw [← hrθ, eit_arg r (hunit r hr).1]
        exact hr
      · obtain ⟨y, hy, rfl⟩ := List.mem_map.mp h
        obtain ⟨θ, hθ, rfl⟩ := List.mem_map.mp hy
        obtain ⟨r, hr, hrθ⟩ := List.mem_map.mp (hsub θ hθ)
        rw [← hrθ, eit_arg r (hunit r hr).1]
        exact hconj r hr
    · intro hx
      obtain ⟨h1, h2, h3⟩ := hunit x hx
      obtain ⟨_, _, _, hne0, hstar⟩ := unit_arg x h1 h2 h3
      rcases lt_or_gt_of_ne hne0 with hneg | hpos
      · right
        have hs := hconj x hx
        have hspos : 0 < (star x).arg := by rw [hstar]; exact neg_pos.mpr hneg
        have hmem := hsup (star x) hs hspos
        have hn : ‖star x‖ = 1 := by rw [norm_star]; exact h1
        refine List.mem_map.mpr ⟨star x, List.mem_map.mpr ⟨(star x).arg, hmem, eit_arg _ hn⟩, ?_⟩
        exact star_star x
      · left
        exact List.mem_map.mpr ⟨x.arg, hsup x hx hpos, eit_arg x h1⟩
  · rw [List.nodup_append]
    refine ⟨hnd1, hnd2, ?_⟩
    intro a ha b hb hab
    obtain ⟨θ, hθ, rfl⟩ := List.mem_map.mp ha
    obtain ⟨y, hy, rfl⟩ := List.mem_map.mp hb
    obtain ⟨η, hη, rfl⟩ := List.mem_map.mp hy
    rw [star_eit] at hab
    have hη0 : -η < 0 := neg_neg_of_pos (hrange η hη).1
    have := hinj θ (-η) (hlow θ hθ) (hrange θ hθ).2.le (neg_lt_neg (hrange η hη).2)
      (hη0.le.trans Real.pi_pos.le) hab
    exact lt_asymm (hrange θ hθ).1 (this ▸ hη0)

theorem slices_perm_roots (rP rQ : List ℂ) (lsf : List ℝ)
    (hndarg : ((rP ++ rQ).map Complex.arg).Nodup)
    (hunit : ∀ r ∈ rP ++ rQ, ‖r‖ = 1 ∧ r ≠ 1 ∧ r ≠ -1)
    (hcP : ∀ r ∈ rP, star r ∈ rP) (hcQ : ∀ r ∈ rQ, star r ∈ rQ)
    (hstrict : lsf.Pairwise (· < ·)) (hrange : ∀ θ ∈ lsf, 0 < θ ∧ θ < Real.pi)
    (hsup : ∀ r ∈ rP ++ rQ, 0 < r.arg → r.arg ∈ lsf)
    (halt : ∀ (i : ℕ) (hi : i < lsf.length),
      (i % 2 = 0 → lsf[i] ∈ rQ.map Complex.arg) ∧ (i % 2 = 1 → lsf[i] ∈ rP.map Complex.arg)) :
    ((evens lsf).map eit ++ ((evens lsf).map eit).map star).Perm rQ
    ∧ ((odds lsf).map eit ++ ((odds lsf).map eit).map star).Perm rP := by
  have hlsfnd : lsf.Nodup := hstrict.imp (fun h => ne_of_lt h)
  rw [List.map_append, List.nodup_append] at hndarg
  obtain ⟨hndP, hndQ, hdisj⟩ := hndarg
  constructor
  · refine angles_perm_roots rQ (evens lsf) hndQ.of_map
      (fun r hr => hunit r (List.mem_append.mpr (Or.inr hr))) hcQ
      ((evens_sublist lsf).nodup hlsfnd)
      (fun θ hθ => hrange θ ((evens_sublist lsf).subset hθ)) ?_ ?_
    · intro θ hθ
      obtain ⟨i, hi, hpar, rfl⟩ := (mem_slices θ lsf).1.mp hθ
      exact (halt i hi).1 hpar
    · intro r hr hpos
      have hm := hsup r (List.mem_append.mpr (Or.inr hr)) hpos
      obtain ⟨i, hi, hir⟩ := List.getElem_of_mem hm
      rw [(mem_slices r.arg lsf).1]
      refine ⟨i, hi, ?_, hir⟩
      by_contra hpar
      have hP := (halt i hi).2 ((Nat.mod_two_eq_zero_or_one i).resolve_left hpar)
      rw [hir] at hP
      exact hdisj _ hP _ (List.mem_map.mpr ⟨r, hr, rfl⟩) rfl
  · refine angles_perm_roots rP (odds lsf) hndP.of_map
      (fun r hr => hunit r (List.mem_append.mpr (Or.inl hr))) hcP
      ((odds_sublist lsf).nodup hlsfnd)
      (fun θ hθ => hrange θ ((odds_sublist lsf).subset hθ)) ?_ ?_
    · intro θ hθ
      obtain ⟨i, hi, hpar, rfl⟩ := (mem_slices θ lsf).2.mp hθ
      exact (halt i hi).2 hpar
    · intro r hr hpos
      have hm := hsup r (List.mem_append.mpr (Or.inl hr)) hpos
      obtain ⟨i, hi, hir⟩ := List.getElem_of_mem hm
      rw [(mem_slices r.arg lsf).2]
      refine ⟨i, hi, ?_, hir⟩
      by_contra hpar
      have hQ := (halt i hi).1 ((Nat.mod_two_eq_zero_or_one i).resolve_right hpar)
      rw [hir] at hQ
      exact hdisj _ (List.mem_map.mpr ⟨r, hr, rfl⟩) _ hQ rfl

end SpecVerif.LsfRoundtripL
