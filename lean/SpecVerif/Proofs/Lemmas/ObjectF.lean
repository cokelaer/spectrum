import SpecVerif.Model.ObjectF
import SpecVerif.Proofs.Lemmas.Object
/-
  `Model/ObjectF.lean`: `objStepF` is `objStep` behind one guard (`objStepF_eq`: an operation that calls the estimator
  while `ok s.a = false` raises and changes nothing); `ObjInvF` = `ObjInv` + a current stored PSD belongs to attributes
  for which the estimator succeeds.
-/
namespace SpecVerif.ObjL
open SpecVerif

theorem objStepF_eq (ok : Attrs → Bool) (s : ObjState) (op : ObjOp) :
    objStepF ok s op = if recomputes s op && !ok s.a then (s, true) else objStep s op := by
  cases op with
  | call =>
    -- `recomputeF ok s`: the estimator is called, the guard is `!ok s.a`
    show recomputeF ok s = if (true && !ok s.a) = true then (s, true) else (recompute s, false)
    unfold recomputeF
    cases ok s.a <;> rfl
  | read =>
    -- the estimator is called iff nothing is stored or the stored PSD is not current
    show (if (s.cache.isNone || s.modified) = true then recomputeF ok s else (s, false)) =
      if ((s.cache.isNone || s.modified) && !ok s.a) = true then (s, true)
      else (if (s.cache.isNone || s.modified) = true then recompute s else s, false)
    unfold recomputeF
    cases s.cache.isNone || s.modified <;> cases ok s.a <;> rfl
  | setSides arg =>
    -- nothing stored: the plain step, no estimator; a stored PSD is refreshed first iff `modified`, and the guard of
    -- `objStepF` is then `s.modified && !ok s.a`
    rcases s with ⟨a, sides, cache, modified, rn, rs, par⟩
    rcases cache with _ | c
    · rfl
    · rfl
  | _ => rfl

theorem objStepF_of_fail (ok : Attrs → Bool) (s : ObjState) (op : ObjOp) (hr : recomputes s op = true)
    (hk : ok s.a = false) : objStepF ok s op = (s, true) := by
  rw [objStepF_eq, hr, hk]
  rfl

theorem objStepF_of_ok (ok : Attrs → Bool) (s : ObjState) (op : ObjOp)
    (h : recomputes s op = true → ok s.a = true) : objStepF ok s op = objStep s op := by
  rw [objStepF_eq, if_neg]
  intro hc
  rw [Bool.and_eq_true, Bool.not_eq_true'] at hc
  exact absurd (h hc.1) (by rw [hc.2]; exact Bool.false_ne_true)

/-- reachable-state invariant with a fallible estimator: the plain invariant, and a stored PSD that is current belongs to
attributes for which the estimator succeeds -/
def ObjInvF (ok : Attrs → Bool) (s : ObjState) : Prop :=
  ObjInv s ∧ (s.modified = false → s.cache.isSome = true → ok s.a = true)

theorem initF_inv (ok : Attrs → Bool) (a : Attrs) (par : Bool) : ObjInvF ok (objInit a par) :=
  ⟨init_inv a par, fun hm => nomatch hm⟩

theorem stepF_inv (ok : Attrs → Bool) (s : ObjState) (op : ObjOp) (h : ObjInvF ok s) :
    ObjInvF ok (objStepF ok s op).1 := by
  by_cases hgo : recomputes s op = true → ok s.a = true
  · rw [objStepF_of_ok ok s op hgo]
    refine ⟨step_inv s op h.1, ?_⟩
    refine step_cases (P := fun s' => s'.modified = false → s'.cache.isSome = true → ok s'.a = true) s op h.2
      ?_ (fun hr _ _ => hgo hr) ?_ ?_
    · intro s' hm _ _ hf
      exact nomatch hm.symm.trans hf
    · intro tgt hc _ hs
      rw [hc] at hs
      cases hs
    · intro s1 snap sd tgt h1 hm hc _ _ _
      exact h1 hm (by rw [hc]; rfl)
  · rw [Classical.not_imp, Bool.not_eq_true] at hgo
    rw [objStepF_of_fail ok s op hgo.1 hgo.2]
    exact h

theorem runF_inv (ok : Attrs → Bool) (s : ObjState) (ops : List ObjOp) (h : ObjInvF ok s) :
    ObjInvF ok (objRunF ok s ops) := by
  induction ops generalizing s with
  | nil => exact h
  | cons o os ih => exact ih _ (stepF_inv ok s o h)

theorem objRunF_append (ok : Attrs → Bool) (s : ObjState) (l₁ l₂ : List ObjOp) :
    objRunF ok s (l₁ ++ l₂) = objRunF ok (objRunF ok s l₁) l₂ := by
  simp [objRunF, List.foldl_append]

theorem read_recomputes_of_fail (ok : Attrs → Bool) (s : ObjState) (h : ObjInvF ok s) (hk : ok s.a = false) :
    recomputes s .read = true := by
  rcases hc : s.cache with _ | c
  · simp [recomputes, hc]
  · cases hm : s.modified
    · rw [h.2 hm (by rw [hc]; rfl)] at hk
      cases hk
    · simp [recomputes, hm]

end SpecVerif.ObjL
