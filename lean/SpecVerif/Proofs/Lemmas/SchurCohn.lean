import SpecVerif.Proofs.Lemmas.Levinson
import SpecVerif.Proofs.Lemmas.Norm
import SpecVerif.Proofs.Lemmas.Eval
/-
  Schur–Cohn stability for the step-up recursion (`levup`, `rc2poly`), by norms only.  With `A = polyA a`,
  `B = polyB a` (the reciprocal polynomial) a step-up is `A' = z·A + k·B`, `B' = B + conj(k)·z·A`, hence
  `|A'|² − |B'|² = (1 − |k|²)(|z|²|A|² − |B|²)` (`norm_sq_stepup`).  Induction over the reflection coefficients: for
  `|k_i| < 1`, `|z| ≥ 1`, `|B(z)| ≤ |A(z)|` and `A(z) ≠ 0` — all roots strictly inside the unit circle; in the
  closed disc for `|k_i| ≤ 1`.
-/
namespace SpecVerif.SchurL
open Finset SpecVerif

section Alg
variable {K : Type} [Field K]

/-- the prediction polynomial `z^m + a_1 z^{m-1} + … + a_m` of the coefficient list `a` (order `m`): `[1, a]`,
highest power first, is what the Python code hands to `numpy.roots` -/
def polyA (a : List K) (z : K) : K :=
  z ^ a.length + ∑ j ∈ range a.length, nth a j * z ^ (a.length - 1 - j)

/-- the polynomial of the model's PSD code, `1 + a_1 w + … + a_m w^m` -/
def polyR (a : List K) (w : K) : K :=
  1 + ∑ j ∈ range a.length, nth a j * w ^ (j + 1)

theorem polyA_nil (z : K) : polyA ([] : List K) z = 1 := by
  unfold polyA
  rw [List.length_nil, pow_zero, Finset.sum_range_zero, add_zero]

theorem polyA_eq (a : List K) (m : ℕ) (hm : a.length = m) (z : K) :
    polyA a z = z ^ m + ∑ j ∈ range m, nth a j * z ^ (m - 1 - j) := by
  subst hm; rfl

/-- `pow_add_sum_eq_pow_mul_inv_form` read at `w⁻¹` -/
theorem polyR_eq_pow_mul_polyA_inv (a : List K) (w : K) (hw : w ≠ 0) :
    polyR a w = w ^ a.length * polyA a w⁻¹ := by
  unfold polyR polyA
  rw [pow_add_sum_eq_pow_mul_inv_form _ _ (inv_ne_zero hw), inv_inv, ← mul_assoc, ← mul_pow,
    mul_inv_cancel₀ hw, one_pow, one_mul]

variable [StarRing K]

def polyB (a : List K) (z : K) : K :=
  1 + ∑ j ∈ range a.length, star (nth a j) * z ^ (j + 1)

theorem polyB_nil (z : K) : polyB ([] : List K) z = 1 := by
  unfold polyB
  rw [List.length_nil, Finset.sum_range_zero, add_zero]

theorem polyA_levup (a : List K) (k z : K) :
    polyA (levup a k) z = z * polyA a z + k * polyB a z := by
  unfold polyA polyB
  rw [levup_length, Finset.sum_range_succ, nth_levup_last]
  have e1 : ∀ j ∈ range a.length,
      nth (levup a k) j * z ^ (a.length + 1 - 1 - j)
        = z * (nth a j * z ^ (a.length - 1 - j))
          + k * (star (nth a (a.length - 1 - j)) * z ^ (a.length - 1 - j + 1)) := by
    intro j hj
    have hj' := mem_range.mp hj
    rw [nth_levup_lt a k j hj']
    have h1 : a.length + 1 - 1 - j = (a.length - 1 - j) + 1 := by
      rw [Nat.add_sub_cancel, Nat.sub_right_comm, Nat.sub_add_cancel (Nat.sub_pos_of_lt hj')]
    rw [h1, pow_succ]
    ring
  rw [Finset.sum_congr rfl e1, Finset.sum_add_distrib, ← Finset.mul_sum, ← Finset.mul_sum]
  rw [Finset.sum_range_reflect (fun i => star (nth a i) * z ^ (i + 1)) a.length]
  rw [Nat.add_sub_cancel, Nat.sub_self, pow_zero, pow_succ]
  ring

theorem polyB_levup (a : List K) (k z : K) :
    polyB (levup a k) z = polyB a z + star k * z * polyA a z := by
  unfold polyA polyB
  rw [levup_length, Finset.sum_range_succ, nth_levup_last]
  have e1 : ∀ j ∈ range a.length,
      star (nth (levup a k) j) * z ^ (j + 1)
        = star (nth a j) * z ^ (j + 1)
          + star k * z * (nth a (a.length - 1 - j) * z ^ (a.length - 1 - (a.length - 1 - j))) := by
    intro j hj
    have hj' := mem_range.mp hj
    rw [nth_levup_lt a k j hj']
    rw [Nat.sub_sub_self (Nat.le_sub_one_of_lt hj'), pow_succ, star_add, star_mul, star_star]
    ring
  rw [Finset.sum_congr rfl e1, Finset.sum_add_distrib, ← Finset.mul_sum]
  rw [Finset.sum_range_reflect (fun i => nth a i * z ^ (a.length - 1 - i)) a.length]
  rw [pow_succ]
  ring

/-- induction along the step-up recursion on the pair `(A(z), B(z))`: it starts at `(1, 1)` and a step
with `k` maps `(X, Y)` to `(z X + k Y, Y + conj k · z X)` -/
theorem polyAB_rc2poly_induction {Q : K → K → Prop} (z : K) (kr : List K) (r0 : K) (h1 : Q 1 1)
    (hstep : ∀ k ∈ kr, ∀ X Y, Q X Y → Q (z * X + k * Y) (Y + star k * z * X)) :
    Q (polyA (rc2poly kr r0).1 z) (polyB (rc2poly kr r0).1 z) := by
  induction kr using List.reverseRecOn with
  | nil =>
    rw [rc2poly_nil, polyA_nil, polyB_nil]
    exact h1
  | append_singleton kr k ih =>
    rw [rc2poly_append_singleton, polyA_levup, polyB_levup]
    exact hstep k (List.mem_append_right _ (List.mem_singleton_self k)) _ _
      (ih (fun k' hk' => hstep k' (List.mem_append_left _ hk')))

end Alg

section Norm
variable {F : Type} [RCLike F]

/-- one step-up of the pair, `(U, Y) ↦ (U + kY, Y + conj(k) U)` with `U = z·A(z)`, `Y = B(z)`:
`|U + kY|² − |Y + conj(k) U|² = (1 − |k|²)(|U|² − |Y|²)`, the cross terms cancel -/
theorem norm_sq_stepup (U Y k : F) :
    ‖U + k * Y‖ ^ 2 - ‖Y + star k * U‖ ^ 2 = (1 - ‖k‖ ^ 2) * (‖U‖ ^ 2 - ‖Y‖ ^ 2) := by
  have h : ∀ w : F, ((‖w‖ : ℝ) : F) ^ 2 = w * star w := fun w => by
    rw [mul_star_eq_ofReal, RCLike.ofReal_pow]
  apply RCLike.ofReal_injective (K := F)
  push_cast
  simp only [h, star_add, star_mul, star_star]
  ring

/-- either way round: with `conj k` for `k` the roles of the two components swap (used for the inside of the
circle in `C11.schur_cohn_strict`) -/
theorem stepup_norm_lt_iff (U Y k : F) (hk : ‖k‖ < 1) :
    ‖Y + star k * U‖ < ‖U + k * Y‖ ↔ ‖Y‖ < ‖U‖ := by
  have h1 : 0 < 1 - ‖k‖ ^ 2 := sub_pos.mpr (pow_lt_one₀ (norm_nonneg k) hk two_ne_zero)
  rw [← pow_lt_pow_iff_left₀ (norm_nonneg _) (norm_nonneg _) two_ne_zero, ← sub_pos, norm_sq_stepup,
    mul_pos_iff_of_pos_left h1, sub_pos, pow_lt_pow_iff_left₀ (norm_nonneg _) (norm_nonneg _) two_ne_zero]

theorem stepup_norm_le_of_le (U Y k : F) (hk : ‖k‖ ≤ 1) (h : ‖Y‖ ≤ ‖U‖) :
    ‖Y + star k * U‖ ≤ ‖U + k * Y‖ := by
  have h1 : 0 ≤ 1 - ‖k‖ ^ 2 := sub_nonneg.mpr (pow_le_one₀ (norm_nonneg k) hk)
  have h2 : 0 ≤ ‖U‖ ^ 2 - ‖Y‖ ^ 2 := sub_nonneg.mpr (pow_le_pow_left₀ (norm_nonneg Y) h 2)
  have h3 := mul_nonneg h1 h2
  rw [← norm_sq_stepup, sub_nonneg] at h3
  exact (pow_le_pow_iff_left₀ (norm_nonneg _) (norm_nonneg _) two_ne_zero).mp h3

theorem stepup_norm_le (X Y z k : F) (hk : ‖k‖ ≤ 1) (hz : 1 ≤ ‖z‖) (hXY : ‖Y‖ ≤ ‖X‖) :
    ‖Y + star k * z * X‖ ≤ ‖z * X + k * Y‖ := by
  rw [mul_assoc]
  apply stepup_norm_le_of_le _ _ _ hk
  rw [norm_mul]
  exact hXY.trans (le_mul_of_one_le_left (norm_nonneg X) hz)

theorem stepup_ne_zero (X Y z k : F) (hkz : ‖k‖ < ‖z‖) (hXY : ‖Y‖ ≤ ‖X‖) (hX : X ≠ 0) :
    z * X + k * Y ≠ 0 := by
  intro h0
  have hn : ‖z‖ * ‖X‖ = ‖k‖ * ‖Y‖ := by
    rw [← norm_mul, ← norm_mul, eq_neg_of_add_eq_zero_left h0, norm_neg]
  have h1 : ‖k‖ * ‖Y‖ ≤ ‖k‖ * ‖X‖ := mul_le_mul_of_nonneg_left hXY (norm_nonneg k)
  have h2 : ‖k‖ * ‖X‖ < ‖z‖ * ‖X‖ := mul_lt_mul_of_pos_right hkz (norm_pos_iff.mpr hX)
  linarith

/-- **Schur–Cohn invariant**: at a point with `|z| ≥ 1`, if every reflection coefficient satisfies
`|k| ≤ 1` and `|k| < |z|`, then `|B(z)| ≤ |A(z)|` and `A(z) ≠ 0` -/
theorem schur_invariant (kr : List F) (r0 z : F) (hz : 1 ≤ ‖z‖)
    (hk : ∀ k ∈ kr, ‖k‖ ≤ 1 ∧ ‖k‖ < ‖z‖) :
    ‖polyB (rc2poly kr r0).1 z‖ ≤ ‖polyA (rc2poly kr r0).1 z‖ ∧ polyA (rc2poly kr r0).1 z ≠ 0 :=
  polyAB_rc2poly_induction (Q := fun X Y => ‖Y‖ ≤ ‖X‖ ∧ X ≠ 0) z kr r0 ⟨le_refl _, one_ne_zero⟩
    (fun k hkr X Y h => ⟨stepup_norm_le X Y z k (hk k hkr).1 hz h.1,
      stepup_ne_zero X Y z k (hk k hkr).2 h.1 h.2⟩)

theorem stable_of_refl_lt_one (kr : List F) (r0 : F) (hk : ∀ k ∈ kr, ‖k‖ < 1) (z : F)
    (hz : 1 ≤ ‖z‖) : polyA (rc2poly kr r0).1 z ≠ 0 :=
  (schur_invariant kr r0 z hz (fun k h => ⟨(hk k h).le, (hk k h).trans_le hz⟩)).2

/-- non-vacuity: `kr = [1/2, -1/3]` over `ℝ` satisfies the hypothesis; the polynomial is
`z² + (1/3) z − 1/3` -/
example : (∀ k ∈ [(1 / 2 : ℝ), -1 / 3], ‖k‖ < 1) ∧
    (rc2poly [(1 / 2 : ℝ), -1 / 3] 1).1 = [1 / 3, -1 / 3] := by
  constructor
  · intro k hk
    simp only [List.mem_cons, List.not_mem_nil, or_false] at hk
    rcases hk with rfl | rfl <;> rw [Real.norm_eq_abs, abs_lt] <;> constructor <;> norm_num
  · simp only [rc2poly, levup, conj_eq_star, star_trivial, spec_eval, spec_eval_proc]
    norm_num only

theorem ne_zero_of_refl_le_one (kr : List F) (r0 : F) (hk : ∀ k ∈ kr, ‖k‖ ≤ 1) (z : F)
    (hz : 1 < ‖z‖) : polyA (rc2poly kr r0).1 z ≠ 0 :=
  (schur_invariant kr r0 z hz.le (fun k h => ⟨hk k h, (hk k h).trans_lt hz⟩)).2

/-- the reversed polynomial `1 + a_1 w + … + a_m w^m` (the one evaluated by the PSD code) of a step-up
polynomial with all `|k_i| < 1` has no zero in the closed unit disc — in particular none on the
frequency grid `|w| = 1` -/
theorem polyR_ne_zero_of_refl_lt_one (kr : List F) (r0 : F) (hk : ∀ k ∈ kr, ‖k‖ < 1) (w : F)
    (hw : ‖w‖ ≤ 1) : polyR (rc2poly kr r0).1 w ≠ 0 := by
  by_cases h0 : w = 0
  · subst h0
    unfold polyR
    rw [Finset.sum_eq_zero (fun j _ => by rw [zero_pow (Nat.succ_ne_zero _), mul_zero]), add_zero]
    exact one_ne_zero
  · rw [polyR_eq_pow_mul_polyA_inv _ w h0]
    refine mul_ne_zero (pow_ne_zero _ h0) (stable_of_refl_lt_one kr r0 hk _ ?_)
    rw [norm_inv]
    exact (one_le_inv₀ (norm_pos_iff.mpr h0)).mpr hw

/-! ### the same with the polynomial written out (the shape C10, C12, C13 state); Levinson -/

theorem rc2poly_root_lt_one (kr : List F) (r0 : F) (n : ℕ) (hn : kr.length = n)
    (hk : ∀ i, i < n → ‖nth kr i‖ < 1) (z : F)
    (hz : z ^ n + ∑ j ∈ range n, nth (rc2poly kr r0).1 j * z ^ (n - 1 - j) = 0) : ‖z‖ < 1 := by
  by_contra h
  apply stable_of_refl_lt_one kr r0 (forall_mem_of_forall_nth kr n hn hk) z (not_lt.mp h)
  rw [polyA_eq _ n (by rw [rc2poly_length', hn])]
  exact hz

theorem rc2poly_root_le_one (kr : List F) (r0 : F) (n : ℕ) (hn : kr.length = n)
    (hk : ∀ i, i < n → ‖nth kr i‖ ≤ 1) (z : F)
    (hz : z ^ n + ∑ j ∈ range n, nth (rc2poly kr r0).1 j * z ^ (n - 1 - j) = 0) : ‖z‖ ≤ 1 := by
  by_contra h
  apply ne_zero_of_refl_le_one kr r0 (forall_mem_of_forall_nth kr n hn hk) z (not_le.mp h)
  rw [polyA_eq _ n (by rw [rc2poly_length', hn])]
  exact hz

theorem rc2poly_rev_ne_zero (kr : List F) (r0 : F) (n : ℕ) (hn : kr.length = n)
    (hk : ∀ i, i < n → ‖nth kr i‖ < 1) (w : F) (hw : ‖w‖ ≤ 1) :
    1 + ∑ j ∈ range n, nth (rc2poly kr r0).1 j * w ^ (j + 1) ≠ 0 := by
  have h := polyR_ne_zero_of_refl_lt_one kr r0 (forall_mem_of_forall_nth kr n hn hk) w hw
  unfold polyR at h
  rwa [rc2poly_length', hn] at h

theorem levRun_root_lt_one (r0 : F) (T : List F) (p : ℕ)
    (hk : ∀ i, i < p → ‖nth (levRun r0 T p).ref i‖ < 1) (z : F)
    (hz : z ^ p + ∑ j ∈ range p, nth (levRun r0 T p).A j * z ^ (p - 1 - j) = 0) : ‖z‖ < 1 := by
  apply rc2poly_root_lt_one (levRun r0 T p).ref r0 p (levRun_ref_length r0 T p) hk z
  rw [rc2poly_levRun_ref]
  exact hz

theorem levRun_rev_ne_zero (r0 : F) (T : List F) (p : ℕ)
    (hk : ∀ i, i < p → ‖nth (levRun r0 T p).ref i‖ < 1) (w : F) (hw : ‖w‖ ≤ 1) :
    1 + ∑ j ∈ range p, nth (levRun r0 T p).A j * w ^ (j + 1) ≠ 0 := by
  have h := rc2poly_rev_ne_zero (levRun r0 T p).ref r0 p (levRun_ref_length r0 T p) hk w hw
  rwa [rc2poly_levRun_ref] at h

end Norm

end SpecVerif.SchurL
