import SpecVerif.Proofs.Lemmas.Mtm
import SpecVerif.Proofs.Lemmas.Sides
import SpecVerif.Proofs.Lemmas.Shift
/-
  Whole-loop invariance of the adaptive multitaper weighting (`adaptLoop`, `pmtmWeights .adapt`, `mtMean .adapt`
  of `Model/Mtm.lean`): two runs of Thomson's iteration whose start states are related by `MtmL.BinRel` (bin `k`
  of one is `t` times bin `π k` of the other) take the same stopping decision at every pass and end in related
  states, whatever the fuel.  C03 uses it with `π = id` (amplitude), C04 with `t = 1` and `π` a rotation of the
  bins (frequency shift).
-/
namespace SpecVerif.AdaptL
open Finset SpecVerif SpecVerif.ArmaL SpecVerif.MtmL SpecVerif.ShiftL

variable {K : Type} [Field K]

/-- if a relation between loop states is kept by a pair of passes and forces the two `while` tests to
    agree, the two loops (same fuel) end in related states -/
theorem adaptLoop_rel [ReOrd K] (R : AdaptState K → AdaptState K → Prop)
    (Sk' Sk : List (List K)) (lams : List K) (sig2' sig2 tol' tol : K) (nfft nwin : ℕ)
    (hstep : ∀ a b, R a b →
      R (adaptStep Sk' lams sig2' nfft nwin a) (adaptStep Sk lams sig2 nfft nwin b))
    (htest : ∀ a b, R a b → reGt (adaptDist nfft a) tol' = reGt (adaptDist nfft b) tol)
    (fuel : ℕ) (a b : AdaptState K) (h : R a b) :
    R (adaptLoop Sk' lams sig2' tol' nfft nwin fuel a)
      (adaptLoop Sk lams sig2 tol nfft nwin fuel b) := by
  induction fuel generalizing a b with
  | zero => exact h
  | succ fuel ih =>
    rw [adaptLoop_succ, adaptLoop_succ, htest a b h]
    by_cases hb : reGt (adaptDist nfft b) tol = true
    · rw [if_pos hb, if_pos hb]
      exact ih _ _ (hstep a b h)
    · rw [if_neg hb, if_neg hb]
      exact h

section Rel
variable {t : K} {π : ℕ → ℕ} {n : ℕ} {Sk' Sk : List (List K)}

theorem nth_mtMean_adapt_rel (hπ : ∀ k, k < n → π k < n)
    (hSk : ∀ τ k, k < n → nth (Sk'.getD τ []) k = t * nth (Sk.getD τ []) (π k))
    {W' W : List (List K)} (hW : ∀ k, k < n → W'.getD k [] = W.getD (π k) [])
    (nwin : ℕ) {k : ℕ} (hk : k < n) :
    nth (mtMean .adapt Sk' W' n nwin) k = t * nth (mtMean .adapt Sk W n nwin) (π k) := by
  rw [nth_mtMean_adapt _ _ _ hk, nth_mtMean_adapt _ _ _ (hπ k hk), hW k hk, ← mul_div_assoc,
    Finset.mul_sum]
  congr 1
  apply Finset.sum_congr rfl
  intro τ _
  rw [hSk τ k hk]
  ring

variable [ReOrd K]

/-- `|t z| = t |z|` for the model's absolute value when the sign test does not see `t` -/
theorem absRe_scale (hre : ∀ z : K, reLe0 (t * z) = reLe0 z) (z : K) : absRe (t * z) = t * absRe z := by
  unfold absRe
  rw [hre]
  split
  · ring
  · rfl

/-- the quantity of the `while` test is a sum over all bins: it is multiplied by `t` and does not see `π` -/
theorem adaptDist_binRel (hre : ∀ z : K, reLe0 (t * z) = reLe0 z)
    (hsum : ∀ g : ℕ → K, ∑ k ∈ range n, g (π k) = ∑ k ∈ range n, g k) {a b : AdaptState K}
    (h : BinRel t π n a b) : adaptDist n a = t * adaptDist n b := by
  unfold adaptDist
  rw [← mul_div_assoc, Finset.mul_sum, ← hsum (fun j => t * absRe (nth b.S j - nth b.S1 j))]
  congr 1
  apply Finset.sum_congr rfl
  intro k hk
  rw [h.S_eq (mem_range.mp hk), h.S1_eq (mem_range.mp hk), ← mul_sub, absRe_scale hre]

variable [StarRing K]

/-- what two calls of `pmtm(method='adapt')` must share for the lock-step argument: `π` permutes the `n` bins,
the tables of squared eigenspectra and the data powers are related by `t` and `π`, and `t ≠ 0` is invisible to
the two comparisons of the model -/
structure AdaptSim (t : K) (π : ℕ → ℕ) (n : ℕ) (Sk' Sk : List (List K)) (x' x : List K) : Prop where
  bin_lt : ∀ k, k < n → π k < n
  sum_bins : ∀ g : ℕ → K, ∑ k ∈ range n, g (π k) = ∑ k ∈ range n, g k
  table : ∀ τ k, k < n → nth (Sk'.getD τ []) k = t * nth (Sk.getD τ []) (π k)
  power : adaptSig2 x' = t * adaptSig2 x
  ne_zero : t ≠ 0
  gt_blind : ∀ a b : K, reGt (t * a) (t * b) = reGt a b
  le0_blind : ∀ z : K, reLe0 (t * z) = reLe0 z

variable {x' x : List K}

/-- **`pmtm(method='adapt')`, the whole iteration**: the tolerance `tolc·σ²/NFFT` is multiplied by `t` with the
data power, so the two loops make the same number of passes, and row `k` of the returned weights is row `π k` of
the weights of the original problem -/
theorem pmtmWeights_adapt_row (H : AdaptSim t π n Sk' Sk x' x) (lams : List K) (tolc : K) {k : ℕ}
    (hk : k < n) :
    (pmtmWeights .adapt x' lams Sk' n tolc).getD k []
      = (pmtmWeights .adapt x lams Sk n tolc).getD (π k) [] := by
  have e : tolc * (t * adaptSig2 x) / (n : K) = t * (tolc * adaptSig2 x / (n : K)) := by ring
  rw [pmtmWeights_adapt, pmtmWeights_adapt, H.power, e]
  -- one unconditional pass from related start states, then the loop
  have h1 := binRel_step H.bin_lt H.table H.ne_zero lams (adaptSig2 x) lams.length _ _
    (binRel_init H.bin_lt H.table lams)
  have hloop := adaptLoop_rel (BinRel t π n) Sk' Sk lams (t * adaptSig2 x) (adaptSig2 x)
    (t * (tolc * adaptSig2 x / (n : K))) (tolc * adaptSig2 x / (n : K)) n lams.length
    (binRel_step H.bin_lt H.table H.ne_zero lams _ _)
    (fun a b hab => by rw [adaptDist_binRel H.le0_blind H.sum_bins hab, H.gt_blind]) 99 _ _ h1
  exact hloop.wk_eq hk

/-- the same as a table -/
theorem pmtmWeights_adapt_table (H : AdaptSim t π n Sk' Sk x' x) (lams : List K) (tolc : K) :
    pmtmWeights .adapt x' lams Sk' n tolc
      = vec n (fun k => (pmtmWeights .adapt x lams Sk n tolc).getD (π k) []) := by
  have hlen : (pmtmWeights .adapt x' lams Sk' n tolc).length = n := by
    rw [pmtmWeights_adapt]
    exact (adaptLoop_shape Sk' lams _ _ n lams.length 99 _ (wkShape_vec n lams.length _)).1
  rw [eq_vec_getD (pmtmWeights .adapt x' lams Sk' n tolc) [], hlen]
  exact vec_ext (fun k hk => pmtmWeights_adapt_row H lams tolc hk)

end Rel

/-! ### amplitude (`π = id`) -/

theorem nth_getD_map_scale (t : K) (Sk : List (List K)) (τ f : ℕ) :
    nth ((Sk.map (fun r => r.map (fun v => t * v))).getD τ []) f = t * nth (Sk.getD τ []) f := by
  rw [List.getD_eq_getElem?_getD, List.getD_eq_getElem?_getD, List.getElem?_map]
  cases Sk[τ]? with
  | none => simp [nth]
  | some r =>
    simp only [Option.map_some, Option.getD_some]
    exact nth_map_mul_left t r f

section ScaleData
variable [StarRing K]

theorem adaptSig2_scale (c : K) (x : List K) :
    adaptSig2 (x.map (fun v => c * v)) = (c * star c) * adaptSig2 x := by
  unfold adaptSig2
  rw [List.length_map, mul_div_assoc']
  congr 1
  exact energy_sim (μ := 1) (x := x) unimod_one (sim_smul c x) _

theorem pmtmWeights_adapt_scale [ReOrd K] {t : K} (ht : t ≠ 0)
    (hgt : ∀ a b : K, reGt (t * a) (t * b) = reGt a b) (hre : ∀ z : K, reLe0 (t * z) = reLe0 z)
    {c : K} (hct : c * star c = t) (x lams : List K) (SkA' SkA : List (List K)) (nfft : ℕ)
    (tolc : K) (hSk : ∀ τ f, f < nfft → nth (SkA'.getD τ []) f = t * nth (SkA.getD τ []) f) :
    pmtmWeights .adapt (x.map (fun v => c * v)) lams SkA' nfft tolc
      = pmtmWeights .adapt x lams SkA nfft tolc := by
  have hlen : (pmtmWeights .adapt x lams SkA nfft tolc).length = nfft := by
    rw [pmtmWeights_adapt]
    exact (adaptLoop_shape SkA lams _ _ nfft lams.length 99 _ (wkShape_vec nfft lams.length _)).1
  rw [pmtmWeights_adapt_table (π := id)
    { bin_lt := fun _ hk => hk, sum_bins := fun _ => rfl, table := hSk,
      power := hct ▸ adaptSig2_scale c x, ne_zero := ht, gt_blind := hgt, le0_blind := hre } lams tolc]
  conv_rhs => rw [eq_vec_getD (pmtmWeights .adapt x lams SkA nfft tolc) [], hlen]
  rfl

end ScaleData

theorem mtMean_adapt_scale (t : K) (SkA' SkA W : List (List K)) (nfft nwin : ℕ)
    (hSk : ∀ τ f, f < nfft → nth (SkA'.getD τ []) f = t * nth (SkA.getD τ []) f) :
    mtMean .adapt SkA' W nfft nwin = (mtMean .adapt SkA W nfft nwin).map (fun v => t * v) := by
  apply list_ext_nth
  · rw [mtMean_length, List.length_map, mtMean_length]
  · intro f hf
    rw [mtMean_length] at hf
    rw [nth_map_mul_left]
    exact nth_mtMean_adapt_rel (π := id) (fun _ hk => hk) hSk (fun _ _ => rfl) nwin hf

/-! ### frequency shift (`t = 1`, `π k = k - m (mod n)`) -/

section Rot
variable [StarRing K]

theorem energy_modulate {μ : K} (hμ : μ * star μ = 1) (x : List K) :
    ∑ j ∈ range (modulate μ x).length, nth (modulate μ x) j * star (nth (modulate μ x) j)
      = ∑ j ∈ range x.length, nth x j * star (nth x j) := by
  rw [modulate_length, energy_sim hμ (c := 1) (x' := modulate μ x) (x := x)
    (sim_modulate μ x), star_one, one_mul, one_mul]

theorem adaptSig2_modulate {μ : K} (hμ : μ * star μ = 1) (x : List K) :
    adaptSig2 (modulate μ x) = adaptSig2 x := by
  unfold adaptSig2
  rw [energy_modulate hμ, modulate_length]

variable {n m : ℕ} [ReOrd K]

theorem rot_lt (n m : ℕ) : ∀ k, k < n → (k + n - m) % n < n :=
  fun _ hk => Nat.mod_lt _ (by omega)

theorem adaptSim_rot (hm : m ≤ n) {x' x : List K} {SkA' SkA : List (List K)}
    (hsig : adaptSig2 x' = adaptSig2 x)
    (hSk : ∀ τ k, k < n → nth (SkA'.getD τ []) k = nth (SkA.getD τ []) ((k + n - m) % n)) :
    AdaptSim 1 (fun k => (k + n - m) % n) n SkA' SkA x' x :=
  { bin_lt := rot_lt n m, sum_bins := sum_rot hm, table := fun τ k hk => by rw [hSk τ k hk, one_mul],
    power := by rw [hsig, one_mul], ne_zero := one_ne_zero,
    gt_blind := fun a b => by rw [one_mul, one_mul], le0_blind := fun z => by rw [one_mul] }

theorem pmtmWeights_adapt_rot_row (hm : m ≤ n) (x' x lams : List K)
    (SkA' SkA : List (List K)) (tolc : K) (hsig : adaptSig2 x' = adaptSig2 x)
    (hSk : ∀ τ k, k < n → nth (SkA'.getD τ []) k = nth (SkA.getD τ []) ((k + n - m) % n))
    {k : ℕ} (hk : k < n) :
    (pmtmWeights .adapt x' lams SkA' n tolc).getD k []
      = (pmtmWeights .adapt x lams SkA n tolc).getD ((k + n - m) % n) [] :=
  pmtmWeights_adapt_row (adaptSim_rot hm hsig hSk) lams tolc hk

/-- the same as a table: `numpy.roll(W, m, axis=0)` -/
theorem pmtmWeights_adapt_rot (hm : m ≤ n) (x' x lams : List K)
    (SkA' SkA : List (List K)) (tolc : K) (hsig : adaptSig2 x' = adaptSig2 x)
    (hSk : ∀ τ k, k < n → nth (SkA'.getD τ []) k = nth (SkA.getD τ []) ((k + n - m) % n)) :
    pmtmWeights .adapt x' lams SkA' n tolc
      = vec n (fun k => (pmtmWeights .adapt x lams SkA n tolc).getD ((k + n - m) % n) []) :=
  pmtmWeights_adapt_table (adaptSim_rot hm hsig hSk) lams tolc

end Rot

theorem mtMean_adapt_rot {n m : ℕ} (hm : m < n) (SkA' SkA W' W : List (List K)) (nwin : ℕ)
    (hSk : ∀ τ k, k < n → nth (SkA'.getD τ []) k = nth (SkA.getD τ []) ((k + n - m) % n))
    (hW : ∀ k, k < n → W'.getD k [] = W.getD ((k + n - m) % n) []) :
    mtMean .adapt SkA' W' n nwin = cshift (mtMean .adapt SkA W n nwin) m := by
  refine eq_cshift_of_entries (mtMean_length _ _ _ _ _) (mtMean_length _ _ _ _ _) hm (fun k hk => ?_)
  rw [nth_mtMean_adapt_rel (t := 1) (rot_lt n m) (fun τ k hk => by rw [hSk τ k hk, one_mul]) hW
    nwin hk, one_mul]

end SpecVerif.AdaptL
