import SpecVerif.Proofs.Lemmas.Levinson
/-
  The two solvers `HERMTOEP` and `TOEPLITZ`.  Both run the bordering recursion of `Levinson.lean` for auxiliary
  vectors (`HERMTOEP`: `A`, which is `LEVINSON`'s; `TOEPLITZ`: `A` and `B`, solving the order-`k` equations of the
  matrix and of its transpose) and update the solution `X` by the same code, `solveUpd`.

  `c` is the first column (`c 0 = T0`, `c (j+1) = TC[j]`), `rr` the first row (`rr 0 = T0`, `rr (j+1) = TR[j]`).
-/
namespace SpecVerif
open Finset

-- `TOEPLITZ` and the solution update do not use the involution; they are stated under the file's `[StarRing K]`
-- like `gT`, `GEq` in `Levinson.lean`
set_option linter.unusedSectionVars false

variable {K : Type} [Field K] [StarRing K]

/-- the solution update that `hermStep` and `toepStep` both spell out (`hermRun_succ_X`, `toepRun_succ_X`):
`beta` from the first column `[r0, T…]`, `alpha = (Z[k+1] - beta) / P'`, new entries `X[j] + alpha·b (k-j)`,
and `alpha` last -/
def solveUpd (T X Z : List K) (k : ℕ) (b : ℕ → K) (P' : K) : List K :=
  let beta := nth X 0 * nth T k + sumR k (fun j => nth X (j + 1) * nth T (k - j - 1))
  let alpha := (nth Z (k + 1) - beta) / P'
  vec (k + 2) (fun j => if j ≤ k then nth X j + alpha * b (k - j) else alpha)

theorem solveUpd_length (T X Z : List K) (k : ℕ) (b : ℕ → K) (P' : K) :
    (solveUpd T X Z k b P').length = k + 2 :=
  vec_length _ _

theorem solve_base (G : ℕ → ℕ → K) (T0 : K) (Z : List K) (h : T0 ≠ 0) (hG : G 0 0 = T0) :
    ∀ i, i ≤ 0 → ∑ j ∈ range (0 + 1), G i j * nth [nth Z 0 / T0] j = nth Z i := by
  intro i hi
  obtain rfl : i = 0 := Nat.le_zero.mp hi
  rw [zero_add, Finset.sum_range_one, hG]
  show T0 * (nth Z 0 / T0) = nth Z 0
  rw [mul_comm, div_mul_cancel₀ _ h]

/-- if `X` solves the leading `(k+1)` system of `G` (whose row `k+1` is given by the first column) and `a`
(with `a 0 = 1`), reversed, is annihilated by all rows of `G` but the last, the update solves the leading
`(k+2)` system -/
theorem solveUpd_solves (G : ℕ → ℕ → K) (r0 : K) (T X Z : List K) (k : ℕ) (a : ℕ → K) (ha0 : a 0 = 1)
    (P' : K) (hP' : P' ≠ 0) (hX : X.length = k + 1)
    (hG : ∀ j, j ≤ k → G (k + 1) j = hR (rseq r0 T) (k + 1) j)
    (hx : ∀ i, i ≤ k → ∑ j ∈ range (k + 1), G i j * nth X j = nth Z i)
    (hw : ∀ i, i ≤ k + 1 → ∑ j ∈ range (k + 1 + 1), G i j * a (k + 1 - j) = if i = k + 1 then P' else 0) :
    ∀ i, i ≤ k + 1 →
      ∑ j ∈ range (k + 1 + 1), G i j * nth (solveUpd T X Z k (fun i => a (i + 1)) P') j = nth Z i := by
  intro i hi
  have hb : nth X 0 * nth T k + sumR k (fun j => nth X (j + 1) * nth T (k - j - 1))
      = ∑ j ∈ range (k + 1), G (k + 1) j * nth X j := by
    rw [row_succ_eq r0 T (nth X) k]
    exact Finset.sum_congr rfl (fun j hj => by rw [hG j (Nat.lt_succ_iff.mp (mem_range.mp hj))])
  unfold solveUpd
  rw [hb]
  set alpha := (nth Z (k + 1) - ∑ j ∈ range (k + 1), G (k + 1) j * nth X j) / P' with ha
  refine (Finset.sum_congr rfl (g := fun j => G i j * nth X j + alpha * (G i j * a (k + 1 - j)))
    (fun j hj => ?_)).trans ?_
  · rw [nth_vec_lt _ (mem_range.mp hj)]
    by_cases hjk : j ≤ k
    · rw [if_pos hjk, Nat.sub_add_comm hjk, mul_add, mul_left_comm]
    · obtain rfl : j = k + 1 := by have := mem_range.mp hj; omega
      rw [if_neg hjk, Nat.sub_self, ha0, mul_one, nth_of_ge X _ hX.le, mul_zero, zero_add, mul_comm]
  rw [Finset.sum_add_distrib, ← Finset.mul_sum, hw i hi, Finset.sum_range_succ, nth_of_ge X _ hX.le,
    mul_zero, add_zero]
  by_cases hik : i = k + 1
  · subst hik
    rw [if_pos rfl, ha, div_mul_cancel₀ _ hP', add_sub_cancel]
  · rw [if_neg hik, mul_zero, add_zero]
    exact hx i (by omega)

theorem hermRun_succ (T0 : K) (T Z : List K) (k : ℕ) :
    hermRun T0 T Z (k + 1) = hermStep T Z (hermRun T0 T Z k) k := rfl

theorem hermRun_A_P (T0 : K) (T Z : List K) (k : ℕ) :
    (hermRun T0 T Z k).A = (levRun T0 T k).A ∧ (hermRun T0 T Z k).P = (levRun T0 T k).P := by
  induction k with
  | zero => exact ⟨rfl, rfl⟩
  | succ k ih =>
    rw [hermRun_succ, levRun_succ]
    unfold hermStep levStep
    simp only [ih.1, ih.2, and_self]

theorem hermRun_succ_X (T0 : K) (T Z : List K) (k : ℕ) :
    (hermRun T0 T Z (k + 1)).X
      = solveUpd T (hermRun T0 T Z k).X Z k
          (fun i => star (alphaOf (hermRun T0 T Z (k + 1)).A (i + 1))) (hermRun T0 T Z (k + 1)).P := rfl

theorem hermRun_X_length (T0 : K) (T Z : List K) (k : ℕ) :
    (hermRun T0 T Z k).X.length = k + 1 := by
  cases k with
  | zero => rfl
  | succ k => rw [hermRun_succ_X, solveUpd_length]

theorem hermRun_solves (T0 : K) (T Z : List K) (h0 : star T0 = T0) (k : ℕ)
    (hP : ∀ j, j ≤ k → (levRun T0 T j).P ≠ 0) :
    ∀ i, i ≤ k → ∑ j ∈ range (k + 1), hR (rseq T0 T) i j * nth (hermRun T0 T Z k).X j
      = nth Z i := by
  induction k with
  | zero => exact solve_base _ T0 Z (hP 0 (Nat.le_refl 0)) (hR_of_le _ le_rfl)
  | succ k ih =>
    have hE := levRun_LevEq T0 T h0 (k + 1) (fun j hj => hP j (by omega))
    have hE2 := LevEqRev_of_LevEq _ h0 _ _ _ (levRun_P_star T0 T h0 (k + 1)) hE
    rw [← (hermRun_A_P T0 T Z (k + 1)).1, ← (hermRun_A_P T0 T Z (k + 1)).2] at hE2
    unfold LevEqRev at hE2
    rw [hermRun_succ_X]
    exact solveUpd_solves (hR (rseq T0 T)) T0 T (hermRun T0 T Z k).X Z k
      (fun i => star (alphaOf (hermRun T0 T Z (k + 1)).A i)) (star_one K) (hermRun T0 T Z (k + 1)).P
      ((hermRun_A_P T0 T Z (k + 1)).2 ▸ hP (k + 1) (Nat.le_refl _)) (hermRun_X_length T0 T Z k)
      (fun _ _ => rfl) (ih (fun j hj => hP j (by omega))) hE2

theorem toepRun_succ (T0 : K) (TC TR Z : List K) (k : ℕ) :
    toepRun T0 TC TR Z (k + 1) = toepStep TC TR Z (toepRun T0 TC TR Z k) k := rfl

/-- `t1` of `toepStep`, with `save1` written as `levDelta` -/
def toepT1 (T0 : K) (TC TR Z : List K) (k : ℕ) : K :=
  -(levDelta (rseq T0 TC) k (alphaOf (toepRun T0 TC TR Z k).A)) / (toepRun T0 TC TR Z k).P

/-- `t2` of `toepStep`, with `save2` written as `levDelta` -/
def toepT2 (T0 : K) (TC TR Z : List K) (k : ℕ) : K :=
  -(levDelta (rseq T0 TR) k (alphaOf (toepRun T0 TC TR Z k).B)) / (toepRun T0 TC TR Z k).P

theorem toepRun_AB_length (T0 : K) (TC TR Z : List K) (k : ℕ) :
    (toepRun T0 TC TR Z k).A.length = k ∧ (toepRun T0 TC TR Z k).B.length = k := by
  cases k with
  | zero => exact ⟨rfl, rfl⟩
  | succ k => exact ⟨vec_length _ _, vec_length _ _⟩

theorem toepRun_succ_ABP (T0 : K) (TC TR Z : List K) (k : ℕ) :
    (toepRun T0 TC TR Z (k + 1)).A
      = vec (k + 1) (fun j => if j < k then nth (toepRun T0 TC TR Z k).A j
          + toepT1 T0 TC TR Z k * alphaOf (toepRun T0 TC TR Z k).B (k - 1 - j + 1)
          else toepT1 T0 TC TR Z k) ∧
    (toepRun T0 TC TR Z (k + 1)).B
      = vec (k + 1) (fun j => if j < k then nth (toepRun T0 TC TR Z k).B j
          + toepT2 T0 TC TR Z k * alphaOf (toepRun T0 TC TR Z k).A (k - 1 - j + 1)
          else toepT2 T0 TC TR Z k) ∧
    (toepRun T0 TC TR Z (k + 1)).P
      = (toepRun T0 TC TR Z k).P * (1 - toepT1 T0 TC TR Z k * toepT2 T0 TC TR Z k) := by
  rw [toepRun_succ]
  unfold toepStep toepT1 toepT2
  simp only [save_eq_levDelta T0, alphaOf_succ, and_self]

theorem toepRun_succ_X (T0 : K) (TC TR Z : List K) (k : ℕ) :
    (toepRun T0 TC TR Z (k + 1)).X
      = solveUpd TC (toepRun T0 TC TR Z k).X Z k
          (fun i => alphaOf (toepRun T0 TC TR Z (k + 1)).B (i + 1)) (toepRun T0 TC TR Z (k + 1)).P := rfl

theorem toepRun_X_length (T0 : K) (TC TR Z : List K) (k : ℕ) :
    (toepRun T0 TC TR Z k).X.length = k + 1 := by
  cases k with
  | zero => rfl
  | succ k => rw [toepRun_succ_X, solveUpd_length]

theorem rseq_zero_eq (T0 : K) (TC TR : List K) : rseq T0 TC 0 = rseq T0 TR 0 := rfl

theorem toepRun_GEq (T0 : K) (TC TR Z : List K) (k : ℕ)
    (hP : ∀ j, j < k → (toepRun T0 TC TR Z j).P ≠ 0) :
    GEq (rseq T0 TC) (rseq T0 TR) k (alphaOf (toepRun T0 TC TR Z k).A) (toepRun T0 TC TR Z k).P ∧
    GEq (rseq T0 TR) (rseq T0 TC) k (alphaOf (toepRun T0 TC TR Z k).B) (toepRun T0 TC TR Z k).P := by
  induction k with
  | zero => exact ⟨GEq_zero _ _ _ _ (mul_one T0), GEq_zero _ _ _ _ (mul_one T0)⟩
  | succ k ih =>
    obtain ⟨hA, hB⟩ := ih (fun j hj => hP j (by omega))
    obtain ⟨hlA, hlB⟩ := toepRun_AB_length T0 TC TR Z k
    have hAz := alphaOf_of_gt (toepRun T0 TC TR Z k).A (Nat.lt_succ_of_le hlA.le)
    have hBz := alphaOf_of_gt (toepRun T0 TC TR Z k).B (Nat.lt_succ_of_le hlB.le)
    have hPk := hP k (by omega)
    obtain ⟨eA, eB, eP⟩ := toepRun_succ_ABP T0 TC TR Z k
    rw [eA, eB, eP]
    constructor
    · exact toeplitz_step_fun _ _ (rseq_zero_eq T0 TC TR) k _ _ _ _ (toepT1 T0 TC TR Z k) hPk hA hB
        hAz hBz rfl (fun j hj => alphaOf_step _ (alphaOf _) k _ hlA.le rfl hBz hj)
    · rw [mul_comm (toepT1 T0 TC TR Z k)]
      exact toeplitz_step_fun _ _ (rseq_zero_eq T0 TR TC) k _ _ _ _ (toepT2 T0 TC TR Z k) hPk hB hA
        hBz hAz rfl (fun j hj => alphaOf_step _ (alphaOf _) k _ hlB.le rfl hAz hj)

theorem toepRun_solves (T0 : K) (TC TR Z : List K) (k : ℕ)
    (hP : ∀ j, j ≤ k → (toepRun T0 TC TR Z j).P ≠ 0) :
    ∀ i, i ≤ k →
      ∑ j ∈ range (k + 1), gT (rseq T0 TC) (rseq T0 TR) i j * nth (toepRun T0 TC TR Z k).X j
        = nth Z i := by
  induction k with
  | zero => exact solve_base _ T0 Z (hP 0 (Nat.le_refl 0)) (gT_of_le _ _ le_rfl)
  | succ k ih =>
    have ih' := ih (fun j hj => hP j (by omega))
    have hB := (toepRun_GEq T0 TC TR Z (k + 1) (fun j hj => hP j (by omega))).2
    have hw := GEq_rev _ _ (rseq_zero_eq T0 TC TR) (k + 1) _ _ hB
    rw [toepRun_succ_X]
    exact solveUpd_solves (gT (rseq T0 TC) (rseq T0 TR)) T0 TC (toepRun T0 TC TR Z k).X Z k
      (alphaOf (toepRun T0 TC TR Z (k + 1)).B) rfl (toepRun T0 TC TR Z (k + 1)).P
      (hP (k + 1) (Nat.le_refl _)) (toepRun_X_length T0 TC TR Z k)
      (fun j hj => gT_eq_hR_of_le _ _ (k + 1) j (Nat.le_succ_of_le hj)) ih' hw

end SpecVerif
