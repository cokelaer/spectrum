import SpecVerif.Proofs.Lemmas.Shift
import SpecVerif.Proofs.Lemmas.WienerKhinchin
import SpecVerif.Proofs.Lemmas.Burg
import SpecVerif.Proofs.Lemmas.Mtm
/-
  Helper lemmas for C04, estimator level.  Under modulation: correlation lags, Musicus' sequence, the
  correlogram, the multitaper table.  Under conjugated time reversal: Burg's recursion, the multitaper table
  (`modulate`, `twist`: `Lemmas/Similarity.lean`; `trconj` and the DFT-level facts: `Lemmas/Shift.lean`).
-/
namespace SpecVerif.ShiftL
open Finset SpecVerif SpecVerif.ArmaL

section Corr
variable {K : Type} [Field K] [StarRing K]

theorem corrRaw_modulate {μ : K} (hμ : μ * star μ = 1) (x y : List K) (n k : ℕ) :
    corrRaw (modulate μ x) (modulate μ y) n k = μ ^ k * corrRaw x y n k := by
  rw [corrRaw_eq, corrRaw_eq, Finset.mul_sum]
  apply Finset.sum_congr rfl
  intro j _
  rw [nth_modulate, nth_modulate, star_mul', star_pow, pow_add]
  linear_combination (μ ^ k * nth x (j + k) * star (nth y j)) * unimod_pow_cancel hμ j

/-- every normalisation of `CORRELATION` commutes with the modulation: lag `k` picks up `μ^k` (total
indexing: beyond `maxlags` both sides are `0`) -/
theorem correlation_modulate {μ : K} (hμ : μ * star μ = 1) (x y : List K) (L : ℕ) (norm : Norm)
    (rms2 : K) (k : ℕ) :
    nth (correlation (modulate μ x) (modulate μ y) L norm rms2) k
      = μ ^ k * nth (correlation x y L norm rms2) k := by
  by_cases hk : k ≤ L
  · rw [nth_correlation _ _ _ _ _ _ hk, nth_correlation _ _ _ _ _ _ hk, modulate_length,
      modulate_length, corrRaw_modulate hμ]
    cases norm
    · simp only; rw [mul_div_assoc]
    · simp only; rw [mul_div_assoc]
    · simp only
      by_cases h0 : k = 0
      · rw [if_pos h0, if_pos h0, h0, pow_zero, one_mul]
      · rw [if_neg h0, if_neg h0, mul_div_assoc, mul_div_assoc]
    · simp only
  · rw [nth_of_ge _ _ (by rw [correlation_length]; omega),
      nth_of_ge _ _ (by rw [correlation_length]; omega), mul_zero]

end Corr

/-! ### Burg's recursion on the conjugated, time-reversed data: forward and backward errors swap roles -/
section BurgS
variable {K : Type} [Field K] [StarRing K]
open SpecVerif.BurgL

theorem sum_abs2_trconj (x : List K) :
    sumR x.length (fun j => abs2 (nth (trconj x) j)) = sumR x.length (fun j => abs2 (nth x j)) := by
  rw [sumR_eq_sum, sumR_eq_sum]
  exact sum_mirror (fun j r hjr => by rw [nth_trconj_mirror x hjr, abs2_star])

/-- invariant linking the Burg state `s` of `x` and the state `t` of `y_n = conj x_{N-1-n}` after `k`
stages: same coefficients / powers, and on the live range `k ≤ j < N` the forward errors of `y` are the
conjugated, reversed backward errors of `x` and vice versa; `j'` is the mirror index `N - 1 - j + k` of `j`,
given by the sum `j + j'` so that no index is a truncated difference -/
structure RevInv (N k : ℕ) (s t : BurgState K) : Prop where
  a_eq : t.a = s.a
  rho_eq : t.rho = s.rho
  ref_eq : t.ref = s.ref
  den_eq : t.den = s.den
  temp_eq : t.temp = s.temp
  err : ∀ j j', j + j' + 1 = N + k → k ≤ j → j < N →
    nth t.ef j = star (nth s.eb j') ∧ nth t.eb j = star (nth s.ef j')

theorem burgK_rev {N k : ℕ} {s t : BurgState K} (h : RevInv N k s t) (hk : k < N) :
    burgK t N k = burgK s N k := by
  have hj := h.err
  have hnum : sumR (N - k - 1) (fun i => nth t.ef (i + k + 1) * conj (nth t.eb (i + k)))
      = sumR (N - k - 1) (fun i => nth s.ef (i + k + 1) * conj (nth s.eb (i + k))) := by
    rw [sumR_eq_sum, sumR_eq_sum]
    refine sum_mirror (fun i r hir => ?_)
    -- `r` mirrors the summation index `i`: the entries `i+k+1`, `i+k` are live and mirror `r+k`, `r+k+1`
    have hN : N = i + r + k + 2 := by omega
    subst hN
    clear hir hk h
    rw [(hj (i + k + 1) (r + k) (by omega) (by omega) (by omega)).1,
      (hj (i + k) (r + k + 1) (by omega) (by omega) (by omega)).2,
      conj_eq_star, conj_eq_star, star_star, mul_comm]
  -- the two ends `k`, `N-1` of the live range mirror each other, for the denominator update
  have h1 := (hj k (N - 1) (by omega) (le_refl k) hk).1
  have h2 := (hj (N - 1) k (by omega) (by omega) (by omega)).2
  -- `hnum`'s left side is the numerator of the unfolded `burgK`, word for word
  simp only [burgK]
  rw [hnum, h1, h2, abs2_star, abs2_star, h.den_eq, h.temp_eq, Prod.mk.injEq]
  constructor
  · congr 1; ring
  · ring

theorem burgStep_rev {N k : ℕ} {s t : BurgState K} (h : RevInv N k s t) (hk : k < N) :
    RevInv N (k + 1) (burgStep s N k) (burgStep t N k) := by
  have hK := burgK_rev h hk
  have hj := h.err
  unfold burgStep
  simp only [hK]
  refine ⟨by rw [h.a_eq], by rw [h.rho_eq], by rw [h.ref_eq], rfl, rfl, ?_⟩
  intro j j' hjj' hkj hjN
  -- `j` and its mirror `j'` are updated entries (`> k`, `< N`); at stage `k` they mirror `j'-1`, `j-1`
  simp only [nth_vec, if_pos hjN, if_pos (show k < j by omega), if_pos (show j' < N by omega),
    if_pos (show k < j' by omega)]
  rw [(hj j (j' - 1) (by omega) (by omega) hjN).1, (hj (j - 1) j' (by omega) (by omega) (by omega)).2]
  constructor
  · rw [star_add, star_mul', conj_eq_star, star_star]
  · rw [star_add, star_mul', conj_eq_star]

theorem burgInit_rev (x : List K) : RevInv x.length 0 (burgInit x) (burgInit (trconj x)) := by
  have hrho := sum_abs2_trconj x
  unfold burgInit
  simp only [trconj_length, hrho]
  refine ⟨rfl, rfl, rfl, rfl, rfl, ?_⟩
  intro j j' hjj' _ hj
  rw [nth_trconj x j hj, show x.length - 1 - j = j' by omega]
  exact ⟨rfl, rfl⟩

theorem burgRun_rev (x : List K) (k : ℕ) (hk : k ≤ x.length) :
    RevInv x.length k (burgRun x k) (burgRun (trconj x) k) := by
  induction k with
  | zero => exact burgInit_rev x
  | succ k ih =>
    have h := burgStep_rev (ih (by omega)) (show k < x.length by omega)
    rw [burgRun_succ, burgRun_succ, trconj_length]
    exact h

end BurgS

section Taper
variable {K : Type} [Field K]

/-- the eigenspectrum is the DFT of the data windowed by the taper, in the `x·w` convention of the
periodogram -/
theorem eigenspectrum_eq_windowed (tw x taper : List K) (n : ℕ) :
    eigenspectrum tw x taper n
      = vec n (dftBin tw n (vec x.length (fun j => nth x j * nth taper j))) := by
  unfold eigenspectrum
  rw [vec_ext (f := fun j => nth taper j * nth x j) (fun j _ => mul_comm _ _)]

theorem nth_eigenspectrum_xw (tw x taper : List K) (n : ℕ) {k : ℕ} (hk : k < n) :
    nth (eigenspectrum tw x taper n) k
      = dftBin tw n (vec x.length (fun j => nth x j * nth taper j)) k := by
  rw [eigenspectrum_eq_windowed, nth_vec_lt _ hk]

/-- the taper-weighted mean of rotated eigenspectra is the rotated mean (`unity` / `eigen` weights:
one weight per taper) -/
theorem mtMean_rot (method : MtMethod) (hmeth : method ≠ .adapt) (Sk Sk' weights : List (List K))
    (n nwin : ℕ) {k k' : ℕ} (hk : k < n) (hk' : k' < n)
    (h : ∀ t, t < nwin → nth (Sk'.getD t []) k = nth (Sk.getD t []) k') :
    nth (mtMean method Sk' weights n nwin) k = nth (mtMean method Sk weights n nwin) k' := by
  unfold mtMean
  rw [nth_vec, nth_vec, if_pos hk, if_pos hk', sumR_eq_sum, sumR_eq_sum]
  congr 1
  apply Finset.sum_congr rfl
  intro t ht
  rw [h t (mem_range.mp ht)]
  cases method
  · rfl
  · rfl
  · exact absurd rfl hmeth

end Taper

/-! ### minimum variance, correlogram and the multitaper table: modulation rotates the bins, time reversal
keeps the table -/
section Spectra
variable {K : Type} [Field K] [StarRing K]

theorem minvarLag_modulate {μ : K} (hμ : μ * star μ = 1) (a : List K) (P : K) (k : ℕ) :
    minvarLag (modulate μ a) P k = μ ^ k * minvarLag a P k := by
  unfold minvarLag
  rw [modulate_length, mul_div_assoc', Finset.mul_sum]
  refine congrArg (· / P) (Finset.sum_congr rfl (fun i _ => ?_))
  rw [nth_modulate, nth_modulate, star_mul', star_pow, pow_add]
  -- `w` is the weight of summand `i`; the modulation does not touch it
  generalize (if 2 * i ≤ a.length - k then (((a.length - k - 2 * i : ℕ) : K))
    else -(((2 * i - (a.length - k) : ℕ) : K))) = w
  linear_combination (w * μ ^ k * star (nth a i) * nth a (i + k)) * unimod_pow_cancel hμ i

theorem minvarPsi_modulate {μ : K} (hμ : μ * star μ = 1) {n : ℕ} (hμn : μ ^ n = 1) (a : List K)
    (P : K) : minvarPsi (modulate μ a) P n = modulate μ (minvarPsi a P n) := by
  apply list_ext_nth (by rw [minvarPsi_length, modulate_length, minvarPsi_length])
  intro j hj
  rw [minvarPsi_length] at hj
  rw [nth_modulate, nth_minvarPsi _ _ hj, nth_minvarPsi _ _ hj, modulate_length]
  by_cases h1 : j < a.length
  · rw [if_pos h1, if_pos h1, minvarLag_modulate hμ]
  · rw [if_neg h1, if_neg h1]
    by_cases h2 : 0 < n - j ∧ n - j < a.length
    · rw [if_pos h2, if_pos h2, minvarLag_modulate hμ, star_mul', star_pow,
        star_pow_sub_eq hμ hμn (by omega)]
    · rw [if_neg h2, if_neg h2, mul_zero]

theorem minvarPsd_twist {ω : K} {n : ℕ} (hn : 0 < n) (hω : ω ^ n = 1) (hstar : star ω = ω⁻¹)
    (a : List K) (P fs : K) {k m : ℕ} (hk : k < n) (hm : m ≤ n) :
    nth (minvarPsd (twiddles ω n) ((1 : K) :: twist (ω⁻¹ ^ m) a) P fs n) k
      = nth (minvarPsd (twiddles ω n) ((1 : K) :: a) P fs n) ((k + n - m) % n) := by
  rw [nth_minvarPsd _ _ _ _ _ hk, nth_minvarPsd _ _ _ _ _ (Nat.mod_lt _ hn), ← modulate_cons_one,
    minvarPsi_modulate (unimod_inv_pow hn hω hstar m) (inv_pow_pow_eq_one hω m),
    dftBin_modulate hn hω _ (by omega)]

theorem correlogramSeq_modulate {μ : K} (hμ : μ * star μ = 1) {n : ℕ} (hμn : μ ^ n = 1)
    (rxy ryx rxy' ryx' w : List K) (lag : ℕ)
    (h1 : ∀ i, i ≤ lag → nth rxy' i = μ ^ i * nth rxy i)
    (h2 : ∀ i, i ≤ lag → nth ryx' i = μ ^ i * nth ryx i) :
    correlogramSeq rxy' ryx' w lag n = modulate μ (correlogramSeq rxy ryx w lag n) := by
  unfold correlogramSeq modulate
  rw [vec_length]
  apply vec_ext
  intro i hi
  rw [nth_vec, if_pos hi]
  by_cases h0 : i = 0
  · subst h0
    rw [if_pos rfl, if_pos rfl, h1 0 (Nat.zero_le _)]
  · rw [if_neg h0, if_neg h0]
    by_cases h3 : n - lag ≤ i
    · rw [if_pos h3, if_pos h3, h2 _ (by omega), conj_eq_star, conj_eq_star, star_mul', star_pow,
        star_pow_sub_eq hμ hμn (by omega), mul_assoc]
    · rw [if_neg h3, if_neg h3]
      by_cases h4 : i ≤ lag
      · rw [if_pos h4, if_pos h4, h1 i h4, mul_assoc]
      · rw [if_neg h4, if_neg h4, mul_zero]

theorem nth_correlogram_modulate {ω : K} {n : ℕ} (hn : 0 < n) (hω : ω ^ n = 1) (hstar : star ω = ω⁻¹)
    (x y w : List K) (lag : ℕ) (norm : Norm) (rms2 : K) {k m : ℕ} (hk : k < n) (hm : m ≤ n) :
    nth (correlogram (twiddles ω n) (modulate (ω⁻¹ ^ m) x) (modulate (ω⁻¹ ^ m) y) w lag n norm rms2) k
      = nth (correlogram (twiddles ω n) x y w lag n norm rms2) ((k + n - m) % n) := by
  have hμ := unimod_inv_pow hn hω hstar m
  unfold correlogram
  simp only
  rw [nth_correlogramPsd _ _ _ _ _ _ hk, nth_correlogramPsd _ _ _ _ _ _ (Nat.mod_lt _ hn),
    correlogramSeq_modulate hμ (inv_pow_pow_eq_one hω m) (correlation x y lag norm rms2)
      (correlation y x lag norm rms2) _ _ w lag
      (fun i _ => correlation_modulate hμ x y lag norm rms2 i)
      (fun i _ => correlation_modulate hμ y x lag norm rms2 i),
    dftBin_modulate hn hω _ (by omega)]

theorem mtSkAbs2_modulate {ω : K} {n : ℕ} (hn : 0 < n) (hω : ω ^ n = 1) (x : List K)
    (tapers : List (List K)) (t : ℕ) {k m : ℕ} (hk : k < n) (hm : m ≤ n) :
    nth ((mtSkAbs2 (twiddles ω n) (modulate (ω⁻¹ ^ m) x) tapers n).getD t []) k
      = nth ((mtSkAbs2 (twiddles ω n) x tapers n).getD t []) ((k + n - m) % n) := by
  rw [nth_mtSkAbs2, nth_mtSkAbs2, nth_eigenspectrum_xw _ _ _ _ hk,
    nth_eigenspectrum_xw _ _ _ _ (Nat.mod_lt _ hn), windowed_modulate,
    dftBin_modulate hn hω _ (by omega)]

theorem mtSkAbs2_trconj {ω : K} {n : ℕ} (hn : 0 < n) (hω : ω ^ n = 1) (hstar : star ω = ω⁻¹)
    (x : List K) (hN : x.length ≤ n) (tapers : List (List K))
    (hw : ∀ tp ∈ tapers, ∀ j, j < x.length → star (nth tp j) = nth tp j)
    (hsym : ∀ tp ∈ tapers, ∀ j, j < x.length → nth tp (x.length - 1 - j) = nth tp j) :
    mtSkAbs2 (twiddles ω n) (trconj x) tapers n = mtSkAbs2 (twiddles ω n) x tapers n := by
  unfold mtSkAbs2
  apply List.map_congr_left
  intro tp htp
  rw [eigenspectrum_eq_windowed, eigenspectrum_eq_windowed,
    windowed_trconj x tp (hw tp htp) (hsym tp htp), map_vec, map_vec]
  apply vec_ext
  intro k _
  rw [dftBin_trconj hn hω hstar _ (by rwa [vec_length]),
    abs2_phase_mul (ne_zero_of_pow_eq_one hn hω) hstar]

/-- the weights of `pmtm` see the data only through `N` and `Σ|x|²` -/
theorem pmtmWeights_trconj [ReOrd K] (method : MtMethod) (x lams : List K) (SkA : List (List K))
    (n : ℕ) (tolc : K) :
    pmtmWeights method (trconj x) lams SkA n tolc = pmtmWeights method x lams SkA n tolc := by
  have hrho := sum_abs2_trconj x
  unfold pmtmWeights
  cases method
  · rfl
  · rfl
  · simp only [trconj_length, hrho]

end Spectra

end SpecVerif.ShiftL
