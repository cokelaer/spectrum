import SpecVerif.Proofs.Lemmas.Shift
import SpecVerif.Proofs.Lemmas.Covar
/-
  `arcovar` / `modcovar` under the semilinear similarity `x_n ↦ c·μⁿ·σ(x_n)` (`c ≠ 0`, `μ·conj μ = 1`, `σ` the
  identity or the conjugation): scaling (C03), modulation and conjugation (C04).  At the coefficients
  `a_j ↦ μ^{j+1}·σ(a_j)` the prediction errors are `c·μᵗ·σ(·)` of those of the data (`PredSim`), so the energies
  pick up `c·conj c` and normal equation `b` the non-zero factor `c·conj c·μ^{b+1}`; `LSL.ls_transport` then
  carries the unique solution across.  Time reversal: the 'modified' data matrix of `trconj x` is that of `x`
  with its rows reversed, which `lsFit` (sums over rows) does not see.
-/
namespace SpecVerif.ShiftLSL
open Finset SpecVerif SpecVerif.ArmaL SpecVerif.ShiftL SpecVerif.LSL

section Sim
variable {K : Type} [Field K] [StarRing K]

/-- `x'` is the image of the data `x` under `x_n ↦ c·μⁿ·σ(x_n)` and `a'` the image of the coefficients `a`
under `a_j ↦ μ^{j+1}·σ(a_j)` (the convention of `twist`) -/
structure PredSim (c μ : K) (σ : K →+* K) (p : ℕ) (x' x : List K) (a' a : ℕ → K) : Prop where
  sigma_star : ∀ z, σ (star z) = star (σ z)
  unimod : μ * star μ = 1
  len : x'.length = x.length
  data : ∀ n, nth x' n = c * (μ ^ n * σ (nth x n))
  coef : ∀ j, j < p → a' j = μ ^ (j + 1) * σ (a j)

theorem predSim_smul (c : K) (x : List K) (p : ℕ) (a : ℕ → K) :
    PredSim c 1 (RingHom.id K) p (x.map (fun v => c * v)) x a a :=
  ⟨fun _ => rfl, unimod_one, List.length_map _, sim_smul c x,
    fun j _ => by rw [one_pow, one_mul, RingHom.id_apply]⟩

theorem predSim_modulate {μ : K} (hμ : μ * star μ = 1) (x : List K) {p : ℕ} {a' a : ℕ → K}
    (ha : ∀ j, j < p → a' j = μ ^ (j + 1) * a j) :
    PredSim 1 μ (RingHom.id K) p (modulate μ x) x a' a :=
  ⟨fun _ => rfl, hμ, modulate_length μ x, sim_modulate μ x, ha⟩

theorem predSim_map_star (x : List K) {p : ℕ} {a' a : ℕ → K} (ha : ∀ j, j < p → a' j = star (a j)) :
    PredSim 1 1 (starRingEnd K) p (x.map star) x a' a :=
  ⟨fun _ => rfl, unimod_one, List.length_map _,
    fun n => by rw [nth_map_star, one_mul, one_pow, one_mul, starRingEnd_apply],
    fun j hj => by rw [ha j hj, one_pow, one_mul, starRingEnd_apply]⟩

variable {c μ : K} {σ : K →+* K} {p : ℕ} {x' x : List K} {a' a : ℕ → K}

omit [StarRing K] in
/-- `map_sum` at a ring endomorphism of `K`, through its additive part: the instance search at `K →+* K`
itself is dear -/
theorem sigma_sum (σ : K →+* K) (s : Finset ℕ) (f : ℕ → K) : σ (∑ i ∈ s, f i) = ∑ i ∈ s, σ (f i) :=
  map_sum σ.toAddMonoidHom f s

/-- the forward error of the transformed data at the transformed coefficients (`t ≥ p`: no truncated
index) -/
theorem fwdErr_sim (h : PredSim c μ σ p x' x a' a) {t : ℕ} (ht : p ≤ t) :
    fwdErr x' p a' t = c * (μ ^ t * σ (fwdErr x p a t)) := by
  unfold fwdErr
  rw [h.data, σ.map_add, sigma_sum, mul_add, mul_add, Finset.mul_sum, Finset.mul_sum]
  refine congrArg (_ + ·) (Finset.sum_congr rfl (fun j hj => ?_))
  have hj' := mem_range.mp hj
  have e : μ ^ t = μ ^ (j + 1) * μ ^ (t - 1 - j) := by
    rw [← pow_add]
    congr 1
    omega
  rw [h.data, h.coef j hj', σ.map_mul, e]
  ring

theorem bwdErr_sim (h : PredSim c μ σ p x' x a' a) (s : ℕ) :
    bwdErr x' p a' s = c * (μ ^ s * σ (bwdErr x p a s)) := by
  unfold bwdErr
  rw [h.data, σ.map_add, sigma_sum, mul_add, mul_add, Finset.mul_sum, Finset.mul_sum]
  refine congrArg (_ + ·) (Finset.sum_congr rfl (fun j hj => ?_))
  have e : μ ^ (s + 1 + j) = μ ^ s * μ ^ (j + 1) := by
    rw [← pow_add]
    congr 1
    omega
  rw [h.data, h.coef j (mem_range.mp hj), σ.map_mul, h.sigma_star, star_mul', star_pow, e]
  linear_combination (c * μ ^ s * star (σ (a j)) * σ (nth x (s + 1 + j)))
    * unimod_pow_cancel h.unimod (j + 1)

theorem fwdEnergy_sim (h : PredSim c μ σ p x' x a' a) :
    fwdEnergy x' p a' = c * star c * σ (fwdEnergy x p a) := by
  unfold fwdEnergy
  rw [h.len, sigma_sum, Finset.mul_sum]
  apply Finset.sum_congr rfl
  intro t ht
  rw [fwdErr_sim h (mem_Ico.mp ht).1, σ.map_mul, h.sigma_star, star_mul', star_mul', star_pow]
  linear_combination (c * star c * σ (fwdErr x p a t) * star (σ (fwdErr x p a t)))
    * unimod_pow_cancel h.unimod t

theorem bwdEnergy_sim (h : PredSim c μ σ p x' x a' a) :
    bwdEnergy x' p a' = c * star c * σ (bwdEnergy x p a) := by
  unfold bwdEnergy
  rw [h.len, sigma_sum, Finset.mul_sum]
  apply Finset.sum_congr rfl
  intro s _
  rw [bwdErr_sim h, σ.map_mul, h.sigma_star, star_mul', star_mul', star_pow]
  linear_combination (c * star c * σ (bwdErr x p a s) * star (σ (bwdErr x p a s)))
    * unimod_pow_cancel h.unimod s

/-- forward half of normal equation `b < p` of the transformed data: the factor `c·conj c·μ^{b+1}` -/
theorem normalSum_fwd_sim (h : PredSim c μ σ p x' x a' a) {b : ℕ} (hb : b < p) (N : ℕ) :
    ∑ t ∈ Ico p N, star (nth x' (t - 1 - b)) * fwdErr x' p a' t
      = c * star c * μ ^ (b + 1) * σ (∑ t ∈ Ico p N, star (nth x (t - 1 - b)) * fwdErr x p a t) := by
  rw [sigma_sum, Finset.mul_sum]
  apply Finset.sum_congr rfl
  intro t ht
  have ht' := (mem_Ico.mp ht).1
  have e : μ ^ t = μ ^ (b + 1) * μ ^ (t - 1 - b) := by
    rw [← pow_add]
    congr 1
    omega
  rw [fwdErr_sim h ht', h.data, star_mul', star_mul', star_pow, σ.map_mul, h.sigma_star, e]
  linear_combination
    (c * star c * μ ^ (b + 1) * star (σ (nth x (t - 1 - b))) * σ (fwdErr x p a t))
      * unimod_pow_cancel h.unimod (t - 1 - b)

/-- backward half of normal equation `b` of the transformed data: the same factor -/
theorem normalSum_bwd_sim (h : PredSim c μ σ p x' x a' a) (b : ℕ) (I : Finset ℕ) :
    ∑ s ∈ I, nth x' (s + 1 + b) * star (bwdErr x' p a' s)
      = c * star c * μ ^ (b + 1) * σ (∑ s ∈ I, nth x (s + 1 + b) * star (bwdErr x p a s)) := by
  rw [sigma_sum, Finset.mul_sum]
  apply Finset.sum_congr rfl
  intro s _
  have e : μ ^ (s + 1 + b) = μ ^ (b + 1) * μ ^ s := by
    rw [← pow_add]
    congr 1
    omega
  rw [bwdErr_sim h, h.data, star_mul', star_mul', star_pow, σ.map_mul, h.sigma_star, e]
  linear_combination
    (c * star c * μ ^ (b + 1) * σ (nth x (s + 1 + b)) * star (σ (bwdErr x p a s)))
      * unimod_pow_cancel h.unimod s

theorem normalFactor_ne_zero (h : PredSim c μ σ p x' x a' a) (hc : c ≠ 0) (b : ℕ) :
    c * star c * μ ^ (b + 1) ≠ 0 :=
  mul_ne_zero (mul_star_self_ne_zero hc) (pow_ne_zero _ (left_ne_zero_of_mul_eq_one h.unimod))

theorem covariance_normalEq_sim (h : PredSim c μ σ p x' x a' a) (hc : c ≠ 0) :
    NormalEq (col0 (corrmtx x' p .covariance)) (colR (corrmtx x' p .covariance)) (x'.length - p) p a'
      ↔ NormalEq (col0 (corrmtx x p .covariance)) (colR (corrmtx x p .covariance))
          (x.length - p) p a := by
  rw [CovarL.covariance_normalEq_iff, CovarL.covariance_normalEq_iff, h.len]
  apply forall_congr'
  intro b
  apply imp_congr_right
  intro hb
  rw [normalSum_fwd_sim h hb, mul_eq_zero, map_eq_zero]
  exact ⟨fun h0 => h0.resolve_left (normalFactor_ne_zero h hc b), Or.inr⟩

theorem modified_normalEq_sim (h : PredSim c μ σ p x' x a' a) (hc : c ≠ 0) :
    NormalEq (col0 (corrmtx x' p .modified)) (colR (corrmtx x' p .modified)) (2 * (x'.length - p)) p a'
      ↔ NormalEq (col0 (corrmtx x p .modified)) (colR (corrmtx x p .modified))
          (2 * (x.length - p)) p a := by
  rw [CovarL.modified_normalEq_iff, CovarL.modified_normalEq_iff, h.len]
  apply forall_congr'
  intro b
  apply imp_congr_right
  intro hb
  rw [normalSum_fwd_sim h hb, normalSum_bwd_sim h, ← mul_add, ← σ.map_add, mul_eq_zero, map_eq_zero]
  exact ⟨fun h0 => h0.resolve_left (normalFactor_ne_zero h hc b), Or.inr⟩

/-- the two energies are sums of `z·conj z`, hence self-conjugate: what `σ e` of `arcovar_sim_unique` becomes
when `σ` is the conjugation -/
theorem star_fwdEnergy (x : List K) (p : ℕ) (a : ℕ → K) : star (fwdEnergy x p a) = fwdEnergy x p a := by
  unfold fwdEnergy
  rw [star_sum]
  exact Finset.sum_congr rfl (fun t _ => by rw [star_mul', star_star, mul_comm])

theorem star_bwdEnergy (x : List K) (p : ℕ) (a : ℕ → K) : star (bwdEnergy x p a) = bwdEnergy x p a := by
  unfold bwdEnergy
  rw [star_sum]
  exact Finset.sum_congr rfl (fun s _ => by rw [star_mul', star_star, mul_comm])

section Unique
variable [IsZero K] {τ' : (ℕ → K) → ℕ → K} (hsim : ∀ f, PredSim c μ σ p x' x f (τ' f)) (hc : c ≠ 0)
  {a a' : List K} {e e' : K}
include hsim hc

/-- **what `arcovar` returns on the transformed data**: if both calls return, both returned vectors satisfy
their normal equations and those of the data have no other solution, then the inverse image `τ' a'` of the
coefficients is `a` and the error is `c·conj c·σ(e)`.  `hsim` says that `τ'` inverts the action
`a_j ↦ μ^{j+1}σ(a_j)` on the coefficients. -/
theorem arcovar_sim_unique (h : arcovar x p = some (a, e)) (h' : arcovar x' p = some (a', e'))
    (hne : NormalEq (col0 (corrmtx x p .covariance)) (colR (corrmtx x p .covariance))
      (x.length - p) p (nth a))
    (hne' : NormalEq (col0 (corrmtx x' p .covariance)) (colR (corrmtx x' p .covariance))
      (x'.length - p) p (nth a'))
    (huniq : ∀ f, NormalEq (col0 (corrmtx x p .covariance)) (colR (corrmtx x p .covariance))
      (x.length - p) p f → ∀ j, j < p → f j = nth a j) :
    (∀ j, j < p → τ' (nth a') j = nth a j) ∧ e' = c * star c * σ e := by
  obtain ⟨hag, hE⟩ := ls_transport τ' (fun z => c * star c * σ z)
    (fun f => (covariance_normalEq_sim (hsim f) hc).mp)
    (fun f => by rw [CovarL.covariance_energy, CovarL.covariance_energy, fwdEnergy_sim (hsim f)])
    hne' huniq
  exact ⟨hag, by rw [(lsFit_error h' hne').1, (lsFit_error h hne).1, hE]⟩

/-- the same for `modcovar` -/
theorem modcovar_sim_unique (h : modcovar x p = some (a, e)) (h' : modcovar x' p = some (a', e'))
    (hne : NormalEq (col0 (corrmtx x p .modified)) (colR (corrmtx x p .modified))
      (2 * (x.length - p)) p (nth a))
    (hne' : NormalEq (col0 (corrmtx x' p .modified)) (colR (corrmtx x' p .modified))
      (2 * (x'.length - p)) p (nth a'))
    (huniq : ∀ f, NormalEq (col0 (corrmtx x p .modified)) (colR (corrmtx x p .modified))
      (2 * (x.length - p)) p f → ∀ j, j < p → f j = nth a j) :
    (∀ j, j < p → τ' (nth a') j = nth a j) ∧ e' = c * star c * σ e := by
  obtain ⟨hag, hE⟩ := ls_transport τ' (fun z => c * star c * σ z)
    (fun f => (modified_normalEq_sim (hsim f) hc).mp)
    (fun f => by
      rw [CovarL.modified_energy, CovarL.modified_energy, fwdEnergy_sim (hsim f),
        bwdEnergy_sim (hsim f), σ.map_add, mul_add])
    hne' huniq
  exact ⟨hag, by rw [(lsFit_error h' hne').1, (lsFit_error h hne).1, hE]⟩

end Unique

theorem eq_twist_of_untwist {μ : K} (hμ : μ * star μ = 1) {p : ℕ} {a a' : List K}
    (hl : a.length = p) (hl' : a'.length = p)
    (h : ∀ j, j < p → star μ ^ (j + 1) * nth a' j = nth a j) : a' = twist μ a := by
  apply list_ext_nth (by rw [twist_length, hl, hl'])
  intro j hj
  rw [nth_twist, ← h j (by omega), ← mul_assoc, unimod_pow_cancel hμ, one_mul]

theorem eq_map_star_of_star {p : ℕ} {a a' : List K} (hl : a.length = p) (hl' : a'.length = p)
    (h : ∀ j, j < p → star (nth a' j) = nth a j) : a' = a.map star := by
  apply list_ext_nth (by rw [List.length_map, hl, hl'])
  intro j hj
  rw [nth_map_star, ← h j (by omega), star_star]

end Sim

section LSflip
variable {K : Type} [Field K]

variable [StarRing K]

/-- reversing the order of the rows of the data matrix does not change the least-squares fit: the Gram
matrix, its right-hand side and the error formula are sums over the rows -/
theorem lsFit_rowflip [IsZero K] (X X' : Mat K) (rows p : ℕ)
    (h : ∀ i i', i + i' + 1 = rows → ∀ j, mentryM X' i j = mentryM X i' j) :
    lsFit X' rows p = lsFit X rows p := by
  have hc : ∀ i i', i + i' + 1 = rows → ∀ j, colR X' i j = colR X i' j := fun i i' hi j => h i i' hi (j + 1)
  have h0 : ∀ i i', i + i' + 1 = rows → col0 X' i = col0 X i' := fun i i' hi => h i i' hi 0
  have hcc : ∀ k l, ∑ i ∈ range rows, star (colR X' i k) * colR X' i l
      = ∑ i ∈ range rows, star (colR X i k) * colR X i l :=
    fun k l => sum_mirror (fun i i' hi => by rw [hc i i' hi, hc i i' hi])
  have hc0 : ∀ k, ∑ i ∈ range rows, star (colR X' i k) * col0 X' i
      = ∑ i ∈ range rows, star (colR X i k) * col0 X i :=
    fun k => sum_mirror (fun i i' hi => by rw [hc i i' hi, h0 i i' hi])
  have h00 : ∑ i ∈ range rows, star (col0 X' i) * col0 X' i
      = ∑ i ∈ range rows, star (col0 X i) * col0 X i :=
    sum_mirror (fun i i' hi => by rw [h0 i i' hi])
  have h0c : ∀ j, ∑ i ∈ range rows, star (col0 X' i) * colR X' i j
      = ∑ i ∈ range rows, star (col0 X i) * colR X i j :=
    fun j => sum_mirror (fun i i' hi => by rw [h0 i i' hi, hc i i' hi])
  rw [lsFit_eq, lsFit_eq, lstsq_unfold, lstsq_unfold, gram_eq_vec, gram_eq_vec, gramRhs_eq_vec,
    gramRhs_eq_vec]
  unfold lsErr
  simp only [hcc, hc0, h00, h0c]

/-- all entries of the 'modified' data matrix, total in `j` (columns beyond `m`: zero padding) -/
theorem mentry_corrmtx_modified (x : List K) (m i j : ℕ) (hi : i < 2 * (x.length - m)) :
    mentryM (corrmtx x m .modified) i j
      = if j ≤ m then
          (if i < x.length - m then nth x (i + m - j) else star (nth x (i - (x.length - m) + j)))
        else 0 := by
  unfold corrmtx mentryM
  simp only
  rw [getD_vec, if_pos hi]
  by_cases h1 : i < x.length - m
  · rw [if_pos h1, nth_vec, if_pos h1]
    by_cases h2 : j ≤ m
    · rw [if_pos (by omega), if_pos h2, if_pos (by omega)]
    · rw [if_neg (by omega), if_neg h2]
  · rw [if_neg h1, nth_vec, if_neg h1]
    by_cases h2 : j ≤ m
    · rw [if_pos (by omega), if_pos h2, conj_eq_star]
    · rw [if_neg (by omega), if_neg h2]

/-- the modified-covariance data matrix of the conjugated time-reversed data is the data matrix of the
data with its `2(N-p)` rows in reverse order (forward rows ↔ backward rows); `i'` is the mirror row of `i` -/
theorem corrmtx_modified_trconj (x : List K) (p : ℕ) (hp : p ≤ x.length) {i i' : ℕ}
    (hii' : i + i' + 1 = 2 * (x.length - p)) (j : ℕ) :
    mentryM (corrmtx (trconj x) p .modified) i j = mentryM (corrmtx x p .modified) i' j := by
  rw [mentry_corrmtx_modified _ _ _ _ (by rw [trconj_length]; omega),
    mentry_corrmtx_modified _ _ _ _ (by omega), trconj_length]
  -- `M` rows of each kind
  obtain ⟨M, hM⟩ : ∃ M, M + p = x.length := ⟨x.length - p, Nat.sub_add_cancel hp⟩
  rw [show x.length - p = M by omega] at hii' ⊢
  by_cases h2 : j ≤ p
  · rw [if_pos h2, if_pos h2]
    by_cases h1 : i < M
    · -- a forward row goes to a backward row, whose column `j` reads the mirrored sample
      rw [if_pos h1, if_neg (by omega),
        nth_trconj_mirror x (show (i + p - j) + (i' - M + j) + 1 = x.length by omega)]
    · rw [if_neg h1, if_pos (by omega),
        nth_trconj_mirror x (show (i - M + j) + (i' + p - j) + 1 = x.length by omega), star_star]
  · rw [if_neg h2, if_neg h2]

end LSflip

end SpecVerif.ShiftLSL
