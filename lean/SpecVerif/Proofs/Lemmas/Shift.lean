import SpecVerif.Proofs.Lemmas.DFT
import SpecVerif.Proofs.Lemmas.Similarity
import SpecVerif.Model.Periodogram
import SpecVerif.Model.Sides
/-
  Helper lemmas for C04 (frequency-shift covariance, conjugation mirror, time reversal).

  * `modulate μ x`  — `x_n ↦ μ^n x_n`   (multiplication by `e^{2πi m n/NFFT}` when `μ = ω⁻¹^m`);
  * `twist μ A`     — `A_j ↦ μ^{j+1} A_j` (what modulation does to lags `r_1..`, AR coefficients
                       `a_1..` and reflection coefficients `k_1..`, all stored without index 0);
                       both are defined in `Lemmas/Similarity.lean`;
  * `trconj x`      — `x_n ↦ conj x_{N-1-n}` (conjugated time reversal).
-/
namespace SpecVerif.ShiftL
open Finset SpecVerif SpecVerif.ArmaL

section Defs
variable {K : Type} [Field K]

def trconj [StarRing K] (x : List K) : List K :=
  vec x.length (fun n => star (nth x (x.length - 1 - n)))

@[simp] theorem trconj_length [StarRing K] (x : List K) : (trconj x).length = x.length :=
  vec_length _ _

theorem nth_trconj [StarRing K] (x : List K) (i : ℕ) (h : i < x.length) :
    nth (trconj x) i = star (nth x (x.length - 1 - i)) := by
  unfold trconj
  rw [nth_vec, if_pos h]

/-- a sum read backwards; `i'` is the mirror index of `i` -/
theorem sum_mirror {f f' : ℕ → K} {r : ℕ} (h : ∀ i i', i + i' + 1 = r → f' i = f i') :
    ∑ i ∈ range r, f' i = ∑ i ∈ range r, f i := by
  rw [← Finset.sum_range_reflect f r]
  exact Finset.sum_congr rfl (fun i hi => h i (r - 1 - i) (by have := mem_range.mp hi; omega))

/-- `nth_trconj` with the mirror index given by a sum, so that no index is a truncated difference -/
theorem nth_trconj_mirror [StarRing K] (x : List K) {i i' : ℕ} (h : i + i' + 1 = x.length) :
    nth (trconj x) i = star (nth x i') := by
  rw [nth_trconj x i (by omega), ← h, Nat.add_sub_cancel, Nat.add_sub_cancel_left]

/-- a list of self-conjugate entries (real data, real coefficients) is fixed by the conjugation -/
theorem map_star_eq_self [StarRing K] (A : List K) (h : ∀ j, j < A.length → star (nth A j) = nth A j) :
    A.map star = A := by
  apply list_ext_nth (List.length_map _)
  intro j hj
  rw [nth_map_star]
  exact h j (by rwa [List.length_map] at hj)

end Defs

section Roots
variable {K : Type} [Field K]

/-- the bin `k - m (mod NFFT)`, in the form the DFT sums need: `ω^{j·((k+NFFT-m) % NFFT)} = (ω^k·(ω⁻¹)^m)^j` -/
theorem pow_rot {ω : K} {n : ℕ} (hn : 0 < n) (h : ω ^ n = 1) {k m : ℕ} (hm : m ≤ k + n) (j : ℕ) :
    ω ^ (j * ((k + n - m) % n)) = (ω ^ k * ω⁻¹ ^ m) ^ j := by
  have hm0 : ω ^ m ≠ 0 := pow_ne_zero m (ne_zero_of_pow_eq_one hn h)
  have e : ω ^ (k + n - m) * ω ^ m = ω ^ k := by
    rw [← pow_add, Nat.sub_add_cancel hm, pow_add, h, mul_one]
  rw [mul_comm, pow_mul, ← pow_eq_pow_mod _ h, ← e, inv_pow, mul_assoc, mul_inv_cancel₀ hm0, mul_one]

/-- the mirrored bin `-k (mod NFFT)`: `ω^{j·((NFFT-k) % NFFT)} = ((ω⁻¹)^k)^j` -/
theorem pow_mirror {ω : K} {n : ℕ} (h : ω ^ n = 1) {k : ℕ} (hk : k ≤ n) (j : ℕ) :
    ω ^ (j * ((n - k) % n)) = (ω⁻¹ ^ k) ^ j := by
  have e : ω ^ (n - k) * ω ^ k = 1 := by
    rw [← pow_add, Nat.sub_add_cancel hk, h]
  rw [mul_comm, pow_mul, ← pow_eq_pow_mod _ h, inv_pow, eq_inv_of_mul_eq_one_left e]

theorem inv_pow_pow_eq_one {ω : K} {n : ℕ} (hω : ω ^ n = 1) (m : ℕ) : (ω⁻¹ ^ m) ^ n = 1 := by
  rw [← pow_mul, mul_comm, pow_mul, inv_pow, hω, inv_one, one_pow]

variable [StarRing K]

/-- for unimodular `μ` with `μ^n = 1`: `conj μ^{n-j} = μ^j` (the negative lag stored at `n-j`) -/
theorem star_pow_sub_eq {μ : K} (hμ : μ * star μ = 1) {n : ℕ} (hμn : μ ^ n = 1) {j : ℕ} (hj : j ≤ n) :
    star μ ^ (n - j) = μ ^ j := by
  have h : μ ^ j * μ ^ (n - j) = 1 := by rw [← pow_add, Nat.add_sub_cancel' hj, hμn]
  calc star μ ^ (n - j) = μ ^ j * μ ^ (n - j) * star μ ^ (n - j) := by rw [h, one_mul]
    _ = μ ^ j := by rw [mul_assoc, unimod_pow_cancel hμ, mul_one]

theorem unimod_inv_pow {ω : K} {n : ℕ} (hn : 0 < n) (hω : ω ^ n = 1) (hstar : star ω = ω⁻¹) (m : ℕ) :
    (ω⁻¹ ^ m) * star (ω⁻¹ ^ m) = 1 := by
  have hω0 : ω ≠ 0 := ne_zero_of_pow_eq_one hn hω
  rw [star_pow, star_inv₀, hstar, inv_inv, ← mul_pow, inv_mul_cancel₀ hω0, one_pow]

theorem abs2_phase_mul {ω : K} (hω0 : ω ≠ 0) (hstar : star ω = ω⁻¹) (a : ℕ) (z : K) :
    abs2 (ω ^ a * star z) = abs2 z := by
  rw [abs2_unimod_mul (mul_star_self_of_star_eq_inv hω0 hstar), abs2_star]

end Roots

section DFT
variable {K : Type} [Field K]

/-- modulation by `(ω⁻¹)^m` moves bin `k-m` to bin `k` -/
theorem dftBin_modulate {ω : K} {n : ℕ} (hn : 0 < n) (hω : ω ^ n = 1) (x : List K) {k m : ℕ}
    (hm : m ≤ k + n) :
    dftBin (twiddles ω n) n (modulate (ω⁻¹ ^ m) x) k
      = dftBin (twiddles ω n) n x ((k + n - m) % n) := by
  rw [dftBin_eq hn hω, dftBin_eq hn hω, modulate_length]
  apply Finset.sum_congr rfl
  intro j _
  rw [nth_modulate, pow_rot hn hω hm]
  ring

variable [StarRing K]

theorem dftBin_map_star {ω : K} {n : ℕ} (hn : 0 < n) (hω : ω ^ n = 1) (hstar : star ω = ω⁻¹)
    (x : List K) {k : ℕ} (hk : k ≤ n) :
    dftBin (twiddles ω n) n (x.map star) k
      = star (dftBin (twiddles ω n) n x ((n - k) % n)) := by
  rw [dftBin_eq hn hω, dftBin_eq hn hω, List.length_map, star_sum]
  apply Finset.sum_congr rfl
  intro j _
  rw [nth_map_star, star_mul', pow_mirror hω hk, star_pow, star_pow, star_inv₀, hstar, inv_inv,
    ← pow_mul, mul_comm k j]

theorem dftBin_trconj {ω : K} {n : ℕ} (hn : 0 < n) (hω : ω ^ n = 1) (hstar : star ω = ω⁻¹)
    (x : List K) (hN : x.length ≤ n) (k : ℕ) :
    dftBin (twiddles ω n) n (trconj x) k
      = ω ^ ((x.length - 1) * k) * star (dftBin (twiddles ω n) n x k) := by
  have hω0 := ne_zero_of_pow_eq_one hn hω
  rw [dftBin_eq hn hω, dftBin_eq hn hω, trconj_length, Nat.min_eq_left hN, star_sum, Finset.mul_sum]
  refine sum_mirror (fun j r hjr => ?_)
  have hN1 : x.length - 1 = j + r := by rw [← hjr, Nat.add_sub_cancel]
  rw [nth_trconj_mirror x hjr, star_mul', star_pow, hstar, hN1, Nat.add_mul, pow_add, inv_pow, mul_assoc,
    mul_left_comm (ω ^ (r * k)), mul_inv_cancel₀ (pow_ne_zero (r * k) hω0), mul_one, mul_comm]

end DFT

section PolySeq
variable {K : Type} [Field K]

theorem polySeq_twist (μ : K) (c : List K) (n : ℕ) :
    polySeq (twist μ c) n = modulate μ (polySeq c n) := by
  unfold polySeq modulate
  rw [vec_length]
  apply vec_ext
  intro i hi
  rw [nth_vec, if_pos hi]
  by_cases h0 : i = 0
  · rw [if_pos h0, if_pos h0, h0, pow_zero, one_mul]
  · rw [if_neg h0, if_neg h0, nth_twist, Nat.sub_add_cancel (by omega)]

variable [StarRing K]

theorem polySeq_map_star (c : List K) (n : ℕ) :
    polySeq (c.map star) n = (polySeq c n).map star := by
  unfold polySeq
  rw [map_vec]
  apply vec_ext
  intro i _
  by_cases h0 : i = 0
  · rw [if_pos h0, if_pos h0, star_one]
  · rw [if_neg h0, if_neg h0, nth_map_star]

end PolySeq

section Windowed
variable {K : Type} [Field K]

/-- `numpy.roll(b, m)` from its entries -/
theorem eq_cshift_of_entries {a b : List K} {n m : ℕ} (ha : a.length = n) (hb : b.length = n)
    (hm : m < n) (h : ∀ k, k < n → nth a k = nth b ((k + n - m) % n)) : a = cshift b m := by
  apply list_ext_nth
  · unfold cshift
    rw [vec_length, ha, hb]
  · intro k hk
    rw [ha] at hk
    unfold cshift
    rw [hb, nth_vec, if_pos hk, Nat.mod_eq_of_lt hm]
    exact h k hk

theorem windowed_modulate (μ : K) (x w : List K) :
    vec (modulate μ x).length (fun j => nth (modulate μ x) j * nth w j)
      = modulate μ (vec x.length (fun j => nth x j * nth w j)) := by
  unfold modulate
  simp only [vec_length]
  apply vec_ext
  intro j hj
  rw [nth_vec, nth_vec, if_pos hj, if_pos hj, mul_assoc]

variable [StarRing K]

theorem windowed_map_star (x w : List K) (hw : ∀ j, j < x.length → star (nth w j) = nth w j) :
    vec (x.map star).length (fun j => nth (x.map star) j * nth w j)
      = (vec x.length (fun j => nth x j * nth w j)).map star := by
  rw [map_vec, List.length_map]
  apply vec_ext
  intro j hj
  rw [nth_map_star, star_mul', hw j hj]

theorem windowed_trconj (x w : List K) (hw : ∀ j, j < x.length → star (nth w j) = nth w j)
    (hsym : ∀ j, j < x.length → nth w (x.length - 1 - j) = nth w j) :
    vec (trconj x).length (fun j => nth (trconj x) j * nth w j)
      = trconj (vec x.length (fun j => nth x j * nth w j)) := by
  unfold trconj
  simp only [vec_length]
  apply vec_ext
  intro j hj
  rw [nth_vec, nth_vec, if_pos hj, if_pos (by omega), star_mul', hsym j hj, hw j hj]

end Windowed

end SpecVerif.ShiftL
