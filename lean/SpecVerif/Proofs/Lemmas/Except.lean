/-
  The wrappers of the model are chains of guards `if c then .error e else …` ending in `.ok`, or `do` blocks in
  `Except`; a wrapper succeeds iff no guard fires.  `bind_ok` and `ite_error_eq_ok` invert a `do` block step by
  step; the `let`s of the block are left alone (unfolding them first makes the terms large and the proofs slow to
  check).  No import: the file is also used where the model is reasoned about without Mathlib (`Lemmas/Marple`).
-/
namespace SpecVerif

theorem ite_error_eq_ok {ε α : Type} {c : Prop} [Decidable c] {e : ε} {r : Except ε α} {s : α} :
    (if c then Except.error e else r) = .ok s ↔ ¬ c ∧ r = .ok s := by
  by_cases h : c
  · rw [if_pos h]
    constructor
    · intro h'
      cases h'
    · exact fun h' => absurd h h'.1
  · rw [if_neg h]
    exact ⟨fun h' => ⟨h, h'⟩, fun h' => h'.2⟩

theorem bind_ok {ε α β : Type} {x : Except ε α} {f : α → Except ε β} {b : β}
    (h : (x >>= f) = .ok b) : ∃ a, x = .ok a ∧ f a = .ok b := by
  cases x with
  | error e => cases h
  | ok a => exact ⟨a, rfl, h⟩

theorem map_eq_ok {ε α β : Type} {r : Except ε α} {f : α → β} {y : β} :
    r.map f = .ok y ↔ ∃ v, r = .ok v ∧ f v = y := by
  cases r with
  | error e => exact ⟨nofun, fun ⟨_, h, _⟩ => nomatch h⟩
  | ok v =>
    exact ⟨fun h => ⟨v, rfl, Except.ok.inj h⟩, fun ⟨_, h, hf⟩ => by cases h; exact congrArg _ hf⟩

theorem map_eq_error {ε α β : Type} {r : Except ε α} {f : α → β} {s : ε} :
    r.map f = .error s ↔ r = .error s := by
  cases r with
  | error e => exact ⟨fun h => congrArg _ (Except.error.inj h), fun h => congrArg _ (Except.error.inj h)⟩
  | ok v => exact ⟨nofun, nofun⟩

/-- the guard of the wrappers: "some stage `1..n` satisfies `f`" -/
theorem any_range_succ_iff (f : Nat → Bool) (n : Nat) :
    (List.range n).any (fun j => f (j + 1)) = true ↔ ∃ j, 1 ≤ j ∧ j ≤ n ∧ f j = true := by
  rw [List.any_eq_true]
  constructor
  · rintro ⟨j, hj, hf⟩
    exact ⟨j + 1, Nat.succ_pos j, List.mem_range.mp hj, hf⟩
  · rintro ⟨j, h1, h2, hf⟩
    obtain ⟨i, rfl⟩ := Nat.exists_eq_succ_of_ne_zero (Nat.pos_iff_ne_zero.mp h1)
    exact ⟨i, List.mem_range.mpr h2, hf⟩

theorem any_range_succ_false_iff (f : Nat → Bool) (n : Nat) :
    (List.range n).any (fun j => f (j + 1)) = false ↔ ∀ j, 1 ≤ j → j ≤ n → f j = false := by
  rw [← Bool.not_eq_true, any_range_succ_iff]
  simp only [not_exists, not_and, Bool.not_eq_true]

end SpecVerif
