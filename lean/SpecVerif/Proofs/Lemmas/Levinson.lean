import SpecVerif.Proofs.Lemmas.StepUp
/-
  The Levinson bordering step and `LEVINSON`'s recursion built on it.  The step is proved once, on coefficient
  functions `ℕ → K`, for a general Toeplitz matrix `gT c rr` (first column `c`, first row `rr`):
  `toeplitz_step_fun`.  The Hermitian matrix `hR r` is `gT r (star ∘ r)` and the conjugate of a solution solves
  the transposed equations (`LevEq.conj`), so the Hermitian step is the general one.  `rseq` / `alphaOf` read the
  model's lists (`T = r[1:]`, `A` without the leading 1) as such functions; `levRun_LevEq` is the invariant of
  `LEVINSON`.  The solvers `HERMTOEP` and `TOEPLITZ` are in `Toeplitz.lean`.
-/
namespace SpecVerif
open Finset

-- the entry lemmas of `gT`, `rseq`, `alphaOf` do not use the involution but are stated under the file's
-- `[StarRing K]`
set_option linter.unusedSectionVars false

variable {K : Type} [Field K] [StarRing K]

def gT (c rr : ℕ → K) (i j : ℕ) : K := if j ≤ i then c (i - j) else rr (j - i)

theorem gT_of_le (c rr : ℕ → K) {i j : ℕ} (h : j ≤ i) : gT c rr i j = c (i - j) := if_pos h

theorem gT_of_lt (c rr : ℕ → K) {i j : ℕ} (h : i < j) : gT c rr i j = rr (j - i) :=
  if_neg (not_le.mpr h)

theorem gT_succ (c rr : ℕ → K) (i j : ℕ) : gT c rr (i + 1) (j + 1) = gT c rr i j := by
  unfold gT
  rw [Nat.add_sub_add_right, Nat.add_sub_add_right, if_congr Nat.add_le_add_iff_right rfl rfl]

/-- Hermitian Toeplitz entry built from the autocorrelation sequence `r` (function argument; the list version
`hermToep r` of `Lemmas/Correlation.lean` is definitionally `hR (nth r)`) -/
def hR (r : ℕ → K) (i j : ℕ) : K := if j ≤ i then r (i - j) else star (r (j - i))

theorem hR_eq_gT (r : ℕ → K) : hR r = gT r (fun j => star (r j)) := rfl

theorem hR_of_le (r : ℕ → K) {i j : ℕ} (h : j ≤ i) : hR r i j = r (i - j) := by
  rw [hR_eq_gT, gT_of_le _ _ h]

theorem hR_of_lt (r : ℕ → K) {i j : ℕ} (h : i < j) : hR r i j = star (r (j - i)) := by
  rw [hR_eq_gT, gT_of_lt _ _ h]

theorem hR_succ (r : ℕ → K) (i j : ℕ) : hR r (i + 1) (j + 1) = hR r i j := by
  rw [hR_eq_gT, gT_succ]

/-- below the diagonal only the first column enters: why `levDelta`, written with `hR`, serves `TOEPLITZ` too -/
theorem gT_eq_hR_of_le (c rr : ℕ → K) (i j : ℕ) (h : j ≤ i) : gT c rr i j = hR c i j := by
  rw [gT_of_le _ _ h, hR_of_le _ h]

theorem hR_star (r : ℕ → K) (h0 : star (r 0) = r 0) (i j : ℕ) : star (hR r i j) = hR r j i := by
  rcases lt_trichotomy i j with h | rfl | h
  · rw [hR_of_lt r h, hR_of_le r h.le, star_star]
  · rw [hR_of_le r le_rfl, Nat.sub_self, h0]
  · rw [hR_of_le r h.le, hR_of_lt r h]

theorem hR_congr {r r' : ℕ → K} {m : ℕ} (h : ∀ d, d < m → r d = r' d) (i j : ℕ) (hi : i < m)
    (hj : j < m) : hR r i j = hR r' i j := by
  unfold hR
  by_cases hji : j ≤ i
  · rw [if_pos hji, if_pos hji, h _ (by omega)]
  · rw [if_neg hji, if_neg hji, h _ (by omega)]

/-- persymmetry: reflecting both indices in `0..m` transposes a Toeplitz matrix -/
theorem gT_reflect (c rr : ℕ → K) (hc : c 0 = rr 0) {m i j : ℕ} (hi : i ≤ m) (hj : j ≤ m) :
    gT rr c (m - i) (m - j) = gT c rr i j := by
  rcases lt_trichotomy i j with h | rfl | h
  · rw [gT_of_le _ _ (Nat.sub_le_sub_left h.le m), gT_of_lt _ _ h, tsub_tsub_tsub_cancel_left hj]
  · rw [gT_of_le _ _ le_rfl, gT_of_le _ _ le_rfl, Nat.sub_self, Nat.sub_self, hc]
  · rw [gT_of_lt _ _ (Nat.sub_lt_sub_left (h.trans_le hi) h), gT_of_le _ _ h.le,
      tsub_tsub_tsub_cancel_left hi]

/-- `G [α_0..α_m]ᵀ = [P,0,…,0]ᵀ` -/
def GEq (c rr : ℕ → K) (m : ℕ) (α : ℕ → K) (P : K) : Prop :=
  ∀ i, i ≤ m → ∑ j ∈ range (m + 1), gT c rr i j * α j = if i = 0 then P else 0

theorem GEq_zero (c rr α : ℕ → K) (P : K) (h : c 0 * α 0 = P) : GEq c rr 0 α P := by
  intro i hi
  obtain rfl : i = 0 := Nat.le_zero.mp hi
  rw [zero_add, Finset.sum_range_one, gT_of_le _ _ le_rfl, if_pos rfl]
  exact h

/-- a solution for the transpose, reversed, is annihilated by all rows but the last -/
theorem GEq_rev (c rr : ℕ → K) (hc : c 0 = rr 0) (m : ℕ) (β : ℕ → K) (P : K)
    (h : GEq rr c m β P) :
    ∀ i, i ≤ m → ∑ j ∈ range (m + 1), gT c rr i j * β (m - j) = if i = m then P else 0 := by
  intro i hi
  have key := h (m - i) (Nat.sub_le _ _)
  rw [if_congr (show m - i = 0 ↔ i = m by omega) rfl rfl] at key
  rw [← key, ← Finset.sum_range_reflect]
  apply Finset.sum_congr rfl
  intro j hj
  have hj' : j ≤ m := Nat.lt_succ_iff.mp (mem_range.mp hj)
  rw [Nat.add_sub_cancel, ← gT_reflect rr c hc.symm (Nat.sub_le m i) hj', Nat.sub_sub_self hi,
    Nat.sub_sub_self hj']

/-- row `m+1` applied to the order-`m` vector; only the lower triangle (first column `r`) enters -/
def levDelta (r : ℕ → K) (m : ℕ) (α : ℕ → K) : K := ∑ j ∈ range (m + 1), hR r (m + 1) j * α j

theorem levDelta_eq_row (c rr : ℕ → K) (m : ℕ) (α : ℕ → K) :
    ∑ j ∈ range (m + 1), gT c rr (m + 1) j * α j = levDelta c m α :=
  Finset.sum_congr rfl (fun j hj => by rw [gT_eq_hR_of_le c rr (m + 1) j (mem_range.mp hj).le])

theorem first_row_rev (c rr : ℕ → K) (m : ℕ) (β : ℕ → K) :
    ∑ j ∈ range (m + 1), gT c rr 0 (j + 1) * β (m - j) = levDelta rr m β := by
  unfold levDelta
  rw [← Finset.sum_range_reflect]
  apply Finset.sum_congr rfl
  intro j hj
  have hj' : j ≤ m := Nat.lt_succ_iff.mp (mem_range.mp hj)
  rw [Nat.add_sub_cancel, gT_of_lt _ _ (Nat.succ_pos _), hR_of_le _ (Nat.le_succ_of_le hj'),
    Nat.sub_sub_self hj', Nat.sub_zero, Nat.succ_sub hj']

/-- **the bordering step**: from solutions `α`, `β` of the order-`m` equations of the matrix and of its
transpose (both read as `0` at index `m+1`) the vector `α'_j = α_j + t·β_{m+1-j}`, `t = -δ/P`, solves the
order-`m+1` equations: `β` reversed and shifted is annihilated by the rows `1..m`, so `t` only has to cancel
the new last row `δ` of `α` -/
theorem toeplitz_step_fun (c rr : ℕ → K) (hc : c 0 = rr 0) (m : ℕ) (α β α' : ℕ → K) (P t : K)
    (hP0 : P ≠ 0) (hα : GEq c rr m α P) (hβ : GEq rr c m β P) (hαz : α (m + 1) = 0)
    (hβz : β (m + 1) = 0) (ht : t = -(levDelta c m α) / P)
    (hα' : ∀ j, j ≤ m + 1 → α' j = α j + t * β (m + 1 - j)) :
    GEq c rr (m + 1) α' (P * (1 - t * (-(levDelta rr m β) / P))) := by
  intro i hi
  have e : ∀ j ∈ range (m + 1 + 1), gT c rr i j * α' j
      = gT c rr i j * α j + t * (gT c rr i j * β (m + 1 - j)) := by
    intro j hj
    rw [hα' j (Nat.lt_succ_iff.mp (mem_range.mp hj)), mul_add, mul_left_comm]
  rw [Finset.sum_congr rfl e, Finset.sum_add_distrib, ← Finset.mul_sum, Finset.sum_range_succ, hαz,
    mul_zero, add_zero, Finset.sum_range_succ' _ (m + 1), Nat.sub_zero, hβz, mul_zero, add_zero]
  simp only [Nat.add_sub_add_right]
  rcases i with _ | i
  · rw [hα 0 (Nat.zero_le _), first_row_rev, if_pos rfl, if_pos rfl, mul_sub, mul_one, neg_div,
      mul_neg, mul_neg, sub_neg_eq_add, mul_left_comm, mul_comm P, div_mul_cancel₀ _ hP0]
  · have hs : ∑ j ∈ range (m + 1), gT c rr (i + 1) (j + 1) * β (m - j) = if i = m then P else 0 := by
      simp only [gT_succ]
      exact GEq_rev c rr hc m β P hβ i (Nat.le_of_succ_le_succ hi)
    rw [hs, if_neg (Nat.succ_ne_zero i)]
    by_cases him : i = m
    · subst him
      rw [if_pos rfl, levDelta_eq_row, ht, div_mul_cancel₀ _ hP0, add_neg_cancel]
    · rw [hα (i + 1) (by omega), if_neg (Nat.succ_ne_zero i), if_neg him, mul_zero, add_zero]

/-- the order-`m` normal equations `T_m [α_0..α_m]ᵀ = [P,0,..,0]ᵀ`: `GEq` for the Hermitian matrix
(`LevEq_iff_GEq`) -/
def LevEq (r : ℕ → K) (m : ℕ) (α : ℕ → K) (P : K) : Prop :=
  ∀ i, i ≤ m → ∑ j ∈ range (m + 1), hR r i j * α j = if i = 0 then P else 0

/-- what `GEq_rev` gives for `β = conj α`: the conjugate-reversed solution is annihilated by the rows `< m`,
row `m` gives `P` -/
def LevEqRev (r : ℕ → K) (m : ℕ) (α : ℕ → K) (P : K) : Prop :=
  ∀ i, i ≤ m → ∑ j ∈ range (m + 1), hR r i j * star (α (m - j)) = if i = m then P else 0

theorem LevEq_iff_GEq {r : ℕ → K} {m : ℕ} {α : ℕ → K} {P : K} :
    LevEq r m α P ↔ GEq r (fun j => star (r j)) m α P := by
  unfold LevEq GEq
  rw [hR_eq_gT]

theorem LevEq_congr {r r' : ℕ → K} {p : ℕ} (h : ∀ d, d < p + 1 → r d = r' d) {α : ℕ → K} {P : K}
    (hE : LevEq r' p α P) : LevEq r p α P := by
  intro i hi
  rw [← hE i hi]
  apply Finset.sum_congr rfl
  intro j hj
  rw [hR_congr h i j (by omega) (mem_range.mp hj)]

theorem LevEq.conj {r : ℕ → K} (h0 : star (r 0) = r 0) {m : ℕ} {α : ℕ → K} {P : K}
    (hP : star P = P) (h : LevEq r m α P) :
    GEq (fun j => star (r j)) r m (fun j => star (α j)) P := by
  intro i hi
  have key := congrArg star (h i hi)
  rw [star_sum, apply_ite star, hP, star_zero] at key
  rw [← key]
  apply Finset.sum_congr rfl
  intro j _
  rw [star_mul', hR_star r h0]
  rcases lt_trichotomy i j with hlt | rfl | hlt
  · rw [hR_of_le r hlt.le, gT_of_lt _ _ hlt]
  · rw [hR_of_le r le_rfl, gT_of_le _ _ le_rfl, Nat.sub_self, h0]
  · rw [hR_of_lt r hlt, gT_of_le _ _ hlt.le]

theorem LevEqRev_of_LevEq (r : ℕ → K) (h0 : star (r 0) = r 0) (m : ℕ) (α : ℕ → K) (P : K) (hP : star P = P)
    (h : LevEq r m α P) : LevEqRev r m α P := by
  unfold LevEqRev
  rw [hR_eq_gT]
  exact GEq_rev r (fun j => star (r j)) h0.symm m (fun j => star (α j)) P (h.conj h0 hP)

theorem levDelta_conj (r : ℕ → K) (m : ℕ) (α : ℕ → K) :
    levDelta (fun j => star (r j)) m (fun j => star (α j)) = star (levDelta r m α) := by
  unfold levDelta
  rw [star_sum]
  apply Finset.sum_congr rfl
  intro j hj
  have hj' : j ≤ m + 1 := (mem_range.mp hj).le
  rw [hR_of_le _ hj', hR_of_le _ hj', star_mul']

/-- one Levinson step: the general step with `β = conj α`, whose multiplier is the conjugate of `t` -/
theorem levinson_step_fun (r : ℕ → K) (h0 : star (r 0) = r 0) (m : ℕ) (α α' : ℕ → K) (P t : K)
    (hP : star P = P) (hP0 : P ≠ 0) (h : LevEq r m α P) (hαz : α (m + 1) = 0)
    (ht : t = -(levDelta r m α) / P)
    (hα' : ∀ j, j ≤ m + 1 → α' j = α j + t * star (α (m + 1 - j))) :
    LevEq r (m + 1) α' (P * (1 - t * star t)) := by
  have key := toeplitz_step_fun r (fun j => star (r j)) h0.symm m α (fun j => star (α j)) α' P t hP0
    (LevEq_iff_GEq.mp h) (h.conj h0 hP) hαz (by rw [hαz, star_zero]) ht hα'
  have e : -(star (levDelta r m α)) / P = star t := by rw [ht, star_div₀, star_neg, hP]
  rw [levDelta_conj, e] at key
  exact LevEq_iff_GEq.mpr key

/-- the autocorrelation sequence `r_0 = r0`, `r_j = T[j-1]` (`T = r[1:]`) -/
def rseq (r0 : K) (T : List K) : ℕ → K := fun j => if j = 0 then r0 else nth T (j - 1)

/-- the prediction polynomial `[1, a_1, …, a_m]` as a function: `α 0 = 1`, `α (j+1) = A[j]` -/
def alphaOf (A : List K) : ℕ → K := fun j => if j = 0 then 1 else nth A (j - 1)

@[simp] theorem rseq_zero (r0 : K) (T : List K) : rseq r0 T 0 = r0 := rfl
@[simp] theorem rseq_succ (r0 : K) (T : List K) (j : ℕ) : rseq r0 T (j + 1) = nth T j := rfl
@[simp] theorem alphaOf_zero (A : List K) : alphaOf A 0 = 1 := rfl
@[simp] theorem alphaOf_succ (A : List K) (j : ℕ) : alphaOf A (j + 1) = nth A j := rfl

/-- C10 introduces `r`, `α` through these equations, so that its statements mention neither `rseq` nor
`alphaOf` -/
theorem eq_rseq {r : ℕ → K} {r0 : K} {T : List K} (hr0 : r 0 = r0) (hr : ∀ j, r (j + 1) = nth T j) :
    r = rseq r0 T := by
  funext j
  rcases j with _ | j
  · exact hr0
  · exact hr j

/-- a list read as the sequence `r_0, r_1, …` that `levRun (nth R 0) R.tail` works on -/
theorem rseq_nth_tail (R : List K) : rseq (nth R 0) R.tail = nth R :=
  (eq_rseq rfl (fun j => (nth_tail R j).symm)).symm

theorem eq_alphaOf {α : ℕ → K} {A : List K} (hα0 : α 0 = 1) (hα : ∀ j, α (j + 1) = nth A j) :
    α = alphaOf A := by
  funext j
  rcases j with _ | j
  · exact hα0
  · exact hα j

theorem alphaOf_of_gt (A : List K) {j : ℕ} (h : A.length < j) : alphaOf A j = 0 := by
  obtain ⟨i, rfl⟩ : ∃ i, j = i + 1 := ⟨j - 1, by omega⟩
  exact nth_of_ge A i (by omega)

/-- the vector update of `levup` and `toepStep` on coefficient functions: with the leading `1` and the
zero padding, `α'_j = α_j + t·b_{k+1-j}` holds for every `j ≤ k+1` without case distinction -/
theorem alphaOf_step (A : List K) (b : ℕ → K) (k : ℕ) (t : K) (hA : A.length ≤ k) (hb0 : b 0 = 1)
    (hbz : b (k + 1) = 0) {j : ℕ} (hj : j ≤ k + 1) :
    alphaOf (vec (k + 1) (fun j => if j < k then nth A j + t * b (k - 1 - j + 1) else t)) j
      = alphaOf A j + t * b (k + 1 - j) := by
  rcases j with _ | i
  · rw [alphaOf_zero, alphaOf_zero, Nat.sub_zero, hbz, mul_zero, add_zero]
  · rw [alphaOf_succ, alphaOf_succ, nth_vec_lt _ (Nat.lt_of_succ_le hj)]
    by_cases h : i < k
    · rw [if_pos h, Nat.add_sub_add_right, Nat.sub_right_comm, Nat.sub_add_cancel (Nat.sub_pos_of_lt h)]
    · obtain rfl : i = k := by omega
      rw [if_neg h, Nat.sub_self, hb0, mul_one, nth_of_ge A i hA, zero_add]

theorem alphaOf_levup (a : List K) (k : K) {j : ℕ} (hj : j ≤ a.length + 1) :
    alphaOf (levup a k) j = alphaOf a j + k * star (alphaOf a (a.length + 1 - j)) :=
  -- `levup a k` is the `vec` of `alphaOf_step` by definition, with `conj (nth a i)` for `star (alphaOf a (i+1))`
  alphaOf_step a (fun i => star (alphaOf a i)) a.length k le_rfl (star_one K)
    (by rw [alphaOf_of_gt a (Nat.lt_succ_self _), star_zero]) hj

/-- the row sums the code accumulates (`save`, `beta`): entry 0 apart, then `sumR` against `T` backwards;
this is row `k+1` of the matrix applied to `x` -/
theorem row_succ_eq (r0 : K) (T : List K) (x : ℕ → K) (k : ℕ) :
    x 0 * nth T k + sumR k (fun j => x (j + 1) * nth T (k - j - 1))
      = ∑ j ∈ range (k + 1), hR (rseq r0 T) (k + 1) j * x j := by
  rw [sumR_eq_sum, Finset.sum_range_succ', add_comm]
  congr 1
  · apply Finset.sum_congr rfl
    intro j hj
    have hj' : j < k := mem_range.mp hj
    have h1 : j + 1 ≤ k + 1 := Nat.succ_le_succ hj'.le
    have h2 : k + 1 - (j + 1) = (k - j - 1) + 1 := by
      rw [Nat.add_sub_add_right, Nat.sub_add_cancel (Nat.sub_pos_of_lt hj')]
    rw [hR_of_le _ h1, h2, rseq_succ, mul_comm]
  · exact mul_comm _ _

theorem save_eq_levDelta (r0 : K) (T A : List K) (k : ℕ) :
    nth T k + sumR k (fun j => nth A j * nth T (k - j - 1))
      = levDelta (rseq r0 T) k (alphaOf A) := by
  have h := row_succ_eq r0 T (alphaOf A) k
  rw [alphaOf_zero, one_mul] at h
  exact h

theorem levRun_succ (r0 : K) (T : List K) (k : ℕ) :
    levRun r0 T (k + 1) = levStep T (levRun r0 T k) k := rfl

/-- the reflection coefficient computed at stage `k+1` -/
def levK (r0 : K) (T : List K) (k : ℕ) : K :=
  -(levDelta (rseq r0 T) k (alphaOf (levRun r0 T k).A)) / (levRun r0 T k).P

theorem levK_eq (r0 : K) (T : List K) (k : ℕ) :
    levK r0 T k
      = -(nth T k + sumR k (fun j => nth (levRun r0 T k).A j * nth T (k - j - 1))) / (levRun r0 T k).P := by
  unfold levK
  rw [← save_eq_levDelta r0]

theorem levRun_succ_A (r0 : K) (T : List K) (k : ℕ) :
    (levRun r0 T (k + 1)).A = levup (levRun r0 T k).A (levK r0 T k) := by
  rw [levRun_succ]; unfold levStep levK
  simp only [save_eq_levDelta r0]

theorem levRun_succ_P (r0 : K) (T : List K) (k : ℕ) :
    (levRun r0 T (k + 1)).P
      = (levRun r0 T k).P * (1 - levK r0 T k * star (levK r0 T k)) := by
  rw [levRun_succ]; unfold levStep levK
  simp only [save_eq_levDelta r0, abs2_eq]

theorem levRun_succ_ref (r0 : K) (T : List K) (k : ℕ) :
    (levRun r0 T (k + 1)).ref = (levRun r0 T k).ref ++ [levK r0 T k] := by
  rw [levRun_succ]; unfold levStep levK
  simp only [save_eq_levDelta r0]

theorem levRun_ref (r0 : K) (T : List K) (n : ℕ) : (levRun r0 T n).ref = vec n (levK r0 T) := by
  induction n with
  | zero => rfl
  | succ n ih => rw [levRun_succ_ref, ih, vec_succ]

theorem rc2poly_levRun_ref (r0 : K) (T : List K) (p : ℕ) :
    rc2poly (levRun r0 T p).ref r0 = ((levRun r0 T p).A, (levRun r0 T p).P) := by
  induction p with
  | zero => rfl
  | succ p ih =>
    rw [levRun_succ_ref, rc2poly_append_singleton, ih, levRun_succ_A, levRun_succ_P,
      mul_comm (star _), mul_comm (levRun r0 T p).P]

theorem levRun_ref_length (r0 : K) (T : List K) (k : ℕ) : (levRun r0 T k).ref.length = k := by
  rw [levRun_ref, vec_length]

theorem levRun_A_length (r0 : K) (T : List K) (k : ℕ) : (levRun r0 T k).A.length = k := by
  have h := rc2poly_length' (levRun r0 T k).ref r0
  rwa [rc2poly_levRun_ref, levRun_ref_length] at h

theorem nth_levRun_ref (r0 : K) (T : List K) (p i : ℕ) (hi : i < p) :
    nth (levRun r0 T p).ref i = levK r0 T i := by
  rw [levRun_ref, nth_vec_lt _ hi]

theorem levRun_A_last (r0 : K) (T : List K) (p : ℕ) :
    nth (levRun r0 T (p + 1)).A p = levK r0 T p := by
  have h := nth_levup_last (levRun r0 T p).A (levK r0 T p)
  rwa [levRun_A_length, ← levRun_succ_A] at h

theorem levRun_ref_take (r0 : K) (T : List K) (q p : ℕ) (h : q ≤ p) :
    (levRun r0 T q).ref = (levRun r0 T p).ref.take q := by
  rw [levRun_ref, levRun_ref, vec_take _ h]

theorem levRun_P_prod (r0 : K) (T : List K) (p : ℕ) :
    (levRun r0 T p).P = r0 * ∏ i ∈ range p, (1 - levK r0 T i * star (levK r0 T i)) := by
  rw [← rc2poly_vec_error, ← levRun_ref, rc2poly_levRun_ref]

theorem levRun_P_ne_zero (r0 : K) (T : List K) (p : ℕ) (hP : (levRun r0 T p).P ≠ 0)
    (m : ℕ) (hm : m ≤ p) : (levRun r0 T m).P ≠ 0 := by
  rw [levRun_P_prod] at hP ⊢
  have hf := Finset.prod_ne_zero_iff.mp (right_ne_zero_of_mul hP)
  exact mul_ne_zero (left_ne_zero_of_mul hP) (Finset.prod_ne_zero_iff.mpr fun i hi =>
    hf i (mem_range.mpr (lt_of_lt_of_le (mem_range.mp hi) hm)))

theorem levRun_ref_ne (r0 : K) (T : List K) (p : ℕ) (hP : (levRun r0 T p).P ≠ 0) :
    ∀ k ∈ (levRun r0 T p).ref, 1 - k * star k ≠ 0 := by
  intro k hk
  rw [levRun_ref] at hk
  obtain ⟨i, hi, rfl⟩ := mem_vec.mp hk
  rw [levRun_P_prod] at hP
  exact Finset.prod_ne_zero_iff.mp (right_ne_zero_of_mul hP) i (mem_range.mpr hi)

theorem levRun_P_star (r0 : K) (T : List K) (h0 : star r0 = r0) (k : ℕ) :
    star (levRun r0 T k).P = (levRun r0 T k).P := by
  induction k with
  | zero => exact h0
  | succ k ih =>
    rw [levRun_succ_P, star_mul', ih, star_sub, star_one, star_mul', star_star, mul_comm (star _)]

theorem levRun_LevEq (r0 : K) (T : List K) (h0 : star r0 = r0) (p : ℕ)
    (hP : ∀ j, j < p → (levRun r0 T j).P ≠ 0) :
    LevEq (rseq r0 T) p (alphaOf (levRun r0 T p).A) (levRun r0 T p).P := by
  induction p with
  | zero => exact LevEq_iff_GEq.mpr (GEq_zero _ _ _ _ (mul_one r0))
  | succ p ih =>
    rw [levRun_succ_P]
    refine levinson_step_fun (rseq r0 T) h0 p (alphaOf (levRun r0 T p).A) _ _ (levK r0 T p)
      (levRun_P_star r0 T h0 p) (hP p (by omega)) (ih (fun j hj => hP j (by omega)))
      (alphaOf_of_gt _ (Nat.lt_succ_of_le (levRun_A_length r0 T p).le)) rfl (fun j hj => ?_)
    rw [levRun_succ_A, alphaOf_levup _ _ (by rw [levRun_A_length]; exact hj), levRun_A_length]

end SpecVerif
