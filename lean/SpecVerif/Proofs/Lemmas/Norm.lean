import Mathlib.Analysis.RCLike.Basic
/-
  The squared modulus over `ℝ` or `ℂ` (`RCLike 𝕜`): `z · conj z` is the real number `‖z‖²`, and
  `1 − κ · conj κ` is the real number `1 − ‖κ‖²`, non-zero inside the unit disc; `‖ω‖ = 1` for a root
  of unity.
-/
namespace SpecVerif

variable {𝕜 : Type} [RCLike 𝕜]

theorem mul_star_eq_ofReal (z : 𝕜) : z * star z = ((‖z‖ ^ 2 : ℝ) : 𝕜) := by
  rw [RCLike.star_def, RCLike.mul_conj, RCLike.ofReal_pow]

theorem star_mul_self_eq (z : 𝕜) : star z * z = ((‖z‖ ^ 2 : ℝ) : 𝕜) := by
  rw [mul_comm, mul_star_eq_ofReal]

theorem sum_mul_star_eq_ofReal {ι : Type} (s : Finset ι) (f : ι → 𝕜) :
    ∑ i ∈ s, f i * star (f i) = ((∑ i ∈ s, ‖f i‖ ^ 2 : ℝ) : 𝕜) := by
  rw [RCLike.ofReal_sum]
  exact Finset.sum_congr rfl (fun i _ => mul_star_eq_ofReal (f i))

theorem sum_star_mul_self_eq {ι : Type} (s : Finset ι) (f : ι → 𝕜) :
    ∑ i ∈ s, star (f i) * f i = ((∑ i ∈ s, ‖f i‖ ^ 2 : ℝ) : 𝕜) := by
  rw [RCLike.ofReal_sum]
  exact Finset.sum_congr rfl (fun i _ => star_mul_self_eq (f i))

theorem one_sub_mul_star_eq (κ : 𝕜) : 1 - κ * star κ = ((1 - ‖κ‖ ^ 2 : ℝ) : 𝕜) := by
  rw [mul_star_eq_ofReal, RCLike.ofReal_sub, RCLike.ofReal_one]

/-- `|κ| < 1` puts `κ` in the algebraic domain `1 − κ·conj κ ≠ 0` -/
theorem one_sub_mul_star_ne_zero_of_norm_lt_one (κ : 𝕜) (h : ‖κ‖ < 1) : 1 - κ * star κ ≠ 0 := by
  rw [one_sub_mul_star_eq, Ne, RCLike.ofReal_eq_zero]
  exact (sub_pos.mpr (pow_lt_one₀ (norm_nonneg κ) h two_ne_zero)).ne'

theorem norm_root_eq_one {ω : 𝕜} {n : ℕ} (hn : 0 < n) (hω : ω ^ n = 1) : ‖ω‖ = 1 := by
  have h : ‖ω‖ ^ n = 1 := by rw [← norm_pow, hω, norm_one]
  exact (pow_eq_one_iff_of_nonneg (norm_nonneg ω) (by omega)).mp h

end SpecVerif
