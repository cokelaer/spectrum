import SpecVerif.Model.EigenCrit
import SpecVerif.Proofs.Lemmas.Basic
import SpecVerif.Proofs.Lemmas.RealFn
import Mathlib.Analysis.SpecialFunctions.Log.Basic
/-
  The subspace order-selection criteria (`Model/EigenCrit.lean`) over `ℝ` under scaling of the singular
  values; used by C03.  (`criteria.py` is an anchor of C17; C17 has no theorem about it, see `signalSpaceCrit`.)
-/
namespace SpecVerif.EigenCritL
open Finset SpecVerif

/-- adding a constant to every entry does not move the first minimum -/
theorem argminGo_shift (c : ℝ) (xs : List ℝ) (best : ℝ) (bi i : ℕ) :
    argminGo (best + c) bi (xs.map (· + c)) i = argminGo best bi xs i := by
  induction xs generalizing best bi i with
  | nil => rfl
  | cons x xs ih =>
    simp only [List.map_cons, argminGo]
    have : RealFn.lt (x + c) (best + c) = RealFn.lt x best := by
      rw [lt_real, lt_real, decide_eq_decide]
      exact add_lt_add_iff_right c
    rw [this]
    split
    · exact ih x i (i + 1)
    · exact ih best bi (i + 1)

theorem argminFirst_shift (c : ℝ) (xs : List ℝ) : argminFirst (xs.map (· + c)) = argminFirst xs := by
  cases xs with
  | nil => rfl
  | cons x xs => exact argminGo_shift c xs x 0 1

/-- the code's `ln(g_k/a_k)` of the scaled singular values: because the tail has `m − 1` entries while the divisor is `m`,
it moves by `−ln t / m` (it would be invariant with the textbook divisor) -/
theorem eigLnRatio_smul {t : ℝ} (ht : 0 < t) (s : List ℝ) (hs : ∀ i, i < s.length → 0 < s.getD i 0) (k : ℕ)
    (hk : k + 2 ≤ s.length) :
    eigLnRatio (s.map (t * ·)) k = eigLnRatio s k - Real.log t / ((s.length - k : ℕ) : ℝ) := by
  unfold eigLnRatio
  simp only [List.length_map, sumR_eq_sum, RealFn.log]
  have hm : ((s.length - k : ℕ) : ℝ) ≠ 0 := Nat.cast_ne_zero.mpr (by omega)
  have hget : ∀ j ∈ range (s.length - k - 1),
      (s.map (t * ·)).getD (k + 1 + j) 0 = t * s.getD (k + 1 + j) 0 := by
    intro j _
    -- `nth l i` is `l.getD i 0`
    show nth (s.map (t * ·)) (k + 1 + j) = t * nth s (k + 1 + j)
    exact nth_map (t * ·) (mul_zero t) s _
  have hpos : ∀ j ∈ range (s.length - k - 1), 0 < s.getD (k + 1 + j) 0 := by
    intro j hj
    exact hs _ (by have := mem_range.mp hj; omega)
  have hne : (range (s.length - k - 1)).Nonempty := ⟨0, mem_range.mpr (by omega)⟩
  have hsum_pos : 0 < ∑ j ∈ range (s.length - k - 1), s.getD (k + 1 + j) 0 := Finset.sum_pos hpos hne
  rw [Finset.sum_congr rfl (fun j hj => by rw [hget j hj, Real.log_mul ht.ne' (hpos j hj).ne']),
      Finset.sum_congr rfl (fun j hj => hget j hj), ← Finset.mul_sum, Finset.sum_add_distrib,
      Finset.sum_const, card_range, nsmul_eq_mul, mul_div_assoc,
      Real.log_mul ht.ne' (div_pos hsum_pos (Nat.cast_pos.mpr (by omega))).ne']
  have hcast : ((s.length - k - 1 : ℕ) : ℝ) = ((s.length - k : ℕ) : ℝ) - 1 :=
    Nat.cast_pred (by omega)
  rw [hcast]
  field_simp
  ring

/-- the data term `m·N·ln(g_k/a_k)`, `m = n − k`, common to both criteria moves by `−N ln t` -/
theorem eig_term_scale {t : ℝ} (ht : 0 < t) (s : List ℝ) (hs : ∀ i, i < s.length → 0 < s.getD i 0)
    (N k : ℕ) (hk : k + 2 ≤ s.length) :
    ((s.length - k : ℕ) : ℝ) * N * eigLnRatio (s.map (t * ·)) k
      = ((s.length - k : ℕ) : ℝ) * N * eigLnRatio s k - N * Real.log t := by
  have hm : ((s.length - k : ℕ) : ℝ) ≠ 0 := Nat.cast_ne_zero.mpr (by omega)
  rw [eigLnRatio_smul ht s hs k hk, mul_sub, mul_right_comm _ (N : ℝ) (Real.log t / _), ← mul_div_assoc,
    mul_div_cancel_left₀ _ hm, mul_comm (Real.log t)]

end SpecVerif.EigenCritL
