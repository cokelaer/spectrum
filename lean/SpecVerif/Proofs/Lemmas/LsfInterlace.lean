import SpecVerif.Proofs.Lemmas.LsfCircle
import Mathlib.Analysis.SpecialFunctions.Complex.Arg
import Mathlib.Analysis.Calculus.LocalExtr.Rolle
import Mathlib.Analysis.Calculus.Deriv.Slope
import Mathlib.Analysis.SpecialFunctions.ExpDeriv
import Mathlib.Analysis.Complex.RealDeriv
/-
  Interlacing of the zeros of `X = z·A + c·B` and `Y = z·A − c·B`, `|c| = 1` (`c = −1`: `P1`, `Q1` for real
  coefficients) on the unit circle.  The kernel of `LsfCircleL.cd_kernel` gives
    `X(z)·conj Y(w) + Y(z)·conj X(w) = −2(1 − z·conj w)·S(z,w)`                     (`lsfComb_kernel_pair`);
  on the circle `X/Y` is purely imaginary and `d/dt Im (X/Y)(e^{it}) = 2·S(w,w)/|Y(w)|² > 0`
  (`hasDerivAt_ratio`; only continuity of `S` in its first argument is used).  Two zeros of `X` with no zero
  of `Y` between them would give `Im X/Y` equal end values and a positive derivative: Rolle (`kernel_sturm`).
-/
namespace SpecVerif.LsfInterlaceL
open Finset SpecVerif SpecVerif.SchurL SpecVerif.LpcL SpecVerif.LsfCircleL Filter Topology

noncomputable def eit (t : ℝ) : ℂ := Complex.exp (t * Complex.I)

theorem eit_def (t : ℝ) : eit t = Complex.exp (t * Complex.I) := rfl

theorem norm_eit (t : ℝ) : ‖eit t‖ = 1 := Complex.norm_exp_ofReal_mul_I t

theorem eit_mul_star (t : ℝ) : eit t * star (eit t) = 1 := by
  rw [mul_star_eq_ofReal, norm_eit, one_pow, RCLike.ofReal_one]

theorem hasDerivAt_eit (s : ℝ) : HasDerivAt eit (Complex.I * eit s) s := by
  have h1 : HasDerivAt (fun t : ℝ => (t : ℂ) * Complex.I) Complex.I s := by
    simpa using ((hasDerivAt_id s).ofReal_comp).mul_const Complex.I
  have h2 := h1.cexp
  rw [mul_comm] at h2
  exact h2

theorem continuous_eit : Continuous eit := by
  unfold eit
  fun_prop

theorem arg_eit (s : ℝ) (h0 : -Real.pi < s) (h1 : s ≤ Real.pi) : (eit s).arg = s := by
  rw [eit, Complex.arg_exp_mul_I, toIocMod_eq_self]
  exact ⟨h0, by linarith⟩

theorem eit_zero : eit 0 = 1 := by simp [eit]

theorem eit_pi : eit Real.pi = -1 := by rw [eit, Complex.exp_pi_mul_I]

theorem eit_arg (r : ℂ) (h1 : ‖r‖ = 1) : eit r.arg = r := by
  have := Complex.norm_mul_exp_arg_mul_I r
  rwa [h1, Complex.ofReal_one, one_mul] at this

theorem eit_ne_one (s : ℝ) (h0 : 0 < s) (h1 : s < Real.pi) : eit s ≠ 1 := by
  intro h
  have := arg_eit s ((neg_neg_of_pos Real.pi_pos).trans h0) h1.le
  rw [h, Complex.arg_one] at this
  exact h0.ne this

theorem eit_ne_neg_one (s : ℝ) (h0 : 0 < s) (h1 : s < Real.pi) : eit s ≠ -1 := by
  intro h
  have := arg_eit s ((neg_neg_of_pos Real.pi_pos).trans h0) h1.le
  rw [h, Complex.arg_neg_one] at this
  exact h1.ne this.symm

theorem star_eit (t : ℝ) : star (eit t) = eit (-t) := by
  rw [eit, eit, RCLike.star_def, ← Complex.exp_conj]
  simp

theorem unit_arg (r : ℂ) (h1 : ‖r‖ = 1) (hne1 : r ≠ 1) (hnem1 : r ≠ -1) :
    eit r.arg = r ∧ -Real.pi < r.arg ∧ r.arg < Real.pi ∧ r.arg ≠ 0 ∧ (star r).arg = -r.arg := by
  have hexp := eit_arg r h1
  have hpi : r.arg ≠ Real.pi := by
    intro h; apply hnem1; rw [← hexp, h, eit_pi]
  have h0 : r.arg ≠ 0 := by
    intro h; apply hne1; rw [← hexp, h, eit_zero]
  refine ⟨hexp, Complex.neg_pi_lt_arg r, lt_of_le_of_ne (Complex.arg_le_pi r) hpi, h0, ?_⟩
  have := Complex.arg_conj r
  rwa [if_neg hpi] at this

/-- product rule when one factor vanishes at the point and the other is only continuous there -/
theorem hasDerivAt_mul_of_zero {u g : ℝ → ℂ} {s : ℝ} {u' : ℂ} (hu : HasDerivAt u u' s)
    (hu0 : u s = 0) (hg : ContinuousAt g s) : HasDerivAt (fun t => u t * g t) (u' * g s) s := by
  rw [hasDerivAt_iff_tendsto_slope] at hu ⊢
  have hsl : slope (fun t => u t * g t) s = fun t => slope u s t * g t := by
    funext t
    rw [slope_def_module, slope_def_module, hu0, zero_mul, sub_zero, sub_zero, smul_mul_assoc]
  rw [hsl]
  exact hu.mul (hg.tendsto.mono_left nhdsWithin_le_nhds)

/-- phase monotonicity in kernel form: `t ↦ X(e^{it})/Y(e^{it})` has the derivative `i·2·S(w,w)/|Y(w)|²` at
`w = e^{is}`; stated for its imaginary part -/
theorem hasDerivAt_ratio (X Y : ℂ → ℂ) (S : ℂ → ℂ → ℂ) (hY : Continuous Y)
    (hS : ∀ w, Continuous fun z => S z w)
    (hker : ∀ z w, X z * star (Y w) + Y z * star (X w) = -(2 * (1 - z * star w) * S z w))
    (s : ℝ) (hYs : Y (eit s) ≠ 0) (r : ℝ) (hr : S (eit s) (eit s) = (r : ℂ)) :
    HasDerivAt (fun t => (X (eit t) / Y (eit t)).im) (2 * r / ‖Y (eit s)‖ ^ 2) s := by
  set w := eit s with hw
  have hww : w * star w = 1 := eit_mul_star s
  have hsY : star (Y w) ≠ 0 := by
    intro h; apply hYs; rw [← star_star (Y w), h, star_zero]
  -- `φ(w)` is purely imaginary
  have himag : X w / Y w = -(star (X w) / star (Y w)) := by
    have h := hker w w
    rw [hww] at h
    field_simp
    linear_combination h
  let g : ℝ → ℂ := fun t => 2 * star w * S (eit t) w / (Y (eit t) * star (Y w))
  have hg : ContinuousAt g s := by
    have h1 : ContinuousAt (fun t => 2 * star w * S (eit t) w) s :=
      (continuous_const.mul ((hS w).comp continuous_eit)).continuousAt
    have h2 : ContinuousAt (fun t => Y (eit t) * star (Y w)) s :=
      ((hY.comp continuous_eit).mul continuous_const).continuousAt
    exact h1.div h2 (mul_ne_zero hYs hsY)
  have hev : (fun t => X (eit t) / Y (eit t)) =ᶠ[𝓝 s] fun t => X w / Y w + (eit t - w) * g t := by
    filter_upwards [(hY.comp continuous_eit).continuousAt.eventually_ne hYs] with t ht
    have ht' : Y (eit t) ≠ 0 := ht
    have h := hker (eit t) w
    show X (eit t) / Y (eit t)
      = X w / Y w + (eit t - w) * (2 * star w * S (eit t) w / (Y (eit t) * star (Y w)))
    rw [himag]
    field_simp
    linear_combination h + 2 * S (eit t) w * hww
  have hu : HasDerivAt (fun t => eit t - w) (Complex.I * w) s := (hasDerivAt_eit s).sub_const w
  have hd : HasDerivAt (fun t => X w / Y w + (eit t - w) * g t) (Complex.I * w * g s) s :=
    (hasDerivAt_mul_of_zero hu (sub_self w) hg).const_add _
  have hval : Complex.I * w * g s = Complex.I * ((2 * r / ‖Y w‖ ^ 2 : ℝ) : ℂ) := by
    show Complex.I * w * (2 * star w * S (eit s) w / (Y (eit s) * star (Y w))) = _
    rw [← hw, hr]
    have hn : Y w * star (Y w) = ((‖Y w‖ ^ 2 : ℝ) : ℂ) := mul_star_eq_ofReal (Y w)
    rw [hn]
    have h3 : Complex.I * w * (2 * star w * (r : ℂ) / ((‖Y w‖ ^ 2 : ℝ) : ℂ))
        = Complex.I * (2 * (w * star w) * (r : ℂ) / ((‖Y w‖ ^ 2 : ℝ) : ℂ)) := by ring
    rw [h3, hww]
    push_cast
    ring
  have h := hd.congr_of_eventuallyEq hev
  rw [hval] at h
  have h' := (Complex.imCLM.hasFDerivAt).comp_hasDerivAt s h
  have hv : Complex.imCLM (Complex.I * ((2 * r / ‖Y w‖ ^ 2 : ℝ) : ℂ)) = 2 * r / ‖Y w‖ ^ 2 := by
    show (Complex.I * ((2 * r / ‖Y w‖ ^ 2 : ℝ) : ℂ)).im = _
    rw [Complex.I_mul_im, Complex.ofReal_re]
  rw [hv] at h'
  exact h'

/-- if `X` vanishes at `e^{it1}`, `e^{it2}` and `Y` had no zero on `[t1,t2]`, `Im (X/Y)(e^{it})` would have equal end
values and, by `hasDerivAt_ratio`, a positive derivative: Rolle -/
theorem kernel_sturm (X Y : ℂ → ℂ) (S : ℂ → ℂ → ℂ) (hY : Continuous Y)
    (hS : ∀ w, Continuous fun z => S z w)
    (hpos : ∀ w : ℂ, ‖w‖ = 1 → ∃ r : ℝ, S w w = (r : ℂ) ∧ 0 < r)
    (hker : ∀ z w, X z * star (Y w) + Y z * star (X w) = -(2 * (1 - z * star w) * S z w))
    (hnc : ∀ z, X z = 0 → Y z ≠ 0)
    (t1 t2 : ℝ) (h12 : t1 < t2) (h1 : X (eit t1) = 0) (h2 : X (eit t2) = 0) :
    ∃ s, t1 < s ∧ s < t2 ∧ Y (eit s) = 0 := by
  by_contra hno
  push Not at hno
  have hY0 : ∀ s ∈ Set.Icc t1 t2, Y (eit s) ≠ 0 := by
    intro s hs
    rcases eq_or_lt_of_le hs.1 with h | h
    · rw [← h]; exact hnc _ h1
    rcases eq_or_lt_of_le hs.2 with h' | h'
    · rw [h']; exact hnc _ h2
    · exact hno s h h'
  let f : ℝ → ℝ := fun t => (X (eit t) / Y (eit t)).im
  have hder : ∀ s ∈ Set.Icc t1 t2, ∃ r : ℝ, 0 < r ∧ HasDerivAt f (2 * r / ‖Y (eit s)‖ ^ 2) s := by
    intro s hs
    obtain ⟨r, hr, hrpos⟩ := hpos (eit s) (norm_eit s)
    exact ⟨r, hrpos, hasDerivAt_ratio X Y S hY hS hker s (hY0 s hs) r hr⟩
  have hcont : ContinuousOn f (Set.Icc t1 t2) := fun x hx =>
    let ⟨_, _, h⟩ := hder x hx
    h.continuousAt.continuousWithinAt
  have hends : f t1 = f t2 := by
    show (X (eit t1) / Y (eit t1)).im = (X (eit t2) / Y (eit t2)).im
    rw [h1, h2, zero_div, zero_div]
  -- Rolle: the derivative vanishes somewhere in between, but it is positive
  obtain ⟨c, hc, hc0⟩ := exists_deriv_eq_zero h12 hcont hends
  obtain ⟨r, hrpos, hd⟩ := hder c (Set.Ioo_subset_Icc_self hc)
  rw [hd.deriv] at hc0
  have hYc : 0 < ‖Y (eit c)‖ := norm_pos_iff.mpr (hY0 c (Set.Ioo_subset_Icc_self hc))
  exact (div_pos (mul_pos two_pos hrpos) (pow_pos hYc 2)).ne' hc0

/-- the kernel identity of `cd_kernel` added to its mirror image: symmetric in `X = zA + cB`,
`Y = zA − cB` (`|c| = 1`) -/
theorem lsfComb_kernel_pair {F : Type} [RCLike F] (a : List F) (S : F → F → F)
    (hS : ∀ z w, polyB a z * star (polyB a w) - z * star w * (polyA a z * star (polyA a w))
      = (1 - z * star w) * S z w)
    (c : F) (hc : c * star c = 1) (z w : F) :
    lsfComb a c z * star (lsfComb a (-c) w) + lsfComb a (-c) z * star (lsfComb a c w)
      = -(2 * (1 - z * star w) * S z w) := by
  unfold lsfComb
  simp only [star_add, star_mul', star_neg, neg_mul]
  linear_combination (-2 : F) * hS z w + (-2 * polyB a z * star (polyB a w)) * hc

/-- between two zeros of `zA + cB` on the circle lies a zero of `zA − cB`; complex coefficients allowed -/
theorem lsfComb_interlace {a : List ℂ} (ha : MinPhase a) (c : ℂ) (hc : ‖c‖ = 1) (t1 t2 : ℝ)
    (h12 : t1 < t2) (h1 : lsfComb a c (eit t1) = 0) (h2 : lsfComb a c (eit t2) = 0) :
    ∃ s, t1 < s ∧ s < t2 ∧ lsfComb a (-c) (eit s) = 0 := by
  obtain ⟨S, hS1, hS2, hS3⟩ := cd_kernel ha
  have hcc : c * star c = 1 := by rw [mul_star_eq_ofReal, hc, one_pow, RCLike.ofReal_one]
  exact kernel_sturm (lsfComb a c) (lsfComb a (-c)) S (continuous_lsfComb a (-c)) hS1
    (fun w _ => hS2 w) (lsfComb_kernel_pair a S hS3 c hcc)
    (fun z hz hz' => lsfComb_no_common_zero ha c z hc hz hz') t1 t2 h12 h1 h2

/-- … and if `L ++ F` lists all zeros of `zA − cB`, those in `F` being `±1`, one in `L` has its angle strictly
between (`0 ≤ t1 < t2 ≤ π`) -/
theorem lsfComb_root_between {a : List ℂ} (ha : MinPhase a) (c : ℂ) (hc : ‖c‖ = 1) (L F : List ℂ)
    (hL : ∀ z, lsfComb a (-c) z = ((L ++ F).map (fun s => z - s)).prod)
    (hF : ∀ r ∈ F, r = 1 ∨ r = -1) (t1 t2 : ℝ) (h0 : 0 ≤ t1) (h12 : t1 < t2) (hpi : t2 ≤ Real.pi)
    (h1 : lsfComb a c (eit t1) = 0) (h2 : lsfComb a c (eit t2) = 0) :
    ∃ q ∈ L, t1 < q.arg ∧ q.arg < t2 := by
  obtain ⟨s, hs1, hs2, hs⟩ := lsfComb_interlace ha c hc t1 t2 h12 h1 h2
  rw [hL] at hs
  have hs0 : 0 < s := lt_of_le_of_lt h0 hs1
  have hspi : s < Real.pi := lt_of_lt_of_le hs2 hpi
  refine ⟨eit s, (List.mem_append.mp ((prod_roots_eq_zero_iff _ _).mp hs)).resolve_right ?_, ?_⟩
  · -- a point strictly inside the upper half circle is neither of `±1`
    intro h
    rcases hF _ h with h | h
    · exact eit_ne_one s hs0 hspi h
    · exact eit_ne_neg_one s hs0 hspi h
  · rw [arg_eit s ((neg_neg_of_pos Real.pi_pos).trans hs0) hspi.le]
    exact ⟨hs1, hs2⟩

theorem index_lt_of_getElem_lt (L : List ℝ) (hs : L.Pairwise (· < ·)) (i j : ℕ) (hi : i < L.length)
    (hj : j < L.length) (h : L[i] < L[j]) : i < j := by
  by_contra hn
  rcases Nat.lt_or_eq_of_le (Nat.le_of_not_lt hn) with h' | h'
  · have := List.pairwise_iff_getElem.mp hs j i hj hi h'
    linarith
  · subst h'
    exact lt_irrefl _ h

/-- two kinds of entries alternate in a sorted list, starting with `Qp` -/
theorem alternate_of_sorted (L : List ℝ) (hs : L.Pairwise (· < ·)) (Pp Qp : ℝ → Prop)
    (hall : ∀ x ∈ L, Pp x ∨ Qp x)
    (ha : ∀ x ∈ L, Pp x → ∃ y ∈ L, y < x)
    (hb : ∀ x ∈ L, ∀ y ∈ L, Pp x → Pp y → x < y → ∃ z ∈ L, x < z ∧ z < y)
    (hc : ∀ x ∈ L, ∀ y ∈ L, Qp x → Qp y → x < y → ∃ z ∈ L, x < z ∧ z < y) :
    ∀ (i : ℕ) (hi : i < L.length), (i % 2 = 0 → Qp L[i]) ∧ (i % 2 = 1 → Pp L[i]) := by
  intro i
  induction i with
  | zero =>
    intro hi
    refine ⟨fun _ => ?_, fun h => absurd h (by decide)⟩
    rcases hall _ (List.getElem_mem hi) with h | h
    · obtain ⟨y, hy, hlt⟩ := ha _ (List.getElem_mem hi) h
      obtain ⟨j, hj, rfl⟩ := List.getElem_of_mem hy
      exact absurd (index_lt_of_getElem_lt L hs j 0 hj hi hlt) (Nat.not_lt_zero j)
    · exact h
  | succ i ih =>
    intro hi
    have hi' : i < L.length := Nat.lt_of_succ_lt hi
    obtain ⟨ihQ, ihP⟩ := ih hi'
    have hlt : L[i] < L[i + 1] := List.pairwise_iff_getElem.mp hs i (i + 1) hi' hi (Nat.lt_succ_self i)
    have hnone : ∀ z ∈ L, ¬ (L[i] < z ∧ z < L[i + 1]) := by
      intro z hz hzz
      obtain ⟨j, hj, rfl⟩ := List.getElem_of_mem hz
      have h1 := index_lt_of_getElem_lt L hs i j hi' hj hzz.1
      have h2 := index_lt_of_getElem_lt L hs j (i + 1) hj hi hzz.2
      exact absurd (Nat.le_of_lt_succ h2) (Nat.not_le.mpr h1)
    constructor
    · intro hev
      have hP := ihP (Nat.succ_mod_two_eq_zero_iff.mp hev)
      rcases hall _ (List.getElem_mem hi) with h | h
      · obtain ⟨z, hz, hzz⟩ := hb _ (List.getElem_mem hi') _ (List.getElem_mem hi) hP h hlt
        exact absurd hzz (hnone z hz)
      · exact h
    · intro hodd
      have hQ := ihQ (Nat.succ_mod_two_eq_one_iff.mp hodd)
      rcases hall _ (List.getElem_mem hi) with h | h
      · exact h
      · obtain ⟨z, hz, hzz⟩ := hc _ (List.getElem_mem hi') _ (List.getElem_mem hi) hQ h hlt
        exact absurd hzz (hnone z hz)

end SpecVerif.LsfInterlaceL
