import Lean.Meta.Tactic.Simp.RegisterCommand
/-
  The simp set `spec_eval` (with its simproc set `spec_eval_proc`): the equations by which the list
  primitives of the model (`vec`, `nth`, `sumR`, `List.range`, `List.getD`, …) are computed on closed data.
  The lemmas are tagged in `Proofs/Lemmas/Eval.lean`; a simp attribute has to be declared in a module
  before the one that uses it.
-/
/-- evaluation of the model's list primitives on closed data -/
register_simp_attr spec_eval
