import SpecVerif.Model.Eigen
import SpecVerif.Proofs.Lemmas.Basic
import SpecVerif.Proofs.Lemmas.DFT
import SpecVerif.Proofs.Lemmas.Sides
import Mathlib.LinearAlgebra.Vandermonde
import Mathlib.Analysis.RCLike.Basic
/-
  Lemmas for C17 (MUSIC / EV pseudo-spectra, `eigenfre.py`).  A row of the forward-backward matrix of
  `x_n = Σ_m c_m z_mⁿ` applied to `v` is `Σ_m A_m q_m` with `q_m = Σ_K v_K z_m^{-K}` (`fb_fwd_dot`,
  `fb_bwd_dot`); `T` such rows and Vandermonde give `q_m = 0` (`amplitudes_zero_range`); the DFT bin of the
  noise column `-star v` at `ω^k` is `-star q(ω^k)` (`dftBin_neg_star_col`).  The rest is the index arithmetic
  of `eigenReorder` / `eigenClassFold`.
-/
namespace SpecVerif.EigenL
open Finset SpecVerif

section Generic
variable {F : Type}

theorem fbNP_le (N P : ℕ) : fbNP N P ≤ N - P := by
  unfold fbNP; exact Nat.min_le_left _ _

/-- Vandermonde (`Matrix.eq_zero_of_forall_pow_sum_mul_pow_eq_zero`) over `range T` -/
theorem amplitudes_zero_range [Field F] {T : ℕ} (z a : ℕ → F)
    (hz : ∀ m m', m < T → m' < T → z m = z m' → m = m')
    (h : ∀ I, I < T → ∑ m ∈ range T, a m * z m ^ I = 0) :
    ∀ m, m < T → a m = 0 := by
  have hinj : Function.Injective (fun m : Fin T => z m) := by
    intro m m' hmm
    exact Fin.ext (hz m m' m.2 m'.2 hmm)
  have h0 := Matrix.eq_zero_of_forall_pow_sum_mul_pow_eq_zero (v := fun m : Fin T => a m) hinj (by
    intro I
    have := h I I.2
    rw [← Fin.sum_univ_eq_sum_range (fun m => a m * z m ^ (I : ℕ)) T] at this
    exact this)
  intro m hm
  exact congrFun h0 ⟨m, hm⟩

end Generic

section Field
variable {F : Type} [Field F] [StarRing F]

theorem dftBin_neg_star_col {ω : F} {nfft P : ℕ} (hn : 0 < nfft) (hω : ω ^ nfft = 1)
    (hstar : star ω = ω⁻¹) (hP : P ≤ nfft) (v : ℕ → F) (k : ℕ) :
    dftBin (twiddles ω nfft) nfft (vec P (fun K => -star (v K))) k
      = -star (∑ K ∈ range P, v K * ((ω ^ k)⁻¹) ^ K) := by
  rw [dftBin_eq hn hω, vec_length, Nat.min_eq_left hP, star_sum, ← Finset.sum_neg_distrib]
  apply Finset.sum_congr rfl
  intro K hK
  rw [nth_vec, if_pos (mem_range.mp hK), star_mul', star_pow, star_inv₀, star_pow, hstar]
  simp only [inv_pow, inv_inv]
  rw [pow_mul, neg_mul, pow_right_comm]

theorem fb_entry_fwd (x : List F) (P I K : ℕ) (hI : I < fbNP x.length P) (hK : K < P) :
    mentryM (fbMatrix x P) I K = nth x (I + P - 1 - K) := by
  unfold mentryM fbMatrix
  rw [getD_vec_lt _ (by omega), if_pos hI, nth_vec_lt _ hK]

theorem fb_entry_bwd (x : List F) (P I K : ℕ) (hI : I < fbNP x.length P) (hK : K < P) :
    mentryM (fbMatrix x P) (fbNP x.length P + I) K = star (nth x (I + K + 1)) := by
  unfold mentryM fbMatrix
  rw [getD_vec_lt _ (by omega), if_neg (by omega), nth_vec_lt _ hK, Nat.add_sub_cancel_left,
    conj_eq_star]

/-- the noiseless signal `x_n = Σ_{m<T} c_m z_m^n`, `n < N` -/
def tones (N T : ℕ) (c z : ℕ → F) : List F := vec N (fun n => ∑ m ∈ range T, c m * z m ^ n)

omit [StarRing F] in
@[simp] theorem tones_length (N T : ℕ) (c z : ℕ → F) : (tones N T c z).length = N := by
  simp [tones]

theorem fb_entry_tone_fwd (N P T I K : ℕ) (c z : ℕ → F) (hz : ∀ m, m < T → z m ≠ 0)
    (hI : I < fbNP N P) (hK : K < P) :
    mentryM (fbMatrix (tones N T c z) P) I K
      = ∑ m ∈ range T, c m * z m ^ (I + P - 1) * (z m)⁻¹ ^ K := by
  have hNP := fbNP_le N P
  rw [fb_entry_fwd _ P I K (by rw [tones_length]; exact hI) hK, tones, nth_vec_lt _ (by omega)]
  apply Finset.sum_congr rfl
  intro m hm
  rw [pow_sub₀ _ (hz m (mem_range.mp hm)) (by omega), inv_pow, mul_assoc]

theorem fb_entry_tone_bwd (N P T I K : ℕ) (c z : ℕ → F)
    (hunit : ∀ m, m < T → star (z m) = (z m)⁻¹)
    (hI : I < fbNP N P) (hK : K < P) :
    mentryM (fbMatrix (tones N T c z) P) (fbNP N P + I) K
      = ∑ m ∈ range T, star (c m) * (z m)⁻¹ ^ (I + 1) * (z m)⁻¹ ^ K := by
  have hNP := fbNP_le N P
  have he := fb_entry_bwd (tones N T c z) P I K (by rw [tones_length]; exact hI) hK
  rw [tones_length] at he
  rw [he, tones, nth_vec_lt _ (by omega), star_sum]
  apply Finset.sum_congr rfl
  intro m hm
  rw [star_mul', star_pow, hunit m (mem_range.mp hm), mul_assoc, ← pow_add, Nat.add_right_comm I 1 K]

omit [StarRing F] in
/-- a row of exponential sums `Σ_m A_m y_m^K` is a combination of the `T` steering vectors `(y_m^K)_K` -/
theorem sum_expSum_mul (P T : ℕ) (A y v : ℕ → F) :
    ∑ K ∈ range P, (∑ m ∈ range T, A m * y m ^ K) * v K
      = ∑ m ∈ range T, A m * ∑ K ∈ range P, v K * y m ^ K := by
  simp only [Finset.sum_mul, Finset.mul_sum]
  rw [Finset.sum_comm]
  exact Finset.sum_congr rfl (fun m _ => Finset.sum_congr rfl (fun K _ => by ring))

theorem fb_fwd_dot (N P T I : ℕ) (c z v : ℕ → F) (hz : ∀ m, m < T → z m ≠ 0) (hI : I < fbNP N P) :
    ∑ K ∈ range P, mentryM (fbMatrix (tones N T c z) P) I K * v K
      = ∑ m ∈ range T, c m * z m ^ (I + P - 1) * ∑ K ∈ range P, v K * (z m)⁻¹ ^ K := by
  rw [Finset.sum_congr rfl (fun K hK => by
    rw [fb_entry_tone_fwd N P T I K c z hz hI (mem_range.mp hK)]), sum_expSum_mul]

theorem fb_bwd_dot (N P T I : ℕ) (c z v : ℕ → F) (hunit : ∀ m, m < T → star (z m) = (z m)⁻¹)
    (hI : I < fbNP N P) :
    ∑ K ∈ range P, mentryM (fbMatrix (tones N T c z) P) (fbNP N P + I) K * v K
      = ∑ m ∈ range T, star (c m) * (z m)⁻¹ ^ (I + 1) * ∑ K ∈ range P, v K * (z m)⁻¹ ^ K := by
  rw [Finset.sum_congr rfl (fun K hK => by
    rw [fb_entry_tone_bwd N P T I K c z hunit hI (mem_range.mp hK)]), sum_expSum_mul]

theorem eigenDenom_eq_sum (tw : List F) (cols : List (List F)) (S : List F)
    (nsig P nfft : ℕ) (ev : Bool) (k : ℕ) :
    eigenDenom tw cols S nsig P nfft ev k
      = ∑ j ∈ range (P - nsig),
          if ev then abs2 (dftBin tw nfft (cols.getD (j + nsig) []) k) / nth S (j + nsig)
          else abs2 (dftBin tw nfft (cols.getD (j + nsig) []) k) := by
  unfold eigenDenom
  rw [sumR_eq_sum]

theorem eigenDenom_eq_zero (tw : List F) (cols : List (List F)) (S : List F)
    (nsig P nfft : ℕ) (ev : Bool) (k : ℕ)
    (h : ∀ i, nsig ≤ i → i < P → dftBin tw nfft (cols.getD i []) k = 0) :
    eigenDenom tw cols S nsig P nfft ev k = 0 := by
  rw [eigenDenom_eq_sum]
  apply Finset.sum_eq_zero
  intro j hj
  have hj' := mem_range.mp hj
  rw [h (j + nsig) (by omega) (by omega), abs2_eq, zero_mul, zero_div, ite_self]

end Field

/-! A tone of signed frequency bin `b` is seen at FFT bin `((n - b) mod n).toNat`, which is `C17.fftBinOf n b` and
`binIdx n (n - b)` (Lemmas/Sides) by unfolding. -/

/-- the FFT bin `(n - b) mod n` of a tone of signed bin `b` is the two-sided index of bin `-b` -/
theorem sub_emod_toNat {n : ℕ} (hn : 0 < n) (b : Int) :
    (((n : Int) - b) % (n : Int)).toNat = (n - binIdx n b) % n := by
  have hlt := binIdx_lt hn b
  have hb : b = (binIdx n b : Int) + (n : Int) * (b / (n : Int)) := by
    unfold binIdx
    rw [Int.toNat_of_nonneg (Int.emod_nonneg _ (by omega))]
    exact (Int.emod_add_mul_ediv b n).symm
  show binIdx n ((n : Int) - b) = _
  by_cases h0 : binIdx n b = 0
  · rw [h0, Nat.sub_zero, Nat.mod_self]
    refine binIdx_eq 0 (1 - b / (n : Int)) _ hn ?_
    rw [h0] at hb
    rw [mul_sub, mul_one]
    omega
  · rw [Nat.mod_eq_of_lt (by omega)]
    refine binIdx_eq (n - binIdx n b) (-(b / (n : Int))) _ (by omega) ?_
    rw [mul_neg]
    omega

theorem sub_neg_emod_toNat {n j : ℕ} (hj : j < n) : (((n : Int) - -(j : Int)) % (n : Int)).toNat = j := by
  rw [show (n : Int) - -(j : Int) = (j : Int) + (n : Int) * 1 by ring, Int.add_mul_emod_self_left,
    Int.emod_eq_of_lt (by omega) (by omega), Int.toNat_natCast]

section Reorder
variable {F : Type} [Field F]

theorem eigenReorder_length (psd : List F) (nfft : ℕ) : (eigenReorder psd nfft).length = nfft :=
  vec_length _ _

theorem nth_eigenReorder (psd : List F) (nfft j : ℕ) (hj : j < nfft) :
    nth (eigenReorder psd nfft) j
      = nth psd (if j ≤ nfft / 2 then nfft / 2 - j else nfft + nfft / 2 - j) := by
  show nth (vec nfft _) j = _
  rw [nth_vec_lt _ hj]
  split_ifs <;> rfl

theorem nth_ifftshift (psd : List F) (i : ℕ) (hi : i < psd.length) :
    nth (ifftshift psd) i = nth psd ((i + psd.length / 2) % psd.length) := by
  show nth (vec psd.length _) i = _
  rw [nth_vec_lt _ hi]

/-- the frequency-reversed spectrum: bin `k` holds the value computed at FFT bin `-k mod n` (a tone
    `z = ω^{-b}` of signed frequency bin `b` makes the denominator vanish at FFT bin `-b mod n`) -/
def revSpec (psd : List F) (n k : ℕ) : F := nth psd ((n - k) % n)

/-- the centre-DC position `j` holds bin `j - h (mod n)`; reversed, that is bin `h - j` resp. `n + h - j` -/
theorem center_rev_index {n h j : ℕ} (hh : h < n) (hj : j < n) :
    (n - (j + n - h) % n) % n = if j ≤ h then h - j else n + h - j := by
  by_cases hle : j ≤ h
  · rw [if_pos hle]
    obtain ⟨d, rfl⟩ := Nat.exists_eq_add_of_le hle
    rw [Nat.add_sub_add_left, Nat.add_sub_cancel_left]
    rcases Nat.eq_zero_or_pos d with rfl | hd
    · rw [Nat.sub_zero, Nat.mod_self, Nat.sub_zero, Nat.mod_self]
    · rw [Nat.mod_eq_of_lt (Nat.sub_lt (Nat.zero_lt_of_lt hj) hd),
        Nat.sub_sub_self (Nat.le_of_lt (Nat.lt_of_le_of_lt (Nat.le_add_left d j) hh)),
        Nat.mod_eq_of_lt (Nat.lt_of_le_of_lt (Nat.le_add_left d j) hh)]
  · rw [if_neg hle]
    obtain ⟨e, rfl⟩ := Nat.exists_eq_add_of_lt (Nat.lt_of_not_le hle)
    have he : e + 1 < n := by omega
    rw [show h + e + 1 + n - h = e + 1 + n by omega, Nat.add_mod_right, Nat.mod_eq_of_lt he,
      Nat.mod_eq_of_lt (Nat.sub_lt (Nat.zero_lt_of_lt hj) (Nat.succ_pos e))]
    omega

theorem eigenReorder_eq_repCenter (psd : List F) (n : ℕ) :
    eigenReorder psd n = repCenter n (revSpec psd n) := by
  unfold eigenReorder repCenter revSpec
  apply vec_ext
  intro j hj
  rw [center_rev_index (Nat.div_lt_self (Nat.zero_lt_of_lt hj) (by decide)) hj, apply_ite (nth psd)]

theorem nth_classFold_reorder_complex (psd : List F) (nfft i : ℕ) (hi : i < nfft) :
    nth (eigenClassFold (eigenReorder psd nfft) false nfft) i = nth psd ((nfft - i) % nfft) := by
  unfold eigenClassFold
  rw [if_neg Bool.false_ne_true, eigenReorder_eq_repCenter, ifftshift_repCenter, repTwo, nth_vec,
    if_pos hi, revSpec]

theorem oneSided_length_eq (n : ℕ) : (if n % 2 = 0 then n / 2 + 1 else (n + 1) / 2) = n / 2 + 1 := by
  split_ifs
  · rfl
  · omega

theorem classFold_real_length (psd : List F) (nfft : ℕ) :
    (eigenClassFold psd true nfft).length = nfft / 2 + 1 := by
  unfold eigenClassFold
  rw [if_pos rfl, vec_length, oneSided_length_eq]

theorem nth_classFold_real (psd : List F) (nfft j : ℕ) (hj : j ≤ nfft / 2) :
    nth (eigenClassFold psd true nfft) j = 2 * nth psd (nfft / 2 - j) := by
  unfold eigenClassFold
  rw [if_pos rfl, oneSided_length_eq, nth_vec_lt _ (Nat.lt_succ_of_le hj), Nat.cast_ofNat,
    Nat.add_sub_cancel]

theorem nth_classFold_reorder_real (psd : List F) (nfft j : ℕ) (hj : j ≤ nfft / 2) (hn : 0 < nfft) :
    nth (eigenClassFold (eigenReorder psd nfft) true nfft) j = 2 * nth psd j := by
  rw [nth_classFold_real _ nfft j hj, nth_eigenReorder psd nfft _ (by omega), if_pos (by omega),
    Nat.sub_sub_self hj]

section Psd
variable [StarRing F]

theorem nth_classFold_eigenPsd_complex (tw : List F) (cols : List (List F)) (S : List F)
    (nsig P : ℕ) {nfft : ℕ} (ev : Bool) {i : ℕ} (hi : i < nfft) :
    nth (eigenClassFold (eigenPsd tw cols S nsig P nfft ev) false nfft) i
      = 1 / eigenDenom tw cols S nsig P nfft ev ((nfft - i) % nfft) := by
  unfold eigenPsd
  rw [nth_classFold_reorder_complex _ nfft i hi, nth_vec_lt _ (Nat.mod_lt _ (by omega))]

theorem nth_classFold_eigenPsd_real (tw : List F) (cols : List (List F)) (S : List F)
    (nsig P : ℕ) {nfft : ℕ} (hn : 0 < nfft) (ev : Bool) {j : ℕ} (hj : j ≤ nfft / 2) :
    nth (eigenClassFold (eigenPsd tw cols S nsig P nfft ev) true nfft) j
      = 2 * (1 / eigenDenom tw cols S nsig P nfft ev j) := by
  unfold eigenPsd
  rw [nth_classFold_reorder_real _ nfft j hj hn, nth_vec_lt _ (by omega)]

end Psd

end Reorder

theorem eigenValidate_cases (methodOk : Bool) (nsig : Option Int) (hasThr : Bool) (N P : ℕ) :
    eigenValidate methodOk nsig hasThr N P =
      if methodOk = false ∨ (nsig.isSome = true ∧ hasThr = true)
          ∨ (∃ n, nsig = some n ∧ (n < 0 ∨ (P : Int) ≤ n)) then .error "value"
      else if 2 * (N - P) ≤ P - 1 then .error "assert" else .ok () := by
  cases methodOk
  · rw [if_pos (Or.inl rfl)]
    rfl
  · cases nsig with
    | none =>
      rw [if_neg (by simp)]
      rfl
    | some n =>
      cases hasThr
      · have hiff : (true = false ∨ ((some n).isSome = true ∧ false = true)
            ∨ ∃ n', some n = some n' ∧ (n' < 0 ∨ (P : Int) ≤ n')) ↔ (n < 0 ∨ (P : Int) ≤ n) := by
          simp
        rw [if_congr hiff rfl rfl]
        show (if n < 0 then _ else if n ≥ (P : Int) then _ else _) = _
        by_cases h1 : n < 0
        · rw [if_pos h1, if_pos (Or.inl h1)]
        · rw [if_neg h1]
          by_cases h2 : (P : Int) ≤ n
          · rw [if_pos h2, if_pos (Or.inr h2)]
          · rw [if_neg h2, if_neg (not_or.mpr ⟨h1, h2⟩)]
      · rw [if_pos (Or.inr (Or.inl ⟨rfl, rfl⟩))]
        rfl

section RC
variable {F : Type} [RCLike F]

theorem sum_ofReal (n : ℕ) (f : ℕ → ℝ) :
    ∑ i ∈ range n, ((f i : ℝ) : F) = ((∑ i ∈ range n, f i : ℝ) : F) := by
  rw [RCLike.ofReal_sum]

end RC

end SpecVerif.EigenL
