import SpecVerif.Proofs.Lemmas.Sesq
import SpecVerif.Proofs.Lemmas.WienerKhinchin
import SpecVerif.Proofs.Lemmas.Arma
/-
  Lemmas for C16 about `minvarPsi` (`Model/Arma.lean`): the Gohberg–Semencul matrix
  `G = L₁L₁ᴴ − L₂L₂ᴴ` of a polynomial `a`, its diagonal sums (Musicus' ψ sequence times `P`), the
  quadratic form `e(z)ᴴ M e(z)` of a Hermitian matrix summed by diagonals, and the DFT of ψ written as
  `ψ_0 + Σ_K (ψ_K ω^{Kk} + conj ψ_K ω^{-Kk})`.
-/
namespace SpecVerif.MinvarL
open Finset SpecVerif SpecVerif.ArmaL

variable {K : Type} [Field K]

/-- the integer weight `m-K-2i` of the ψ sequence, written with natural-number casts as in the model -/
def psiWeight (n i : ℕ) : K :=
  if 2 * i ≤ n then (((n - 2 * i : ℕ) : K)) else -(((2 * i - n : ℕ) : K))

theorem psiWeight_eq (n i : ℕ) (hi : i ≤ n) : (psiWeight n i : K) = ((n - i : ℕ) : K) - (i : K) := by
  unfold psiWeight
  rw [Nat.cast_sub hi]
  split_ifs with h
  · rw [Nat.cast_sub h, Nat.cast_mul, Nat.cast_ofNat]
    ring
  · rw [Nat.cast_sub (Nat.le_of_not_le h), Nat.cast_mul, Nat.cast_ofNat]
    ring

/-- a triangle summed by columns -/
theorem sum_triangle_const (n : ℕ) (f : ℕ → K) :
    ∑ j ∈ range n, ∑ s ∈ range (j + 1), f s = ∑ s ∈ range n, ((n - s : ℕ) : K) * f s := by
  induction n with
  | zero => rw [Finset.sum_range_zero, Finset.sum_range_zero]
  | succ n ih =>
    rw [Finset.sum_range_succ, ih, Finset.sum_range_succ (fun s => ((n + 1 - s : ℕ) : K) * f s),
      Finset.sum_range_succ f]
    have h : ∀ s ∈ range n, ((n + 1 - s : ℕ) : K) * f s = ((n - s : ℕ) : K) * f s + f s := by
      intro s hs
      rw [Nat.succ_sub (mem_range.mp hs).le, Nat.cast_succ, add_mul, one_mul]
    rw [Finset.sum_congr rfl h, Finset.sum_add_distrib, Nat.add_sub_cancel_left, Nat.cast_one, one_mul]
    ring

variable [StarRing K]

/-- first column `[0, conj a_{m-1}, …, conj a_1]` of the lower-triangular Toeplitz matrix `L₂`
    (`a = [a_0, …, a_{m-1}]`) -/
def gsB (m : ℕ) (a : ℕ → K) (s : ℕ) : K := if s = 0 then 0 else star (a (m - s))

theorem gsB_zero (m : ℕ) (a : ℕ → K) : gsB m a 0 = 0 := by
  unfold gsB; rw [if_pos rfl]

theorem gsB_succ (m : ℕ) (a : ℕ → K) (s : ℕ) : gsB m a (s + 1) = star (a (m - (s + 1))) := by
  unfold gsB; rw [if_neg (Nat.succ_ne_zero s)]

/-- the `L₂L₂ᴴ` term at distance `s + 1` from the top of the `k`-th diagonal is the `L₁L₁ᴴ` term at the
    same distance from its bottom -/
theorem gsB_mul_star (m : ℕ) (a : ℕ → K) (s k : ℕ) :
    gsB m a (s + 1 + k) * star (gsB m a (s + 1))
      = a (m - (s + 1)) * star (a (m - (s + 1) - k)) := by
  rw [Nat.add_right_comm, gsB_succ, gsB_succ, star_star, mul_comm, Nat.sub_sub, Nat.add_right_comm]

/-- entry `(i, j)` of `L₁L₁ᴴ − L₂L₂ᴴ`, `L₁ = (a_{i-j})_{i ≥ j}`, `L₂ = (b_{i-j})_{i ≥ j}`, `b = gsB m a`:
    `Σ_{t ≤ min i j} (a_{i-t}·conj a_{j-t} − b_{i-t}·conj b_{j-t})` -/
def gsG (m : ℕ) (a : ℕ → K) (i j : ℕ) : K :=
  ∑ t ∈ range (min i j + 1),
    (a (i - t) * star (a (j - t)) - gsB m a (i - t) * star (gsB m a (j - t)))

def diagSum (m : ℕ) (M : ℕ → ℕ → K) (k : ℕ) : K := ∑ j ∈ range (m - k), M (j + k) j

def lowerToeplitz (c : ℕ → K) (i t : ℕ) : K := if t ≤ i then c (i - t) else 0

theorem lowerToeplitz_mul_adjoint (m : ℕ) (c : ℕ → K) (i j : ℕ) (hi : i < m) (_hj : j < m) :
    ∑ t ∈ range m, lowerToeplitz c i t * star (lowerToeplitz c j t)
      = ∑ t ∈ range (min i j + 1), c (i - t) * star (c (j - t)) := by
  symm
  have h1 : ∀ t ∈ range (min i j + 1), c (i - t) * star (c (j - t))
      = lowerToeplitz c i t * star (lowerToeplitz c j t) := by
    intro t ht
    have ht' : t ≤ min i j := Nat.lt_succ_iff.mp (mem_range.mp ht)
    unfold lowerToeplitz
    rw [if_pos (ht'.trans (Nat.min_le_left i j)), if_pos (ht'.trans (Nat.min_le_right i j))]
  rw [Finset.sum_congr rfl h1]
  apply Finset.sum_subset
  · intro t ht
    exact mem_range.mpr (lt_of_lt_of_le (mem_range.mp ht)
      (Nat.succ_le_of_lt (lt_of_le_of_lt (Nat.min_le_left i j) hi)))
  · intro t _ ht
    unfold lowerToeplitz
    by_cases h : t ≤ i
    · have hj : ¬ t ≤ j := fun hj => ht (mem_range.mpr (Nat.lt_succ_of_le (Nat.le_min.mpr ⟨h, hj⟩)))
      rw [if_neg hj, star_zero, mul_zero]
    · rw [if_neg h, zero_mul]

theorem gsG_hermitian (m : ℕ) (a : ℕ → K) (i j : ℕ) : gsG m a j i = star (gsG m a i j) := by
  unfold gsG
  rw [star_sum, Nat.min_comm]
  apply Finset.sum_congr rfl
  intro t _
  rw [star_sub, star_mul', star_mul', star_star, star_star]
  ring

/-- along the `k`-th lower diagonal the entry of `G` is a partial sum of a fixed sequence -/
theorem gsG_diag (m : ℕ) (a : ℕ → K) (j k : ℕ) :
    gsG m a (j + k) j
      = ∑ s ∈ range (j + 1),
          (a (s + k) * star (a s) - gsB m a (s + k) * star (gsB m a s)) := by
  unfold gsG
  rw [Nat.min_eq_right (Nat.le_add_right j k), ← Finset.sum_range_reflect]
  apply Finset.sum_congr rfl
  intro s hs
  have hs' : s ≤ j := Nat.lt_succ_iff.mp (mem_range.mp hs)
  rw [Nat.add_sub_cancel, Nat.sub_add_comm (Nat.sub_le j s), Nat.sub_sub_self hs']

/-- the `L₂L₂ᴴ` part of a diagonal sum, re-indexed by `i = n - s` -/
theorem sum_gsB_reflect (m : ℕ) (a : ℕ → K) (k : ℕ) (hk : k < m) :
    ∑ s ∈ range (m - k), ((m - k - s : ℕ) : K) * (gsB m a (s + k) * star (gsB m a s))
      = ∑ i ∈ range (m - k), (i : K) * (star (a i) * a (i + k)) := by
  obtain ⟨n, rfl⟩ : ∃ n, m = n + 1 + k := ⟨m - k - 1, by omega⟩
  rw [Nat.add_sub_cancel, Finset.sum_range_succ',
    Finset.sum_range_succ' (fun i => (i : K) * (star (a i) * a (i + k))),
    gsB_zero, star_zero, mul_zero, mul_zero, add_zero, Nat.cast_zero, zero_mul, add_zero,
    ← Finset.sum_range_reflect]
  apply Finset.sum_congr rfl
  intro s hs
  have hs' : s < n := mem_range.mp hs
  -- the reflected index `t = n - 1 - s + 1 = n - s` satisfies `n + 1 - t = s + 1`
  have ht : n - 1 - s + 1 = n - s := by omega
  have e2 : n + 1 - (n - s) = s + 1 := by rw [Nat.succ_sub (Nat.sub_le n s), Nat.sub_sub_self hs'.le]
  rw [gsB_mul_star, ht, Nat.sub_add_comm (Nat.le_succ_of_le (Nat.sub_le n s)), e2, Nat.add_sub_cancel,
    mul_comm (a _)]

/-- **diagonal sums of the Gohberg–Semencul matrix**, the numerator of Musicus' `ψ_k`: position `i` of the
    `k`-th diagonal is counted `m-k-i` times by `L₁L₁ᴴ` and `i` times by `L₂L₂ᴴ` -/
theorem diagSum_gsG (m : ℕ) (a : ℕ → K) (k : ℕ) (hk : k < m) :
    diagSum m (gsG m a) k
      = ∑ i ∈ range (m - k), psiWeight (m - k) i * star (a i) * a (i + k) := by
  unfold diagSum
  simp only [gsG_diag]
  rw [sum_triangle_const]
  simp only [mul_sub]
  rw [Finset.sum_sub_distrib, sum_gsB_reflect m a k hk, ← Finset.sum_sub_distrib]
  apply Finset.sum_congr rfl
  intro i hi
  have hi' := mem_range.mp hi
  rw [psiWeight_eq (m - k) i (by omega)]
  ring

/-- `minvarLag` (Lemmas/Arma) spells the weight `psiWeight` out -/
theorem minvarLag_eq (a : List K) (P : K) (k : ℕ) :
    minvarLag a P k
      = (∑ i ∈ range (a.length - k), psiWeight (a.length - k) i * star (nth a i) * nth a (i + k)) / P :=
  rfl

theorem diagSum_gsG_eq_lag (a : List K) {P : K} (hP : P ≠ 0) (k : ℕ) (hk : k < a.length) :
    diagSum a.length (gsG a.length (nth a)) k = minvarLag a P k * P := by
  rw [diagSum_gsG a.length (nth a) k hk, minvarLag_eq, div_mul_cancel₀ _ hP]

/-- `e(z)ᴴ M e(z)` by diagonals -/
theorem sesq_pow_by_diag (m : ℕ) (M : ℕ → ℕ → K) (hM : ∀ i j, i < m → j < m → M j i = star (M i j))
    (z : K) (hz : z ≠ 0) (hstar : star z = z⁻¹) :
    sesq m M (fun i => z ^ i) (fun i => z ^ i)
      = diagSum m M 0
        + ∑ k ∈ Ico 1 m, (diagSum m M k * z⁻¹ ^ k + star (diagSum m M k) * z ^ k) := by
  have h := sum_pow_mul_inv_pow_by_diag m M (inv_ne_zero hz)
  unfold sesq diagSum
  simp only [star_pow, hstar, inv_inv] at h ⊢
  rw [h]
  simp only [Nat.sub_zero, Nat.add_zero, star_sum]
  refine congrArg (_ + ·) (Finset.sum_congr rfl fun k hk => ?_)
  refine congrArg (_ + · * _) (Finset.sum_congr rfl fun n hn => ?_)
  have := mem_range.mp hn
  have := (Finset.mem_Ico.mp hk).2
  exact hM (n + k) n (by omega) (by omega)

/-- DFT of ψ without wrap-around (`hno`: the two halves of ψ do not overlap) -/
theorem dft_minvarPsi {ω : K} {n : ℕ} (hω : ω ^ n = 1) (a : List K) (P : K) (ha : 0 < a.length)
    (hno : 2 * a.length ≤ n + 1) (k : ℕ) :
    ∑ j ∈ range n, nth (minvarPsi a P n) j * ω ^ (j * k)
      = minvarLag a P 0 + ∑ j ∈ Ico 1 a.length,
          (minvarLag a P j * ω ^ (j * k) + star (minvarLag a P j) * ω⁻¹ ^ (j * k)) := by
  obtain ⟨L, hLa⟩ : ∃ L, a.length = L + 1 := ⟨a.length - 1, by omega⟩
  rw [sum_two_sided hω (by omega : 2 * L + 1 ≤ n) (nth (minvarPsi a P n))
      (fun i h1 h2 => nth_minvarPsi_mid a P (by omega) (by omega)),
    nth_minvarPsi_low a P ha (by omega), hLa]
  refine congrArg (_ + ·) (Finset.sum_congr rfl fun j hj => ?_)
  have hj' := Finset.mem_Ico.mp hj
  rw [nth_minvarPsi_low a P (by omega) (by omega), nth_minvarPsi_high a P hj'.1 (by omega) (by omega)]

/-- **DFT(ψ) is the Gohberg–Semencul quadratic form** at the steering vector `e(k)_i = ω^{-ik}` -/
theorem dft_minvarPsi_eq_sesq {ω : K} {n : ℕ} (hω : ω ^ n = 1) (hstar : star ω = ω⁻¹)
    (a : List K) {P : K} (hP : star P = P) (hP0 : P ≠ 0) (ha : 0 < a.length)
    (hno : 2 * a.length ≤ n + 1) (k : ℕ) :
    ∑ j ∈ range n, nth (minvarPsi a P n) j * ω ^ (j * k)
      = sesq a.length (gsG a.length (nth a)) (fun i => ω⁻¹ ^ (i * k)) (fun i => ω⁻¹ ^ (i * k)) / P := by
  have hω0 : ω ≠ 0 := ne_zero_of_pow_eq_one (by omega) hω
  have hz0 : ω⁻¹ ^ k ≠ 0 := pow_ne_zero _ (inv_ne_zero hω0)
  have hzs : star (ω⁻¹ ^ k) = (ω⁻¹ ^ k)⁻¹ := by
    rw [star_pow, star_inv₀, hstar, inv_pow, inv_pow, inv_inv]
  -- `e(k)_i = z^i` with `z = ω⁻¹ ^ k`
  have he : (fun i => ω⁻¹ ^ (i * k)) = fun i => (ω⁻¹ ^ k) ^ i := by
    funext i
    rw [← pow_mul, mul_comm]
  rw [he, dft_minvarPsi hω a P ha hno k,
    sesq_pow_by_diag a.length (gsG a.length (nth a))
      (fun i j _ _ => gsG_hermitian a.length (nth a) i j) (ω⁻¹ ^ k) hz0 hzs,
    add_div, Finset.sum_div, diagSum_gsG_eq_lag a hP0 0 ha, mul_div_assoc, div_self hP0, mul_one]
  refine congrArg (_ + ·) (Finset.sum_congr rfl fun j hj => ?_)
  have hj' := Finset.mem_Ico.mp hj
  have e1 : (ω⁻¹ ^ k)⁻¹ ^ j = ω ^ (j * k) := by
    rw [← inv_pow, inv_inv, ← pow_mul, mul_comm]
  have e2 : (ω⁻¹ ^ k) ^ j = ω⁻¹ ^ (j * k) := by rw [← pow_mul, mul_comm]
  rw [diagSum_gsG_eq_lag a hP0 j hj'.2, star_mul', hP, e1, e2, add_div,
    mul_right_comm (minvarLag a P j), mul_div_cancel_right₀ _ hP0,
    mul_right_comm (star (minvarLag a P j)), mul_div_cancel_right₀ _ hP0]

end SpecVerif.MinvarL
