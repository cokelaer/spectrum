import SpecVerif.Proofs.Lemmas.DFT
import SpecVerif.Model.Arma
/-
  `Model/Arma.lean` over a field.  The one idea: the DFT of the zero-padded coefficient sequence
  `polySeq c n` is the polynomial `polyAt ω c k = 1 + Σ c_j ω^{(j+1)k}` when no coefficient is cut off
  (`dftBin_polySeq`).  The rest are entry/length equations of `arma2psd` (factor `armaFactor`), of the
  glue `foldReal`/`scalePsd`/`classPsd`, and of Musicus' ψ (`minvarLag`).
-/
namespace SpecVerif
open Finset

variable {K : Type} [Field K]

namespace ArmaL

/-- the polynomial `1 + Σ_{j<p} c_j z^{j+1}` at `z = ω^k` (`A(f)`, `B(f)` of `arma2psd` at `f = k/NFFT`
    when `ω = e^{-2πi/NFFT}`) -/
def polyAt (ω : K) (c : List K) (k : ℕ) : K :=
  1 + ∑ j ∈ range c.length, nth c j * ω ^ ((j + 1) * k)

theorem foldReal_length (raw : List K) (n : ℕ) :
    (foldReal raw n).length = if n % 2 = 0 then n / 2 + 1 else (n + 1) / 2 := vec_length _ _

/-- lag `k` of Musicus' sequence: `Σ_{i<m-k} (m-k-2i)·conj(a_i)·a_{i+k} / P`, `m = len a`
    (the integer weight `m-k-2i` written with natural-number casts exactly as in the model) -/
def minvarLag [StarRing K] (a : List K) (P : K) (k : ℕ) : K :=
  (∑ i ∈ range (a.length - k),
    (if 2 * i ≤ a.length - k then (((a.length - k - 2 * i : ℕ) : K))
      else -(((2 * i - (a.length - k) : ℕ) : K))) * star (nth a i) * nth a (i + k)) / P

end ArmaL
open ArmaL

/-- the `|B|²` / `|A|²` factor of `arma2psd` (`1` for `None`) -/
def armaFactor [StarRing K] (tw : List K) (C : Option (List K)) (n k : ℕ) : K :=
  match C with
  | some c => abs2 (dftBin tw n (polySeq c n) k)
  | none => 1

@[simp] theorem polySeq_length (c : List K) (n : ℕ) : (polySeq c n).length = n := vec_length _ _

theorem nth_polySeq_zero (c : List K) {n : ℕ} (hn : 0 < n) : nth (polySeq c n) 0 = 1 := by
  unfold polySeq; rw [nth_vec, if_pos hn, if_pos rfl]

theorem nth_polySeq_succ (c : List K) {n j : ℕ} (hj : j + 1 < n) :
    nth (polySeq c n) (j + 1) = nth c j := by
  unfold polySeq; rw [nth_vec, if_pos hj, if_neg (Nat.succ_ne_zero j), Nat.add_sub_cancel]

theorem dftBin_polySeq {ω : K} {n : ℕ} (hω : ω ^ n = 1) (c : List K) (hc : c.length < n) (k : ℕ) :
    dftBin (twiddles ω n) n (polySeq c n) k = polyAt ω c k := by
  cases n with
  | zero => exact absurd hc (Nat.not_lt_zero _)
  | succ m =>
    unfold polyAt
    have h1 : ∀ j ∈ range m, nth (polySeq c (m + 1)) (j + 1) * ω ^ ((j + 1) * k)
        = nth c j * ω ^ ((j + 1) * k) := by
      intro j hj
      rw [nth_polySeq_succ c (Nat.succ_lt_succ (mem_range.mp hj))]
    rw [dftBin_eq_full (Nat.succ_pos m) hω, Finset.sum_range_succ',
      nth_polySeq_zero c (Nat.succ_pos m), Nat.zero_mul, pow_zero, mul_one, add_comm,
      Finset.sum_congr rfl h1,
      sum_range_zero_tail _ (Nat.lt_succ_iff.mp hc)
        (fun j hj _ => by rw [nth_of_ge c j hj, zero_mul])]

theorem classPsd_false (raw : List K) (isReal : Bool) (n : ℕ) (twoPi fs : K) :
    classPsd raw isReal n false twoPi fs = if isReal then foldReal raw n else raw := rfl

theorem classPsd_true (raw : List K) (isReal : Bool) (n : ℕ) (twoPi fs : K) :
    classPsd raw isReal n true twoPi fs
      = (if isReal then foldReal raw n else raw).map (fun v => v * (twoPi / (fs / (n : K)))) := rfl

/-- the two branches of the code's one-sided length are the same number -/
theorem oneSided_len (n : ℕ) : (if n % 2 = 0 then n / 2 + 1 else (n + 1) / 2) = n / 2 + 1 := by
  split_ifs <;> omega

theorem nth_foldReal (raw : List K) (n k : ℕ) :
    nth (foldReal raw n) k = if k < n / 2 + 1 then 2 * nth raw k else 0 := by
  unfold foldReal
  rw [nth_vec, oneSided_len, Nat.cast_ofNat]

theorem scalePsd_length (p : List K) (s : Bool) (twoPi fs : K) (n : ℕ) :
    (scalePsd p s twoPi fs n).length = p.length := by
  cases s
  · rfl
  · exact List.length_map _

theorem nth_scalePsd (p : List K) (s : Bool) (twoPi fs : K) (n k : ℕ) :
    nth (scalePsd p s twoPi fs n) k = nth p k * (if s then twoPi / (fs / (n : K)) else 1) := by
  cases s
  · exact (mul_one _).symm
  · exact nth_map_mul_right _ _ _

theorem classPsd_eq (raw : List K) (isReal : Bool) (n : ℕ) (s : Bool) (twoPi fs : K) :
    classPsd raw isReal n s twoPi fs
      = scalePsd (if isReal then foldReal raw n else raw) s twoPi fs n := rfl

/-- the model polynomial `1 + Σ c_j z^{j+1}` depends on `(ω, k)` through the point `z = ω^k` only -/
theorem polyAt_eq_polyPoint (ω : K) (c : List K) (k : ℕ) :
    polyAt ω c k = 1 + ∑ j ∈ range c.length, nth c j * (ω ^ k) ^ (j + 1) := by
  unfold polyAt
  congr 1
  apply Finset.sum_congr rfl
  intro j _
  rw [pow_mul']

theorem foldReal_map (g : K → K) (h0 : g 0 = 0) (h2 : ∀ v, g (2 * v) = 2 * g v) (raw : List K)
    (n : ℕ) : foldReal (raw.map g) n = (foldReal raw n).map g := by
  unfold foldReal
  refine vec_eq_map g (fun i _ => ?_)
  rw [nth_map g h0, Nat.cast_ofNat, h2]

theorem foldReal_map_mul (c : K) (raw : List K) (n : ℕ) :
    foldReal (raw.map (fun v => c * v)) n = (foldReal raw n).map (fun v => c * v) :=
  foldReal_map _ (mul_zero c) (fun v => mul_left_comm c 2 v) raw n

section Star
variable [StarRing K]

theorem arma2psd_length (tw : List K) (A B : Option (List K)) (rho T : K) (n : ℕ) :
    (arma2psd tw A B rho T n).length = n := vec_length _ _

theorem nth_arma2psd (tw : List K) (A B : Option (List K)) (rho T : K) (n : ℕ) {k : ℕ}
    (hk : k < n) :
    nth (arma2psd tw A B rho T n) k = rho / T * armaFactor tw B n k / armaFactor tw A n k := by
  unfold arma2psd
  rw [nth_vec_lt _ hk]
  cases A <;> cases B <;> rfl

theorem armaFactor_some {ω : K} {n : ℕ} (hω : ω ^ n = 1) (c : List K) (hc : c.length < n) (k : ℕ) :
    armaFactor (twiddles ω n) (some c) n k = polyAt ω c k * star (polyAt ω c k) := by
  show abs2 (dftBin (twiddles ω n) n (polySeq c n) k) = _
  rw [dftBin_polySeq hω c hc, abs2_eq]

theorem armaFactor_none (tw : List K) (n k : ℕ) : armaFactor tw none n k = 1 := rfl


@[simp] theorem minvarPsi_length (a : List K) (P : K) (n : ℕ) : (minvarPsi a P n).length = n :=
  vec_length _ _

theorem nth_minvarPsi (a : List K) (P : K) {n j : ℕ} (hj : j < n) :
    nth (minvarPsi a P n) j
      = if j < a.length then minvarLag a P j
        else if 0 < n - j ∧ n - j < a.length then star (minvarLag a P (n - j))
        else 0 := by
  unfold minvarPsi minvarLag
  simp only [nth_vec_lt _ hj, sumR_eq_sum, conj_eq_star]

theorem nth_minvarPsi_low (a : List K) (P : K) {n j : ℕ} (hj : j < a.length) (hjn : j < n) :
    nth (minvarPsi a P n) j = minvarLag a P j := by
  rw [nth_minvarPsi a P hjn, if_pos hj]

theorem nth_minvarPsi_high (a : List K) (P : K) {n j : ℕ} (h0 : 0 < j) (hj : j < a.length)
    (hno : a.length ≤ n - j) : nth (minvarPsi a P n) (n - j) = star (minvarLag a P j) := by
  have hjn : j < n := by omega
  rw [nth_minvarPsi a P (Nat.sub_lt (Nat.zero_lt_of_lt hjn) h0), if_neg (Nat.not_lt.mpr hno),
    Nat.sub_sub_self hjn.le, if_pos ⟨h0, hj⟩]

theorem nth_minvarPsi_mid (a : List K) (P : K) {n j : ℕ} (h1 : a.length ≤ j)
    (h2 : a.length ≤ n - j) : nth (minvarPsi a P n) j = 0 := by
  by_cases hj : j < n
  · rw [nth_minvarPsi a P hj, if_neg (by omega), if_neg (by omega)]
  · exact nth_of_ge _ _ (by rw [minvarPsi_length]; omega)

theorem star_minvarLag_zero (a : List K) {P : K} (hP : star P = P) :
    star (minvarLag a P 0) = minvarLag a P 0 := by
  unfold minvarLag
  rw [star_div₀, hP, star_sum]
  refine congrArg (· / P) (Finset.sum_congr rfl ?_)
  intro i _
  rw [star_mul', star_mul', star_star, Nat.add_zero, apply_ite star, star_natCast, star_neg,
    star_natCast]
  exact mul_right_comm _ _ _

theorem minvarPsd_length (tw a : List K) (P fs : K) (n : ℕ) :
    (minvarPsd tw a P fs n).length = n := vec_length _ _

theorem nth_minvarPsd (tw a : List K) (P fs : K) (n : ℕ) {k : ℕ} (hk : k < n) :
    nth (minvarPsd tw a P fs n) k = fs / rePart (dftBin tw n (minvarPsi a P n) k) :=
  nth_vec_lt _ hk

end Star

end SpecVerif
