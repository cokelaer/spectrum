import SpecVerif.Model.Basic
import SpecVerif.Proofs.Lemmas.Except
import Mathlib.Algebra.BigOperators.Intervals
import Mathlib.Algebra.Field.Basic
import Mathlib.Algebra.Star.BigOperators
/-
  Bridging lemmas between the import-free executable model (`sumR`, `vec`, `nth`, `powN`, `Conj`) and
  Mathlib's algebra (`Finset.sum`, `^`, `star`).  Re-exports `Lemmas/Except`.
-/
namespace SpecVerif
open Finset

/-- in the theorems the model's conjugation is `star`.  At `CRat` this instance and the model's
`CRat.instConj` both exist; `Lemmas/CRatField` makes `star` that `conj`, and the `example … := rfl`
lines of C01/C06/C09 check it. -/
instance instConjStar {K : Type} [Star K] : Conj K := ⟨star⟩

@[simp] theorem conj_eq_star {K : Type} [Star K] (z : K) : conj z = star z := rfl

section
variable {K : Type}

@[simp] theorem sumR_eq_sum [AddCommMonoid K] (n : ℕ) (f : ℕ → K) :
    sumR n f = ∑ i ∈ range n, f i := by
  induction n with
  | zero => simp [sumR]
  | succ n ih => rw [sumR, ih, Finset.sum_range_succ]

theorem sumR_zero [Add K] [OfNat K 0] (f : ℕ → K) : sumR 0 f = 0 := rfl

theorem sumR_succ [Add K] [OfNat K 0] (n : ℕ) (f : ℕ → K) : sumR (n + 1) f = sumR n f + f n := rfl

theorem vec_zero (f : ℕ → K) : vec 0 f = [] := rfl

@[simp] theorem vec_length (n : ℕ) (f : ℕ → K) : (vec n f).length = n := by
  simp [vec]

theorem getD_vec {α : Type} (n : ℕ) (f : ℕ → α) (i : ℕ) (d : α) :
    (vec n f).getD i d = if i < n then f i else d := by
  unfold vec
  by_cases h : i < n
  · simp [h, List.getD_eq_getElem?_getD]
  · simp [h, List.getD_eq_getElem?_getD]

theorem getD_vec_lt {α : Type} {n : ℕ} (f : ℕ → α) {i : ℕ} (h : i < n) (d : α) :
    (vec n f).getD i d = f i := by
  rw [getD_vec, if_pos h]

@[simp] theorem nth_vec [Zero K] (n : ℕ) (f : ℕ → K) (i : ℕ) :
    nth (vec n f) i = if i < n then f i else 0 := getD_vec n f i 0

theorem nth_vec_lt [Zero K] {n i : ℕ} (f : ℕ → K) (h : i < n) : nth (vec n f) i = f i :=
  getD_vec_lt f h 0

theorem nth_of_lt [Zero K] (l : List K) (i : ℕ) (h : i < l.length) : nth l i = l[i] := by
  unfold nth; simp [List.getD_eq_getElem?_getD, h]

theorem nth_of_ge [Zero K] (l : List K) (i : ℕ) (h : l.length ≤ i) : nth l i = 0 := by
  unfold nth; simp [List.getD_eq_getElem?_getD, h]

theorem vec_ext {n : ℕ} {f g : ℕ → K} (h : ∀ i, i < n → f i = g i) : vec n f = vec n g := by
  unfold vec
  apply List.map_congr_left
  intro i hi
  exact h i (List.mem_range.mp hi)

theorem eq_vec_getD {α : Type} (l : List α) (d : α) : l = vec l.length (fun k => l.getD k d) := by
  apply List.ext_getElem
  · rw [vec_length]
  · intro i h1 h2
    simp only [vec, List.getElem_map, List.getElem_range, List.getD_eq_getElem?_getD,
      List.getElem?_eq_getElem h1, Option.getD_some]

theorem eq_vec_nth [Zero K] (l : List K) : l = vec l.length (nth l) := eq_vec_getD l 0

@[simp] theorem powN_eq_pow [Monoid K] (x : K) (n : ℕ) : powN x n = x ^ n := by
  induction n with
  | zero => simp [powN]
  | succ n ih => rw [powN, ih, pow_succ]

@[simp] theorem abs2_eq [Mul K] [Star K] (z : K) : abs2 z = z * star z := rfl

theorem abs2_star [CommMagma K] [StarMul K] (z : K) : abs2 (star z) = abs2 z := by
  rw [abs2_eq, abs2_eq, star_star, mul_comm]

theorem getD_mem {α : Type} {l : List α} {n : ℕ} (h : n < l.length) (d : α) : l.getD n d ∈ l := by
  rw [List.getD_eq_getElem?_getD, List.getElem?_eq_getElem h, Option.getD_some]
  exact List.getElem_mem h

theorem mem_vec {α : Type} {n : ℕ} {f : ℕ → α} {a : α} : a ∈ vec n f ↔ ∃ i, i < n ∧ f i = a := by
  unfold vec
  rw [List.mem_map]
  constructor
  · rintro ⟨i, hi, rfl⟩
    exact ⟨i, List.mem_range.mp hi, rfl⟩
  · rintro ⟨i, hi, rfl⟩
    exact ⟨i, List.mem_range.mpr hi, rfl⟩

theorem map_vec {α β : Type} (g : α → β) (n : ℕ) (f : ℕ → α) :
    (vec n f).map g = vec n (fun i => g (f i)) := by
  unfold vec
  rw [List.map_map]
  rfl

theorem vec_eq_map {α β : Type} {n : ℕ} {F' : ℕ → β} {F : ℕ → α} (g : α → β)
    (h : ∀ k, k < n → F' k = g (F k)) : vec n F' = (vec n F).map g := by
  rw [map_vec]
  exact vec_ext h

theorem vec_succ {α : Type} (n : ℕ) (f : ℕ → α) : vec (n + 1) f = vec n f ++ [f n] := by
  unfold vec
  rw [List.range_succ, List.map_append, List.map_singleton]

theorem vec_take {α : Type} (f : ℕ → α) {q p : ℕ} (h : q ≤ p) : (vec p f).take q = vec q f := by
  unfold vec
  rw [← List.map_take, List.take_range, Nat.min_eq_left h]

theorem vec_sum [AddCommMonoid K] (n : ℕ) (f : ℕ → K) : (vec n f).sum = ∑ i ∈ range n, f i := by
  induction n with
  | zero => rfl
  | succ n ih => rw [vec_succ, List.sum_append, ih, List.sum_singleton, Finset.sum_range_succ]

theorem forall_mem_of_forall_nth [Zero K] {P : K → Prop} (l : List K) (n : ℕ) (hn : l.length = n)
    (h : ∀ i, i < n → P (nth l i)) : ∀ k ∈ l, P k := by
  intro k hk
  obtain ⟨i, hi, rfl⟩ := List.getElem_of_mem hk
  rw [← nth_of_lt l i hi]
  exact h i (hn ▸ hi)

theorem list_ext_nth [Zero K] {a b : List K} (hl : a.length = b.length)
    (h : ∀ i, i < a.length → nth a i = nth b i) : a = b := by
  rw [eq_vec_nth a, eq_vec_nth b, ← hl]
  exact vec_ext h

theorem list_eq_of_nth_eq [Zero K] {p : ℕ} {a a' : List K} (hl : a.length = p)
    (hl' : a'.length = p) (h : ∀ j, j < p → nth a' j = nth a j) : a' = a :=
  list_ext_nth (hl'.trans hl.symm) (fun j hj => h j (hl' ▸ hj))

theorem nth_cons_zero [Zero K] (x : K) (l : List K) : nth (x :: l) 0 = x := rfl

theorem nth_cons_succ [Zero K] (x : K) (l : List K) (i : ℕ) : nth (x :: l) (i + 1) = nth l i := rfl

theorem nth_tail [Zero K] (l : List K) (i : ℕ) : nth l.tail i = nth l (i + 1) := by
  cases l with
  | nil => rfl
  | cons x l => rfl

theorem nth_append_left [Zero K] (l l' : List K) (j : ℕ) (h : j < l.length) :
    nth (l ++ l') j = nth l j := by
  unfold nth
  rw [List.getD_eq_getElem?_getD, List.getD_eq_getElem?_getD, List.getElem?_append_left h]

theorem nth_append_right [Zero K] (l l' : List K) (j : ℕ) (h : l.length ≤ j) :
    nth (l ++ l') j = nth l' (j - l.length) := by
  unfold nth
  rw [List.getD_eq_getElem?_getD, List.getD_eq_getElem?_getD, List.getElem?_append_right h]

theorem nth_append_length [Zero K] (l : List K) (x : K) : nth (l ++ [x]) l.length = x := by
  rw [nth_append_right l [x] l.length (Nat.le_refl _), Nat.sub_self, nth_cons_zero]

theorem nth_map {L : Type} [Zero K] [Zero L] (f : K → L) (hf : f 0 = 0) (l : List K) (k : ℕ) :
    nth (l.map f) k = f (nth l k) := by
  unfold nth
  rw [List.getD_eq_getElem?_getD, List.getD_eq_getElem?_getD, List.getElem?_map]
  cases l[k]? with
  | none => exact hf.symm
  | some v => rfl

theorem nth_map_star [AddMonoid K] [StarAddMonoid K] (x : List K) (i : ℕ) :
    nth (x.map star) i = star (nth x i) :=
  nth_map star (star_zero K) x i

theorem nth_map_mul_right [MulZeroClass K] (c : K) (l : List K) (k : ℕ) :
    nth (l.map (fun v => v * c)) k = nth l k * c :=
  nth_map (fun v => v * c) (zero_mul c) l k

theorem nth_map_mul_left [MulZeroClass K] (c : K) (l : List K) (k : ℕ) :
    nth (l.map (fun v => c * v)) k = c * nth l k :=
  nth_map (fun v => c * v) (mul_zero c) l k

theorem nth_map_div [DivisionRing K] (c : K) (l : List K) (k : ℕ) :
    nth (l.map (fun v => v / c)) k = nth l k / c :=
  nth_map (fun v => v / c) (zero_div c) l k

end

/-- a sum over `range b` whose terms vanish from `a` on is the sum over `range a` -/
theorem sum_range_zero_tail {M : Type} [AddCommMonoid M] (f : ℕ → M) {a b : ℕ} (hab : a ≤ b)
    (hf : ∀ i, a ≤ i → i < b → f i = 0) : ∑ i ∈ range b, f i = ∑ i ∈ range a, f i := by
  symm
  apply Finset.sum_subset (Finset.range_mono hab)
  intro i hib hi
  exact hf i (by simpa using hi) (mem_range.mp hib)

/-- a monic polynomial against its reversed form:
`w^p + Σ a_j w^{p-1-j} = w^p (1 + Σ a_j w^{-(j+1)})` for `w ≠ 0` -/
theorem pow_add_sum_eq_pow_mul_inv_form {K : Type} [Field K] (p : ℕ) (a : ℕ → K) {w : K}
    (hw : w ≠ 0) :
    w ^ p + ∑ j ∈ range p, a j * w ^ (p - 1 - j)
      = w ^ p * (1 + ∑ j ∈ range p, a j * w⁻¹ ^ (j + 1)) := by
  rw [mul_add, mul_one, Finset.mul_sum]
  refine congrArg (w ^ p + ·) (Finset.sum_congr rfl ?_)
  intro j hj
  rw [Nat.sub_sub, Nat.add_comm 1 j, pow_sub₀ w hw (Nat.succ_le_of_lt (mem_range.mp hj)), ← inv_pow,
    mul_left_comm]

end SpecVerif
