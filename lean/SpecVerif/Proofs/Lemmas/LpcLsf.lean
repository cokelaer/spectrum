import SpecVerif.Proofs.Lemmas.Basic
import SpecVerif.Model.Lpc
import Mathlib.Algebra.Polynomial.Div
import Mathlib.Algebra.Polynomial.Eval.Degree
import Mathlib.Algebra.BigOperators.Ring.Finset
import Mathlib.Algebra.BigOperators.Group.List.Basic
import Mathlib.Tactic.Ring
import Mathlib.Tactic.FieldSimp
/-
  The algebra of `poly2lsf` / `lsf2poly` (linear_prediction.py).  Coefficient lists, highest power first,
  are identified with Mathlib polynomials (`toPoly`, injective at fixed length), so identities about
  `polyMul` (`numpy.convolve`) and `polyFromRoots` (`numpy.poly`) are ring identities in `K[X]` and
  synthetic division is `dvd_iff_isRoot`; for `lsfSplit`: (anti)symmetry, the fixed roots `±1`,
  `(P1 + Q1)/2 = a ++ [0]`.
-/
namespace SpecVerif.LpcL
open Finset SpecVerif

section Sums
variable {M : Type} [AddCommMonoid M]

theorem sum_triangle (N : ℕ) (g : ℕ → ℕ → M) :
    ∑ n ∈ range N, ∑ i ∈ range (n + 1), g i (n - i) = ∑ i ∈ range N, ∑ j ∈ range (N - i), g i j := by
  have h := Finset.sum_comm' (s := range N) (t := fun n => range (n + 1)) (t' := range N)
    (s' := fun i => Ico i N) (f := fun n i => g i (n - i))
    (by intro n i; simp only [Finset.mem_Ico, Finset.mem_range]; omega)
  rw [h]
  apply Finset.sum_congr rfl
  intro i _
  rw [Finset.sum_Ico_eq_sum_range]
  apply Finset.sum_congr rfl
  intro j _
  rw [Nat.add_sub_cancel_left]

end Sums

/-- the index `l - 1 - n` of the coefficient of `X ^ n` in a list of length `l`, highest power first -/
theorem revIdx_lt {l n : ℕ} (hn : n < l) : l - 1 - n < l :=
  (Nat.sub_le _ _).trans_lt (Nat.sub_one_lt (Nat.ne_of_gt (Nat.zero_lt_of_lt hn)))

theorem revIdx_revIdx {l n : ℕ} (hn : n < l) : l - 1 - (l - 1 - n) = n :=
  Nat.sub_sub_self (Nat.le_sub_one_of_lt hn)

section Poly
variable {K : Type} [Field K]

/-- evaluation of a coefficient list, highest power first (`numpy.polyval`):
`p_0 z^{n-1} + p_1 z^{n-2} + … + p_{n-1}` -/
def polyEval (p : List K) (z : K) : K := ∑ i ∈ range p.length, nth p i * z ^ (p.length - 1 - i)

theorem polyMul_eq (p q : List K) (hp : p ≠ []) (hq : q ≠ []) :
    polyMul p q = vec (p.length + q.length - 1)
      (fun n => ∑ i ∈ range (n + 1), nth p i * nth q (n - i)) := by
  have hlp : p.length ≠ 0 := fun h => hp (List.length_eq_zero_iff.mp h)
  have hlq : q.length ≠ 0 := fun h => hq (List.length_eq_zero_iff.mp h)
  unfold polyMul
  rw [if_neg (by simp [hlp, hlq])]
  apply vec_ext
  intro n _
  rw [sumR_eq_sum]

theorem polyMul_length (p q : List K) (hp : p ≠ []) (hq : q ≠ []) :
    (polyMul p q).length = p.length + q.length - 1 := by
  rw [polyMul_eq p q hp hq, vec_length]

theorem polyMul_ne_nil (p q : List K) (hp : p ≠ []) (hq : q ≠ []) : polyMul p q ≠ [] := by
  have hlp : 0 < p.length := List.length_pos_iff.mpr hp
  have hlq : 0 < q.length := List.length_pos_iff.mpr hq
  intro h
  have := polyMul_length p q hp hq
  rw [h] at this
  simp at this
  omega

theorem nth_polyMul (p q : List K) (hp : p ≠ []) (hq : q ≠ []) (n : ℕ)
    (hn : n < p.length + q.length - 1) :
    nth (polyMul p q) n = ∑ i ∈ range (n + 1), nth p i * nth q (n - i) := by
  rw [polyMul_eq p q hp hq, nth_vec, if_pos hn]

open Polynomial in
/-- highest power first: `nth p 0` is the leading coefficient -/
noncomputable def toPoly (p : List K) : Polynomial K :=
  ∑ i ∈ range p.length, C (nth p i) * X ^ (p.length - 1 - i)

open Polynomial in
theorem eval_toPoly (p : List K) (z : K) : (toPoly p).eval z = polyEval p z := by
  simp only [toPoly, polyEval, eval_finsetSum, eval_mul, eval_C, eval_pow, eval_X]

open Polynomial in
theorem coeff_toPoly (p : List K) (n : ℕ) (hn : n < p.length) :
    (toPoly p).coeff n = nth p (p.length - 1 - n) := by
  simp only [toPoly, finsetSum_coeff, coeff_C_mul, coeff_X_pow]
  rw [Finset.sum_eq_single (p.length - 1 - n)]
  · rw [if_pos (revIdx_revIdx hn).symm, mul_one]
  · intro i hi hne
    rw [if_neg (fun h => hne (by rw [h, revIdx_revIdx (mem_range.mp hi)])), mul_zero]
  · intro h
    exact absurd (mem_range.mpr (revIdx_lt hn)) h

theorem toPoly_inj {p q : List K} (hl : p.length = q.length) (h : toPoly p = toPoly q) : p = q := by
  apply list_ext_nth hl
  intro i hi
  have h1 := coeff_toPoly p (p.length - 1 - i) (revIdx_lt hi)
  have h2 := coeff_toPoly q (p.length - 1 - i) (hl ▸ revIdx_lt hi)
  rw [h] at h1
  rw [← hl] at h2
  rw [revIdx_revIdx hi] at h1 h2
  rw [← h1, ← h2]

open Polynomial in
theorem coeff_toPoly_ge (p : List K) (n : ℕ) (hn : p.length ≤ n) : (toPoly p).coeff n = 0 := by
  simp only [toPoly, finsetSum_coeff, coeff_C_mul, coeff_X_pow]
  apply Finset.sum_eq_zero
  intro i hi
  rw [if_neg (by have := mem_range.mp hi; omega), mul_zero]

noncomputable def ofPoly (n : ℕ) (f : Polynomial K) : List K := vec n (fun i => f.coeff (n - 1 - i))

theorem toPoly_ofPoly (n : ℕ) (f : Polynomial K) (hf : ∀ m, n ≤ m → f.coeff m = 0) :
    toPoly (ofPoly n f) = f := by
  have hl : (ofPoly n f).length = n := vec_length _ _
  ext m
  by_cases hm : m < n
  · rw [coeff_toPoly _ m (by rw [hl]; exact hm), hl, ofPoly, nth_vec_lt _ (revIdx_lt hm),
      revIdx_revIdx hm]
  · rw [coeff_toPoly_ge _ m (by rw [hl]; exact Nat.le_of_not_lt hm), hf m (Nat.le_of_not_lt hm)]

/-- the exponent of `X` in the term `p_i q_j` of a product, highest power first -/
theorem pow_index_split {m n i j : ℕ} (hi : i < m) (hj : j < n) :
    m + n - 1 - 1 - (i + j) = (m - 1 - i) + (n - 1 - j) := by
  rw [Nat.sub_sub, Nat.sub_sub, Nat.sub_sub m 1 i, Nat.sub_sub n 1 j,
    tsub_add_tsub_comm (by rw [Nat.add_comm]; exact hi) (by rw [Nat.add_comm]; exact hj)]
  exact congrArg (m + n - ·) (by ring)

open Polynomial in
theorem toPoly_polyMul (p q : List K) (hp : p ≠ []) (hq : q ≠ []) :
    toPoly (polyMul p q) = toPoly p * toPoly q := by
  have hlp : 0 < p.length := List.length_pos_iff.mpr hp
  have hlq : 0 < q.length := List.length_pos_iff.mpr hq
  unfold toPoly
  rw [polyMul_length p q hp hq]
  set N := p.length + q.length - 1 with hN
  let g : ℕ → ℕ → Polynomial K := fun i j => C (nth p i) * C (nth q j) * X ^ (N - 1 - (i + j))
  have h1 : ∀ n ∈ range N, C (nth (polyMul p q) n) * X ^ (N - 1 - n)
      = ∑ i ∈ range (n + 1), g i (n - i) := by
    intro n hn
    rw [nth_polyMul p q hp hq n (mem_range.mp hn), map_sum, Finset.sum_mul]
    apply Finset.sum_congr rfl
    intro i hi
    have : i + (n - i) = n := Nat.add_sub_cancel' (Nat.lt_succ_iff.mp (mem_range.mp hi))
    show _ = C (nth p i) * C (nth q (n - i)) * X ^ (N - 1 - (i + (n - i)))
    rw [this, map_mul]
  rw [Finset.sum_congr rfl h1, sum_triangle N g,
    sum_range_zero_tail _ (Nat.le_sub_one_of_lt (Nat.lt_add_of_pos_right hlq) : p.length ≤ N),
    Finset.sum_mul_sum]
  · apply Finset.sum_congr rfl
    intro i hi
    have hi' := mem_range.mp hi
    rw [sum_range_zero_tail _
      (Nat.le_sub_of_add_le' (Nat.le_sub_one_of_lt (Nat.add_lt_add_right hi' _)) : q.length ≤ N - i)]
    · apply Finset.sum_congr rfl
      intro j hj
      have hj' := mem_range.mp hj
      have : N - 1 - (i + j) = (p.length - 1 - i) + (q.length - 1 - j) := pow_index_split hi' hj'
      show C (nth p i) * C (nth q j) * X ^ (N - 1 - (i + j)) = _
      rw [this, pow_add]
      ring
    · intro j hj _
      show C (nth p i) * C (nth q j) * X ^ (N - 1 - (i + j)) = 0
      rw [nth_of_ge q j hj, map_zero, mul_zero, zero_mul]
  · intro i hi _
    apply Finset.sum_eq_zero
    intro j _
    show C (nth p i) * C (nth q j) * X ^ (N - 1 - (i + j)) = 0
    rw [nth_of_ge p i hi, map_zero, zero_mul, zero_mul]

open Polynomial in
theorem toPoly_one : toPoly ([1] : List K) = 1 := by
  simp [toPoly, nth_cons_zero]

open Polynomial in
theorem toPoly_linear (c : K) : toPoly [1, c] = X + C c := by
  simp [toPoly, Finset.sum_range_succ, nth_cons_zero, nth_cons_succ]

open Polynomial in
theorem toPoly_quadratic (s t : K) : toPoly [1, s, t] = X ^ 2 + C s * X + C t := by
  simp [toPoly, Finset.sum_range_succ, nth_cons_zero, nth_cons_succ]

theorem polyMul_eval (p q : List K) (hp : p ≠ []) (hq : q ≠ []) (z : K) :
    polyEval (polyMul p q) z = polyEval p z * polyEval q z := by
  rw [← eval_toPoly, toPoly_polyMul p q hp hq, Polynomial.eval_mul, eval_toPoly, eval_toPoly]

theorem polyEval_one (z : K) : polyEval ([1] : List K) z = 1 := by
  rw [← eval_toPoly, toPoly_one, Polynomial.eval_one]

theorem polyEval_linear (c z : K) : polyEval [1, c] z = z + c := by
  rw [← eval_toPoly, toPoly_linear, Polynomial.eval_add, Polynomial.eval_X, Polynomial.eval_C]

theorem polyEval_quadratic (s t z : K) : polyEval [1, s, t] z = z ^ 2 + s * z + t := by
  rw [← eval_toPoly, toPoly_quadratic]
  simp only [Polynomial.eval_add, Polynomial.eval_mul, Polynomial.eval_pow, Polynomial.eval_X,
    Polynomial.eval_C]

theorem polyMul_one (p : List K) : polyMul p [1] = p := by
  by_cases hp : p = []
  · -- `numpy.convolve` would raise on an empty factor; the model returns the empty list
    subst hp
    unfold polyMul
    rw [if_pos (Or.inl List.length_nil)]
  · apply toPoly_inj
    · rw [polyMul_length p _ hp (List.cons_ne_nil _ _), List.length_singleton, Nat.add_sub_cancel]
    · rw [toPoly_polyMul p _ hp (List.cons_ne_nil _ _), toPoly_one, mul_one]

open Polynomial in
theorem toPoly_polyFromRoots (rs : List K) :
    (polyFromRoots rs).length = rs.length + 1
    ∧ toPoly (polyFromRoots rs) = (rs.map (fun r => X - C r)).prod := by
  unfold polyFromRoots
  suffices h : ∀ acc : List K, acc ≠ [] →
      (rs.foldl (fun acc r => polyMul acc [1, -r]) acc).length = acc.length + rs.length
      ∧ toPoly (rs.foldl (fun acc r => polyMul acc [1, -r]) acc)
          = toPoly acc * (rs.map (fun r => X - C r)).prod by
    obtain ⟨h1, h2⟩ := h [1] (List.cons_ne_nil _ _)
    rw [h1, h2, toPoly_one, one_mul, List.length_singleton, Nat.add_comm]
    exact ⟨rfl, rfl⟩
  induction rs with
  | nil =>
    intro acc _
    exact ⟨rfl, (mul_one _).symm⟩
  | cons r rs ih =>
    intro acc hacc
    have hne : ([1, -r] : List K) ≠ [] := List.cons_ne_nil _ _
    obtain ⟨h1, h2⟩ := ih (polyMul acc [1, -r]) (polyMul_ne_nil acc _ hacc hne)
    have hl : (polyMul acc [1, -r]).length = acc.length + 1 := polyMul_length acc _ hacc hne
    rw [List.foldl_cons, h1, h2, hl, toPoly_polyMul acc _ hacc hne, toPoly_linear, map_neg,
      List.map_cons, List.prod_cons, List.length_cons, ← sub_eq_add_neg, mul_assoc]
    exact ⟨Nat.add_right_comm _ 1 _, rfl⟩

theorem polyFromRoots_length (rs : List K) : (polyFromRoots rs).length = rs.length + 1 :=
  (toPoly_polyFromRoots rs).1

theorem polyFromRoots_ne_nil (rs : List K) : polyFromRoots rs ≠ [] := by
  intro h
  have := polyFromRoots_length rs
  rw [h] at this
  exact absurd this (Nat.succ_ne_zero _).symm

theorem polyFromRoots_eval (rs : List K) (z : K) :
    polyEval (polyFromRoots rs) z = (rs.map (fun r => z - r)).prod := by
  rw [← eval_toPoly, (toPoly_polyFromRoots rs).2, Polynomial.eval_list_prod, List.map_map]
  congr 1
  apply List.map_congr_left
  intro r _
  show Polynomial.eval z (Polynomial.X - Polynomial.C r) = z - r
  rw [Polynomial.eval_sub, Polynomial.eval_X, Polynomial.eval_C]

/-- `numpy.poly` does not depend on the order of the roots -/
theorem polyFromRoots_perm (rs rs' : List K) (h : rs.Perm rs') :
    polyFromRoots rs = polyFromRoots rs' := by
  apply toPoly_inj
  · rw [polyFromRoots_length, polyFromRoots_length, h.length_eq]
  · rw [(toPoly_polyFromRoots rs).2, (toPoly_polyFromRoots rs').2, (h.map _).prod_eq]

end Poly

section Lsf
variable {K : Type} [Field K]

theorem neg_one_pow_sub {N i : ℕ} (hi : i ≤ N) : (-1 : K) ^ (N - i) = (-1) ^ N * (-1) ^ i := by
  have h : (-1 : K) ^ i * (-1) ^ i = 1 := by rw [← mul_pow, neg_one_mul, neg_neg, one_pow]
  calc (-1 : K) ^ (N - i) = (-1) ^ (N - i) * ((-1) ^ i * (-1) ^ i) := by rw [h, mul_one]
    _ = (-1) ^ (N - i + i) * (-1) ^ i := by rw [pow_add, mul_assoc]
    _ = (-1) ^ N * (-1) ^ i := by rw [Nat.sub_add_cancel hi]

theorem lsfSplit_fst (a : List K) :
    (lsfSplit a).1 = vec (a.length + 1)
      (fun i => nth (a ++ [0]) i - nth (a ++ [0]) (a.length - i)) := by
  unfold lsfSplit
  simp only [List.length_append, List.length_singleton, Nat.add_sub_cancel]

theorem lsfSplit_snd (a : List K) :
    (lsfSplit a).2 = vec (a.length + 1)
      (fun i => nth (a ++ [0]) i + nth (a ++ [0]) (a.length - i)) := by
  unfold lsfSplit
  simp only [List.length_append, List.length_singleton, Nat.add_sub_cancel]

theorem lsfSplit_length (a : List K) :
    (lsfSplit a).1.length = a.length + 1 ∧ (lsfSplit a).2.length = a.length + 1 := by
  rw [lsfSplit_fst, lsfSplit_snd, vec_length, vec_length]
  exact ⟨rfl, rfl⟩

theorem lsfSplit_half_sum (h2 : (2 : K) ≠ 0) (a : List K) (i : ℕ) :
    (nth (lsfSplit a).1 i + nth (lsfSplit a).2 i) / 2 = nth (a ++ [0]) i := by
  rw [lsfSplit_fst, lsfSplit_snd, nth_vec, nth_vec]
  by_cases hi : i < a.length + 1
  · rw [if_pos hi, if_pos hi, sub_add_add_cancel, ← two_mul, mul_div_cancel_left₀ _ h2]
  · rw [if_neg hi, if_neg hi, add_zero, zero_div,
      nth_of_ge _ i (by rw [List.length_append, List.length_singleton]; exact Nat.le_of_not_lt hi)]

theorem lsfSplit_symm (a : List K) (i : ℕ) (hi : i ≤ a.length) :
    nth (lsfSplit a).1 (a.length - i) = -nth (lsfSplit a).1 i
    ∧ nth (lsfSplit a).2 (a.length - i) = nth (lsfSplit a).2 i := by
  have hn : a.length - i < a.length + 1 := Nat.lt_succ_of_le (Nat.sub_le _ _)
  have hi' : i < a.length + 1 := Nat.lt_succ_of_le hi
  rw [lsfSplit_fst, lsfSplit_snd, nth_vec_lt _ hn, nth_vec_lt _ hn, nth_vec_lt _ hi', nth_vec_lt _ hi',
    Nat.sub_sub_self hi]
  exact ⟨(neg_sub _ _).symm, add_comm _ _⟩

/-- `P1(z) = z·a(z) − ã(z)`, `Q1(z) = z·a(z) + ã(z)` with `ã(z) = Σ a_i z^i` the reversed polynomial -/
theorem polyEval_lsfSplit (a : List K) (z : K) :
    polyEval (lsfSplit a).1 z = z * polyEval a z - ∑ i ∈ range a.length, nth a i * z ^ i
    ∧ polyEval (lsfSplit a).2 z = z * polyEval a z + ∑ i ∈ range a.length, nth a i * z ^ i := by
  -- with `f = a ++ [0]`, `n = len a` the halves are `Σ f_i z^{n-i} ∓ Σ f_{n-i} z^{n-i}`
  have hA : ∑ i ∈ range (a.length + 1), nth (a ++ [0]) i * z ^ (a.length - i)
      = z * polyEval a z := by
    rw [Finset.sum_range_succ, nth_append_length, zero_mul, add_zero, polyEval, Finset.mul_sum]
    apply Finset.sum_congr rfl
    intro i hi
    have hi' := mem_range.mp hi
    rw [nth_append_left a [0] i hi', show a.length - i = (a.length - 1 - i) + 1 by
      rw [Nat.sub_right_comm, Nat.sub_add_cancel (Nat.sub_pos_of_lt hi')], pow_succ]
    ring
  have hrefl : ∑ i ∈ range (a.length + 1), nth (a ++ [0]) (a.length - i) * z ^ (a.length - i)
      = ∑ i ∈ range a.length, nth a i * z ^ i := by
    refine (Finset.sum_range_reflect (fun j => nth (a ++ [0]) j * z ^ j) (a.length + 1)).trans ?_
    rw [Finset.sum_range_succ, nth_append_length, zero_mul, add_zero]
    exact Finset.sum_congr rfl (fun i hi => by rw [nth_append_left a [0] i (mem_range.mp hi)])
  rw [← hA, ← hrefl]
  unfold polyEval
  rw [(lsfSplit_length a).1, (lsfSplit_length a).2, lsfSplit_fst, lsfSplit_snd, Nat.add_sub_cancel,
    ← Finset.sum_sub_distrib, ← Finset.sum_add_distrib]
  constructor
  · apply Finset.sum_congr rfl
    intro i hi
    rw [nth_vec_lt _ (mem_range.mp hi), sub_mul]
  · apply Finset.sum_congr rfl
    intro i hi
    rw [nth_vec_lt _ (mem_range.mp hi), add_mul]

theorem lsfSplit_fst_root_one (a : List K) : polyEval (lsfSplit a).1 1 = 0 := by
  rw [(polyEval_lsfSplit a _).1, polyEval]
  simp only [one_pow, one_mul, mul_one]
  exact sub_self _

/-- `z·a(z)` at `z = -1` against the reversed polynomial: `(-1)·(-1)^{n-1-i} = (-1)^n·(-1)^i` -/
theorem neg_one_mul_polyEval (a : List K) :
    -1 * polyEval a (-1) = (-1) ^ a.length * ∑ i ∈ range a.length, nth a i * (-1 : K) ^ i := by
  rw [polyEval, Finset.mul_sum, Finset.mul_sum]
  apply Finset.sum_congr rfl
  intro i hi
  have hi' := mem_range.mp hi
  rw [Nat.sub_sub, Nat.add_comm 1 i, neg_one_pow_sub (Nat.succ_le_of_lt hi'), pow_succ]
  ring

/-- the difference polynomial has the root `z = -1` when the order `p = len a - 1` is odd -/
theorem lsfSplit_fst_root_neg_one (a : List K) (ha : a.length % 2 = 0) :
    polyEval (lsfSplit a).1 (-1) = 0 := by
  rw [(polyEval_lsfSplit a _).1, neg_one_mul_polyEval, (Nat.even_iff.mpr ha).neg_one_pow, one_mul]
  exact sub_self _

/-- the sum polynomial has the root `z = -1` when the order `p = len a - 1` is even -/
theorem lsfSplit_snd_root_neg_one (a : List K) (ha : a.length % 2 = 1) :
    polyEval (lsfSplit a).2 (-1) = 0 := by
  rw [(polyEval_lsfSplit a _).2, neg_one_mul_polyEval, (Nat.odd_iff.mpr ha).neg_one_pow, neg_one_mul]
  exact neg_add_cancel _

theorem lsfSplit_lead (a : List K) (ha : a ≠ []) :
    nth (lsfSplit a).1 0 = nth a 0 ∧ nth (lsfSplit a).2 0 = nth a 0 := by
  have hpos : 0 < a.length := List.length_pos_iff.mpr ha
  rw [lsfSplit_fst, lsfSplit_snd, nth_vec_lt _ (by omega), nth_vec_lt _ (by omega), Nat.sub_zero,
    nth_append_left a [0] 0 hpos, nth_append_length]
  exact ⟨sub_zero _, add_zero _⟩

/-- the last two lines of `lsf2poly`: `take (n-1) ((P1 + Q1)/2)` -/
theorem recombine_lsfSplit (h2 : (2 : K) ≠ 0) (a : List K) :
    (vec (max (lsfSplit a).1.length (lsfSplit a).2.length)
        (fun i => (nth (lsfSplit a).1 i + nth (lsfSplit a).2 i) / ((2 : ℕ) : K))).take
      ((vec (max (lsfSplit a).1.length (lsfSplit a).2.length)
        (fun i => (nth (lsfSplit a).1 i + nth (lsfSplit a).2 i) / ((2 : ℕ) : K))).length - 1) = a := by
  rw [vec_length, (lsfSplit_length a).1, (lsfSplit_length a).2, Nat.max_self, Nat.add_sub_cancel]
  have hv : vec (a.length + 1)
      (fun i => (nth (lsfSplit a).1 i + nth (lsfSplit a).2 i) / ((2 : ℕ) : K)) = a ++ [0] := by
    conv_rhs => rw [eq_vec_nth (a ++ [0])]
    have : (a ++ [(0 : K)]).length = a.length + 1 := by simp
    rw [this]
    apply vec_ext
    intro i _
    rw [Nat.cast_ofNat]
    exact lsfSplit_half_sum h2 a i
  rw [hv, List.take_left']
  rfl

end Lsf

/-! ### synthetic division: a root can be divided out (`deconvolve` leaves zero remainder) -/

section Deflate
variable {K : Type} [Field K]

theorem polyMul_linear_pair (P : List K) (hP : P ≠ []) :
    polyMul (polyMul P [1, 1]) [1, -1] = polyMul P [1, 0, -1] := by
  have h1 : ([1, 1] : List K) ≠ [] := List.cons_ne_nil _ _
  have h2 : ([1, -1] : List K) ≠ [] := List.cons_ne_nil _ _
  have h3 : ([1, 0, -1] : List K) ≠ [] := List.cons_ne_nil _ _
  have hne : polyMul P ([1, 1] : List K) ≠ [] := polyMul_ne_nil P _ hP h1
  apply toPoly_inj
  · rw [polyMul_length _ _ hne h2, polyMul_length P _ hP h1, polyMul_length P _ hP h3]
    rfl
  · rw [toPoly_polyMul _ _ hne h2, toPoly_polyMul P _ hP h1, toPoly_polyMul P _ hP h3,
      toPoly_linear, toPoly_linear, toPoly_quadratic, map_neg, map_one, map_zero]
    ring

open Polynomial in
/-- `deconvolve` by a root leaves zero remainder, and the quotient keeps the leading coefficient.  The
quotient is that of `toPoly c` by `X - r`, read back as a list. -/
theorem exists_polyMul_linear (c : List K) (hc : 2 ≤ c.length) (r : K) (hr : polyEval c r = 0) :
    ∃ P : List K, P.length = c.length - 1 ∧ polyMul P [1, -r] = c ∧ nth P 0 = nth c 0 := by
  obtain ⟨q, hq⟩ : (X - C r) ∣ toPoly c := dvd_iff_isRoot.mpr ((eval_toPoly c r).trans hr)
  obtain ⟨n, hn⟩ : ∃ n, c.length = n + 2 := Nat.exists_eq_add_of_le' hc
  have e1 : c.length - 1 = n + 1 := by rw [hn]; rfl
  -- the degree of `q` is below `len c - 1`
  have hq0 : ∀ m, n + 1 ≤ m → q.coeff m = 0 := by
    intro m hm
    by_cases hq' : q = 0
    · rw [hq', coeff_zero]
    · apply coeff_eq_zero_of_natDegree_lt
      have hdeg : (toPoly c).natDegree ≤ n + 1 :=
        natDegree_le_iff_coeff_eq_zero.mpr (fun N hN => coeff_toPoly_ge c N (by rw [hn]; exact hN))
      rw [hq, natDegree_mul (X_sub_C_ne_zero r) hq', natDegree_X_sub_C, Nat.add_comm] at hdeg
      exact Nat.lt_of_lt_of_le hdeg hm
  rw [e1]
  have hl : (ofPoly (n + 1) q).length = n + 1 := vec_length _ _
  have hne : ofPoly (n + 1) q ≠ [] := List.ne_nil_of_length_pos (by rw [hl]; exact Nat.succ_pos n)
  refine ⟨ofPoly (n + 1) q, hl, ?_, ?_⟩
  · apply toPoly_inj
    · rw [polyMul_length _ _ hne (List.cons_ne_nil _ _), hl, hn]
      rfl
    · rw [toPoly_polyMul _ _ hne (List.cons_ne_nil _ _), toPoly_ofPoly _ _ hq0, toPoly_linear, hq,
        map_neg, ← sub_eq_add_neg, mul_comm]
  · -- the top coefficient of `(X - r)·q` is that of `q`
    have h : (toPoly c).coeff (n + 1) = q.coeff n - r * q.coeff (n + 1) := by
      rw [hq, coeff_X_sub_C_mul]
    rw [coeff_toPoly c _ (by rw [hn]; exact Nat.lt_succ_self _), hq0 (n + 1) le_rfl, mul_zero,
      sub_zero, e1, Nat.sub_self] at h
    rw [ofPoly, nth_vec_lt _ (Nat.succ_pos n), h]
    rfl

theorem exists_polyMul_quadratic (h2 : (2 : K) ≠ 0) (c : List K) (hc : 3 ≤ c.length)
    (h1 : polyEval c 1 = 0) (hm1 : polyEval c (-1) = 0) :
    ∃ P : List K, polyMul P [1, 0, -1] = c ∧ nth P 0 = nth c 0 := by
  obtain ⟨P', hP'len, hP'mul, hP'0⟩ := exists_polyMul_linear c (Nat.le_of_succ_le hc) 1 h1
  have hP'2 : 2 ≤ P'.length := hP'len ▸ Nat.le_sub_one_of_lt hc
  have hP'ne : P' ≠ [] := List.ne_nil_of_length_pos (Nat.lt_of_lt_of_le two_pos hP'2)
  have hroot : polyEval P' (-1) = 0 := by
    rw [← hP'mul, polyMul_eval P' _ hP'ne (List.cons_ne_nil _ _), polyEval_linear] at hm1
    have hne : (-1 + -1 : K) ≠ 0 := by
      rw [← neg_add, one_add_one_eq_two]
      exact neg_ne_zero.mpr h2
    exact (mul_eq_zero.mp hm1).resolve_right hne
  obtain ⟨P, hPlen, hPmul, hP0⟩ := exists_polyMul_linear P' hP'2 (-1) hroot
  rw [neg_neg] at hPmul
  have hPne : P ≠ [] := List.ne_nil_of_length_pos (hPlen ▸ Nat.sub_pos_of_lt hP'2)
  exact ⟨P, by rw [← polyMul_linear_pair P hPne, hPmul, hP'mul], by rw [hP0, hP'0]⟩

end Deflate

end SpecVerif.LpcL
