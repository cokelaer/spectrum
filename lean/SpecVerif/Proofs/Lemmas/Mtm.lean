import SpecVerif.Proofs.Lemmas.Arma
import SpecVerif.Model.Mtm
import Mathlib.Algebra.Order.BigOperators.Ring.Finset
import Mathlib.Algebra.Order.Field.Basic
import Mathlib.Data.Real.Basic
import Mathlib.Logic.Function.Iterate
import Mathlib.Tactic.Ring
/-
  Lemmas about `Model/Mtm.lean`: entries of `eigenspectrum` and of the three weight schemes of `pmtm`; the adaptive
  loop as an iterate of `adaptStep` (`adaptLoop_iterate`, `adaptLoop_step_iterate`) with the invariant every pass
  establishes (`AdaptInv`); a pass is pointwise in frequency and homogeneous in the amplitude, so two runs related
  along a bin map stay related (`BinRel`: scaled data, rotated bins, nested grids); entries and sign of `mtMean`;
  bounds on Thomson's weight over `ℝ`; the table of squared eigenspectra.
-/
namespace SpecVerif.MtmL
open Finset SpecVerif SpecVerif.ArmaL

/-- the adapt layout of the weight table: `nfft` rows (one per frequency) of `nwin` weights -/
def WkShape {α : Type} (nfft nwin : ℕ) (wk : List (List α)) : Prop :=
  wk.length = nfft ∧ ∀ f, f < nfft → (wk.getD f []).length = nwin

theorem wkShape_vec {α : Type} (nfft nwin : ℕ) (g : ℕ → ℕ → α) :
    WkShape nfft nwin (vec nfft (fun f => vec nwin (g f))) := by
  refine ⟨vec_length _ _, ?_⟩
  intro f hf
  rw [getD_vec_lt _ hf, vec_length]

variable {K : Type} [Field K]

theorem eigenspectrum_length (tw x taper : List K) (nfft : ℕ) :
    (eigenspectrum tw x taper nfft).length = nfft :=
  vec_length _ _

theorem nth_eigenspectrum_raw (tw x taper : List K) (n : ℕ) {k : ℕ} (hk : k < n) :
    nth (eigenspectrum tw x taper n) k
      = dftBin tw n (vec x.length (fun j => nth taper j * nth x j)) k := by
  unfold eigenspectrum
  rw [nth_vec_lt _ hk]

theorem nth_eigenspectrum {ω : K} {nfft : ℕ} (hn : 0 < nfft) (hω : ω ^ nfft = 1) (x taper : List K)
    (hN : x.length ≤ nfft) {k : ℕ} (hk : k < nfft) :
    nth (eigenspectrum (twiddles ω nfft) x taper nfft) k
      = ∑ j ∈ range x.length, (nth taper j * nth x j) * ω ^ (j * k) := by
  rw [nth_eigenspectrum_raw _ x taper nfft hk, dftBin_eq hn hω, vec_length, min_eq_left hN]
  apply Finset.sum_congr rfl
  intro j hj
  rw [nth_vec_lt _ (mem_range.mp hj)]

theorem eigenspectrum_smul (tw x taper : List K) (nfft : ℕ) (c : K) :
    eigenspectrum tw (x.map (fun v => c * v)) taper nfft
      = (eigenspectrum tw x taper nfft).map (fun v => c * v) := by
  unfold eigenspectrum
  simp only [List.length_map]
  rw [map_vec]
  apply vec_ext
  intro k _
  rw [← dftBin_smul]
  congr 1
  apply vec_ext
  intro j _
  rw [nth_map_mul_left]
  ring

theorem adaptWeight_eq (lam sig2 s : K) :
    adaptWeight lam sig2 s
      = lam * (s / (lam * s + sig2 * (1 - lam))) ^ 2 := by
  unfold adaptWeight
  simp only
  rw [mul_comm s lam]
  ring

theorem adaptWeight_scale (lam sig2 s c : K) (hc : c ≠ 0) :
    adaptWeight lam (c * sig2) (c * s) = adaptWeight lam sig2 s := by
  unfold adaptWeight
  simp only
  have : c * s * lam + c * sig2 * (1 - lam) = c * (s * lam + sig2 * (1 - lam)) := by ring
  rw [this, mul_div_mul_left _ _ hc]

section Step
variable (Sk : List (List K)) (lams : List K) (sig2 : K) (nfft nwin : ℕ)

theorem adaptStep_i (st : AdaptState K) : (adaptStep Sk lams sig2 nfft nwin st).i = st.i + 1 := rfl

theorem adaptStep_S1 (st : AdaptState K) : (adaptStep Sk lams sig2 nfft nwin st).S1 = st.S := rfl

theorem adaptStep_wk (st : AdaptState K) :
    (adaptStep Sk lams sig2 nfft nwin st).wk
      = vec nfft (fun f => vec nwin (fun t => adaptWeight (nth lams t) sig2 (nth st.S f))) := rfl

theorem adaptStep_wk_row (st : AdaptState K) {f : ℕ} (hf : f < nfft) :
    (adaptStep Sk lams sig2 nfft nwin st).wk.getD f []
      = vec nwin (fun t => adaptWeight (nth lams t) sig2 (nth st.S f)) :=
  getD_vec_lt _ hf _

theorem adaptStep_wk_entry (st : AdaptState K) {f t : ℕ} (hf : f < nfft) (ht : t < nwin) :
    nth ((adaptStep Sk lams sig2 nfft nwin st).wk.getD f []) t
      = adaptWeight (nth lams t) sig2 (nth st.S f) := by
  rw [adaptStep_wk_row Sk lams sig2 nfft nwin st hf, nth_vec_lt _ ht]

theorem adaptStep_S_entry (st : AdaptState K) {f : ℕ} (hf : f < nfft) :
    nth (adaptStep Sk lams sig2 nfft nwin st).S f
      = (∑ t ∈ range nwin,
            nth ((adaptStep Sk lams sig2 nfft nwin st).wk.getD f []) t * nth (Sk.getD t []) f)
          / ∑ t ∈ range nwin, nth ((adaptStep Sk lams sig2 nfft nwin st).wk.getD f []) t := by
  simp only [adaptStep, sumR_eq_sum]
  exact nth_vec_lt _ hf

theorem iterate_adaptStep_i (k : ℕ) (st0 : AdaptState K) :
    ((adaptStep Sk lams sig2 nfft nwin)^[k] st0).i = st0.i + k := by
  induction k with
  | zero => rfl
  | succ k ih => rw [Function.iterate_succ_apply', adaptStep_i, ih, Nat.add_assoc]

/-- what a pass leaves behind: the weights are Thomson's formula at `S1` and `S` is the mean of the eigenspectra with
    those weights.  Every pass establishes it whatever state it starts from (`adaptInv_step`), so with the first pass
    unconditional (`pmtmWeights .adapt`) it holds at the returned state whatever the tests say. -/
def AdaptInv (Sk : List (List K)) (lams : List K) (sig2 : K) (nfft nwin : ℕ) (st : AdaptState K) :
    Prop :=
  (∀ f, f < nfft → ∀ t, t < nwin →
      nth (st.wk.getD f []) t = adaptWeight (nth lams t) sig2 (nth st.S1 f)) ∧
   (∀ f, f < nfft →
      nth st.S f = (∑ t ∈ range nwin, nth (st.wk.getD f []) t * nth (Sk.getD t []) f)
        / ∑ t ∈ range nwin, nth (st.wk.getD f []) t)

theorem adaptInv_step (st : AdaptState K) :
    AdaptInv Sk lams sig2 nfft nwin (adaptStep Sk lams sig2 nfft nwin st) :=
  ⟨fun f hf t ht => by rw [adaptStep_wk_entry Sk lams sig2 nfft nwin st hf ht, adaptStep_S1],
    fun _ hf => adaptStep_S_entry Sk lams sig2 nfft nwin st hf⟩

end Step

section Loop
variable [ReOrd K]

/-- the quantity the `while` test compares with the tolerance: `Σ_f |S[f] - S1[f]| / NFFT` -/
def adaptDist (nfft : ℕ) (st : AdaptState K) : K :=
  (∑ f ∈ range nfft, absRe (nth st.S f - nth st.S1 f)) / (nfft : K)

variable (Sk : List (List K)) (lams : List K) (sig2 tol : K) (nfft nwin : ℕ)

theorem adaptLoop_zero (st : AdaptState K) : adaptLoop Sk lams sig2 tol nfft nwin 0 st = st := rfl

theorem adaptLoop_succ (fuel : ℕ) (st : AdaptState K) :
    adaptLoop Sk lams sig2 tol nfft nwin (fuel + 1) st
      = if reGt (adaptDist nfft st) tol
        then adaptLoop Sk lams sig2 tol nfft nwin fuel (adaptStep Sk lams sig2 nfft nwin st)
        else st := by
  simp only [adaptLoop, adaptDist, sumR_eq_sum]
  rfl

theorem adaptLoop_iterate (fuel : ℕ) (st0 : AdaptState K) :
    ∃ k, k ≤ fuel ∧
      adaptLoop Sk lams sig2 tol nfft nwin fuel st0 = (adaptStep Sk lams sig2 nfft nwin)^[k] st0 ∧
      (∀ j, j < k → reGt (adaptDist nfft ((adaptStep Sk lams sig2 nfft nwin)^[j] st0)) tol = true) ∧
      (k = fuel ∨ reGt (adaptDist nfft ((adaptStep Sk lams sig2 nfft nwin)^[k] st0)) tol = false) := by
  induction fuel generalizing st0 with
  | zero => exact ⟨0, le_refl _, rfl, fun j hj => absurd hj (Nat.not_lt_zero j), Or.inl rfl⟩
  | succ fuel ih =>
    rw [adaptLoop_succ]
    by_cases h : reGt (adaptDist nfft st0) tol = true
    · rw [if_pos h]
      obtain ⟨k, hk, heq, hall, hstop⟩ := ih (adaptStep Sk lams sig2 nfft nwin st0)
      -- `f^[j + 1] st0` is `f^[j] (f st0)` by definition
      refine ⟨k + 1, Nat.succ_le_succ hk, heq, ?_, hstop.imp (congrArg (· + 1)) id⟩
      intro j hj
      cases j with
      | zero => exact h
      | succ j => exact hall j (Nat.lt_of_succ_lt_succ hj)
    · rw [if_neg h]
      refine ⟨0, Nat.zero_le _, rfl, fun j hj => absurd hj (Nat.not_lt_zero j), Or.inr ?_⟩
      simpa using h

/-- one unconditional pass followed by the loop (the code's `while (i == 0 or Σ|S-S1|/NFFT > tol) and i < fuel + 1`)
    is the `k`-fold iterate for the first `1 ≤ k ≤ fuel + 1` after which the test fails (or `k = fuel + 1`); the test
    is not consulted before the first pass -/
theorem adaptLoop_step_iterate (fuel : ℕ) (st0 : AdaptState K) :
    ∃ k, 1 ≤ k ∧ k ≤ fuel + 1 ∧
      adaptLoop Sk lams sig2 tol nfft nwin fuel (adaptStep Sk lams sig2 nfft nwin st0)
        = (adaptStep Sk lams sig2 nfft nwin)^[k] st0 ∧
      (∀ j, 1 ≤ j → j < k →
        reGt (adaptDist nfft ((adaptStep Sk lams sig2 nfft nwin)^[j] st0)) tol = true) ∧
      (k = fuel + 1 ∨ reGt (adaptDist nfft ((adaptStep Sk lams sig2 nfft nwin)^[k] st0)) tol = false) := by
  obtain ⟨k, hk, heq, hall, hlast⟩ :=
    adaptLoop_iterate Sk lams sig2 tol nfft nwin fuel (adaptStep Sk lams sig2 nfft nwin st0)
  refine ⟨k + 1, Nat.le_add_left 1 k, Nat.succ_le_succ hk, heq, ?_, ?_⟩
  · intro j hj1 hjk
    obtain ⟨j', rfl⟩ := Nat.exists_eq_add_of_le' hj1
    exact hall j' (Nat.lt_of_succ_lt_succ hjk)
  · exact hlast.imp (congrArg (· + 1)) id

theorem adaptLoop_induct (P : AdaptState K → Prop)
    (hstep : ∀ st, P st → P (adaptStep Sk lams sig2 nfft nwin st)) (fuel : ℕ) (st0 : AdaptState K)
    (h0 : P st0) : P (adaptLoop Sk lams sig2 tol nfft nwin fuel st0) := by
  obtain ⟨k, -, heq, -, -⟩ := adaptLoop_iterate Sk lams sig2 tol nfft nwin fuel st0
  rw [heq]
  clear heq
  induction k with
  | zero => exact h0
  | succ k ih => rw [Function.iterate_succ_apply']; exact hstep _ ih

theorem adaptLoop_shape (fuel : ℕ) (st0 : AdaptState K) (h0 : WkShape nfft nwin st0.wk) :
    WkShape nfft nwin (adaptLoop Sk lams sig2 tol nfft nwin fuel st0).wk :=
  adaptLoop_induct Sk lams sig2 tol nfft nwin (fun st => WkShape nfft nwin st.wk)
    (fun st _ => by rw [adaptStep_wk]; exact wkShape_vec nfft nwin _) fuel st0 h0

/-- the counter tells whether the loop ran -/
theorem adaptLoop_i_zero (fuel : ℕ) (st0 : AdaptState K)
    (h : (adaptLoop Sk lams sig2 tol nfft nwin fuel st0).i = st0.i) :
    adaptLoop Sk lams sig2 tol nfft nwin fuel st0 = st0 := by
  obtain ⟨k, _, heq, _, _⟩ := adaptLoop_iterate Sk lams sig2 tol nfft nwin fuel st0
  rw [heq, iterate_adaptStep_i] at h
  have : k = 0 := by omega
  rw [heq, this]; rfl

end Loop

section Weights
variable [StarRing K] [ReOrd K]

theorem pmtmWeights_unity (x lams : List K) (SkA : List (List K)) (nfft : ℕ) (tolc : K) :
    pmtmWeights .unity x lams SkA nfft tolc = vec lams.length (fun _ => [1]) := rfl

theorem pmtmWeights_eigen (x lams : List K) (SkA : List (List K)) (nfft : ℕ) (tolc : K) :
    pmtmWeights .eigen x lams SkA nfft tolc
      = vec lams.length (fun i => [nth lams i / ((i : K) + 1)]) := by
  unfold pmtmWeights
  simp only [Nat.cast_add, Nat.cast_one]

theorem nth_pmtmWeights_unity (x lams : List K) (SkA : List (List K)) (nfft : ℕ) (tolc : K) {t : ℕ}
    (ht : t < lams.length) : nth ((pmtmWeights .unity x lams SkA nfft tolc).getD t []) 0 = 1 := by
  rw [pmtmWeights_unity, getD_vec_lt _ ht]
  rfl

theorem nth_pmtmWeights_eigen (x lams : List K) (SkA : List (List K)) (nfft : ℕ) (tolc : K) {t : ℕ}
    (ht : t < lams.length) :
    nth ((pmtmWeights .eigen x lams SkA nfft tolc).getD t []) 0 = nth lams t / ((t : K) + 1) := by
  rw [pmtmWeights_eigen, getD_vec_lt _ ht]
  rfl

/-- the data power `σ² = Σ|x_j|²/N` of the adaptive scheme -/
def adaptSig2 (x : List K) : K := (∑ j ∈ range x.length, nth x j * star (nth x j)) / (x.length : K)

/-- the state the adaptive loop starts from: `S = (|Sk_0|² + |Sk_1|²)/2`, `S1 = 0`, weights = the
    eigenvalues broadcast over the frequencies, counter `0` -/
def adaptInit (lams : List K) (SkA : List (List K)) (nfft : ℕ) : AdaptState K :=
  { S := vec nfft (fun f => (nth (SkA.getD 0 []) f + nth (SkA.getD 1 []) f) / 2)
    S1 := vec nfft (fun _ => 0)
    wk := vec nfft (fun _ => vec lams.length (fun t => nth lams t))
    i := 0 }

theorem pmtmWeights_adapt (x lams : List K) (SkA : List (List K)) (nfft : ℕ) (tolc : K) :
    pmtmWeights .adapt x lams SkA nfft tolc
      = (adaptLoop SkA lams (adaptSig2 x) (tolc * adaptSig2 x / (nfft : K)) nfft lams.length 99
          (adaptStep SkA lams (adaptSig2 x) nfft lams.length (adaptInit lams SkA nfft))).wk := by
  unfold pmtmWeights adaptSig2 adaptInit
  simp only [sumR_eq_sum, abs2_eq, Nat.cast_ofNat]

end Weights

theorem adaptInit_S_entry (lams : List K) (SkA : List (List K)) {nfft f : ℕ} (hf : f < nfft) :
    nth (adaptInit lams SkA nfft).S f = (nth (SkA.getD 0 []) f + nth (SkA.getD 1 []) f) / 2 :=
  nth_vec_lt _ hf

theorem adaptInit_wk_row (lams : List K) (SkA : List (List K)) {nfft f : ℕ} (hf : f < nfft) :
    (adaptInit lams SkA nfft).wk.getD f [] = vec lams.length (fun t => nth lams t) :=
  getD_vec_lt _ hf _

theorem adaptInit_wk_entry (lams : List K) (SkA : List (List K)) {nfft f t : ℕ} (hf : f < nfft)
    (ht : t < lams.length) : nth ((adaptInit lams SkA nfft).wk.getD f []) t = nth lams t := by
  rw [adaptInit_wk_row lams SkA hf, nth_vec_lt _ ht]

/-- at two bins `f`, `f'` of two grids at which the squared eigenspectra and the current estimate of one run are
    `t` times those of the other, and so is the data power, one pass writes the same weights and `t` times the new
    estimate (`t = 1`: the pass is pointwise in frequency; `f = f'`: Thomson's weight is homogeneous of degree 0) -/
theorem adaptStep_pointwise {t : K} (ht : t ≠ 0) {nF nC nwin f f' : ℕ} (hf : f < nF) (hf' : f' < nC)
    (SkF SkC : List (List K)) (lams : List K) (sig2 : K)
    (hSk : ∀ τ, nth (SkF.getD τ []) f = t * nth (SkC.getD τ []) f') (stF stC : AdaptState K)
    (h : nth stF.S f = t * nth stC.S f') :
    (adaptStep SkF lams (t * sig2) nF nwin stF).wk.getD f []
        = (adaptStep SkC lams sig2 nC nwin stC).wk.getD f' [] ∧
    nth (adaptStep SkF lams (t * sig2) nF nwin stF).S f
        = t * nth (adaptStep SkC lams sig2 nC nwin stC).S f' := by
  have hw : (adaptStep SkF lams (t * sig2) nF nwin stF).wk.getD f []
      = (adaptStep SkC lams sig2 nC nwin stC).wk.getD f' [] := by
    rw [adaptStep_wk_row SkF lams (t * sig2) nF nwin stF hf, adaptStep_wk_row SkC lams sig2 nC nwin stC hf', h]
    exact vec_ext (fun τ _ => adaptWeight_scale _ _ _ _ ht)
  refine ⟨hw, ?_⟩
  rw [adaptStep_S_entry SkF lams (t * sig2) nF nwin stF hf, adaptStep_S_entry SkC lams sig2 nC nwin stC hf', hw,
    ← mul_div_assoc, Finset.mul_sum]
  refine congrArg (· / _) (Finset.sum_congr rfl ?_)
  intro τ _
  rw [hSk τ, mul_left_comm]

/-- the loop state `a` of one run against the state `b` of another: bin `k < n` of `a` is `t` times bin `π k` of
    `b`, row `k` of the weight table is row `π k`, the pass counters agree (amplitude: `π = id`; a rotation of the
    bins: `t = 1`, `π k = (k + n - m) mod n`; nested grids: `t = 1`, `π j = c·j`) -/
def BinRel (t : K) (π : ℕ → ℕ) (n : ℕ) (a b : AdaptState K) : Prop :=
  (∀ k, k < n → nth a.S k = t * nth b.S (π k)) ∧
  (∀ k, k < n → nth a.S1 k = t * nth b.S1 (π k)) ∧
  (∀ k, k < n → a.wk.getD k [] = b.wk.getD (π k) []) ∧ a.i = b.i

namespace BinRel
variable {t : K} {π : ℕ → ℕ} {n : ℕ} {a b : AdaptState K} (h : BinRel t π n a b)
include h

theorem S_eq {k : ℕ} (hk : k < n) : nth a.S k = t * nth b.S (π k) := h.1 k hk

theorem S1_eq {k : ℕ} (hk : k < n) : nth a.S1 k = t * nth b.S1 (π k) := h.2.1 k hk

theorem wk_eq {k : ℕ} (hk : k < n) : a.wk.getD k [] = b.wk.getD (π k) [] := h.2.2.1 k hk

theorem i_eq : a.i = b.i := h.2.2.2

end BinRel

section Rel
variable {t : K} {π : ℕ → ℕ} {n n' : ℕ} {Sk' Sk : List (List K)} (hπ : ∀ k, k < n → π k < n')
  (hSk : ∀ τ k, k < n → nth (Sk'.getD τ []) k = t * nth (Sk.getD τ []) (π k))
include hπ hSk

theorem binRel_step (ht : t ≠ 0) (lams : List K) (sig2 : K) (nwin : ℕ) (a b : AdaptState K)
    (h : BinRel t π n a b) :
    BinRel t π n (adaptStep Sk' lams (t * sig2) n nwin a) (adaptStep Sk lams sig2 n' nwin b) :=
  ⟨fun k hk =>
      (adaptStep_pointwise ht hk (hπ k hk) Sk' Sk lams sig2 (fun τ => hSk τ k hk) a b (h.S_eq hk)).2,
    fun _ hk => h.S_eq hk,
    fun k hk =>
      (adaptStep_pointwise ht hk (hπ k hk) Sk' Sk lams sig2 (fun τ => hSk τ k hk) a b (h.S_eq hk)).1,
    congrArg (· + 1) h.i_eq⟩

theorem binRel_init (lams : List K) : BinRel t π n (adaptInit lams Sk' n) (adaptInit lams Sk n') := by
  refine ⟨fun k hk => ?_, fun k hk => ?_, fun k hk => ?_, rfl⟩
  · rw [adaptInit_S_entry lams Sk' hk, adaptInit_S_entry lams Sk (hπ k hk), hSk 0 k hk, hSk 1 k hk]
    ring
  · unfold adaptInit
    rw [nth_vec_lt _ hk, nth_vec_lt _ (hπ k hk), mul_zero]
  · rw [adaptInit_wk_row lams Sk' hk, adaptInit_wk_row lams Sk (hπ k hk)]

theorem binRel_iterate (ht : t ≠ 0) (lams : List K) (sig2 : K) (nwin : ℕ) (a b : AdaptState K)
    (h : BinRel t π n a b) (k : ℕ) :
    BinRel t π n ((adaptStep Sk' lams (t * sig2) n nwin)^[k] a)
      ((adaptStep Sk lams sig2 n' nwin)^[k] b) := by
  induction k with
  | zero => exact h
  | succ k ih =>
    rw [Function.iterate_succ_apply', Function.iterate_succ_apply']
    exact binRel_step hπ hSk ht lams sig2 nwin _ _ ih

end Rel

theorem mtMean_length (m : MtMethod) (SkA W : List (List K)) (nfft nwin : ℕ) :
    (mtMean m SkA W nfft nwin).length = nfft :=
  vec_length _ _

theorem nth_mtMean (m : MtMethod) (SkA W : List (List K)) {nfft : ℕ} (nwin : ℕ) {f : ℕ} (hf : f < nfft) :
    nth (mtMean m SkA W nfft nwin) f
      = (∑ t ∈ range nwin,
          (match m with
            | .adapt => nth (W.getD f []) t
            | _ => nth (W.getD t []) 0) * nth (SkA.getD t []) f) / (nwin : K) := by
  unfold mtMean
  rw [nth_vec_lt _ hf, sumR_eq_sum]
  rfl

theorem nth_mtMean_adapt (SkA W : List (List K)) {nfft : ℕ} (nwin : ℕ) {f : ℕ} (hf : f < nfft) :
    nth (mtMean .adapt SkA W nfft nwin) f
      = (∑ t ∈ range nwin, nth (W.getD f []) t * nth (SkA.getD t []) f) / (nwin : K) :=
  nth_mtMean .adapt SkA W nwin hf

theorem nth_mtMean_taper (m : MtMethod) (hm : m ≠ .adapt) (SkA W : List (List K)) {nfft : ℕ}
    (nwin : ℕ) {f : ℕ} (hf : f < nfft) :
    nth (mtMean m SkA W nfft nwin) f
      = (∑ t ∈ range nwin, nth (W.getD t []) 0 * nth (SkA.getD t []) f) / (nwin : K) := by
  rw [nth_mtMean m SkA W nwin hf]
  cases m with
  | adapt => exact absurd rfl hm
  | unity => rfl
  | eigen => rfl

section Sign
-- any ordered field in which division by a non-negative keeps the sign: `ℝ`, and `ℂ` or an `RCLike` field with the
-- `ComplexOrder`
variable {R : Type} [Field R] [PartialOrder R] [IsStrictOrderedRing R]

theorem adaptWeight_nonneg {lam : R} (hl : 0 ≤ lam) (sig2 s : R)
    (hb : 0 ≤ s / (s * lam + sig2 * (1 - lam))) : 0 ≤ adaptWeight lam sig2 s := by
  unfold adaptWeight
  exact mul_nonneg (mul_nonneg hb hb) hl

variable [PosMulReflectLT R]

theorem nth_mtMean_nonneg (m : MtMethod) (SkA W : List (List R)) {nfft nwin f : ℕ} (hf : f < nfft)
    (hW : ∀ t, t < nwin → 0 ≤ (match m with
            | .adapt => nth (W.getD f []) t
            | _ => nth (W.getD t []) 0))
    (hS : ∀ t, t < nwin → 0 ≤ nth (SkA.getD t []) f) :
    0 ≤ nth (mtMean m SkA W nfft nwin) f := by
  rw [nth_mtMean m SkA W nwin hf]
  exact div_nonneg
    (Finset.sum_nonneg fun t ht => mul_nonneg (hW t (mem_range.mp ht)) (hS t (mem_range.mp ht)))
    (Nat.cast_nonneg _)

end Sign

section Bounds

theorem adaptDen_pos_of_lam {lam sig2 s : ℝ} (hl0 : 0 ≤ lam) (hl1 : lam < 1) (hs : 0 ≤ s)
    (hsig : 0 < sig2) : 0 < s * lam + sig2 * (1 - lam) :=
  add_pos_of_nonneg_of_pos (mul_nonneg hs hl0) (mul_pos hsig (sub_pos.mpr hl1))

theorem adaptWeight_bounds {lam sig2 s : ℝ} (hl0 : 0 < lam) (hl1 : lam ≤ 1) (hs : 0 ≤ s)
    (hsig : 0 ≤ sig2) (hD : 0 < s * lam + sig2 * (1 - lam)) :
    0 ≤ adaptWeight lam sig2 s ∧ adaptWeight lam sig2 s ≤ 1 / lam := by
  -- with `b = s/(λs + σ²(1-λ))`: `0 ≤ b` and `bλ ≤ 1` (the denominator is at least `sλ`), so `λb² = b·(bλ) ≤ b ≤ 1/λ`
  have hb0 : 0 ≤ s / (s * lam + sig2 * (1 - lam)) := div_nonneg hs hD.le
  have hb1 : s / (s * lam + sig2 * (1 - lam)) * lam ≤ 1 := by
    rw [div_mul_eq_mul_div, div_le_one hD]
    exact le_add_of_nonneg_right (mul_nonneg hsig (sub_nonneg.mpr hl1))
  unfold adaptWeight
  refine ⟨mul_nonneg (mul_nonneg hb0 hb0) hl0.le, ?_⟩
  rw [mul_assoc]
  exact le_trans (mul_le_of_le_one_right hb0 hb1) ((le_div_iff₀ hl0).mpr hb1)

/-- what the adaptive loop keeps true over `ℝ`: the estimate is non-negative and every
    weight lies in `[0, 1/λ_t]` -/
def AdaptPos (lams : List ℝ) (nfft nwin : ℕ) (st : AdaptState ℝ) : Prop :=
  (∀ f, f < nfft → 0 ≤ nth st.S f) ∧
  ∀ f, f < nfft → ∀ t, t < nwin →
    0 ≤ nth (st.wk.getD f []) t ∧ nth (st.wk.getD f []) t ≤ 1 / nth lams t

theorem adaptPos_step (Sk : List (List ℝ)) (lams : List ℝ) {sig2 : ℝ} (nfft nwin : ℕ)
    (hl : ∀ t, t < nwin → 0 < nth lams t ∧ nth lams t < 1) (hsig : 0 < sig2)
    (hSk : ∀ t, t < nwin → ∀ f, f < nfft → 0 ≤ nth (Sk.getD t []) f) (st : AdaptState ℝ)
    (h : AdaptPos lams nfft nwin st) : AdaptPos lams nfft nwin (adaptStep Sk lams sig2 nfft nwin st) := by
  have hw : ∀ f, f < nfft → ∀ t, t < nwin →
      0 ≤ nth ((adaptStep Sk lams sig2 nfft nwin st).wk.getD f []) t ∧
        nth ((adaptStep Sk lams sig2 nfft nwin st).wk.getD f []) t ≤ 1 / nth lams t := by
    intro f hf t ht
    rw [adaptStep_wk_entry Sk lams sig2 nfft nwin st hf ht]
    exact adaptWeight_bounds (hl t ht).1 (hl t ht).2.le (h.1 f hf) hsig.le
      (adaptDen_pos_of_lam (hl t ht).1.le (hl t ht).2 (h.1 f hf) hsig)
  refine ⟨?_, hw⟩
  intro f hf
  rw [adaptStep_S_entry Sk lams sig2 nfft nwin st hf]
  apply div_nonneg
  · exact Finset.sum_nonneg (fun t ht =>
      mul_nonneg (hw f hf t (mem_range.mp ht)).1 (hSk t (mem_range.mp ht) f hf))
  · exact Finset.sum_nonneg (fun t ht => (hw f hf t (mem_range.mp ht)).1)

theorem adaptPos_init (lams : List ℝ) (SkA : List (List ℝ)) (nfft : ℕ)
    (hl : ∀ t, t < lams.length → 0 < nth lams t ∧ nth lams t ≤ 1) (h2 : 2 ≤ lams.length)
    (hSk : ∀ t, t < lams.length → ∀ f, f < nfft → 0 ≤ nth (SkA.getD t []) f) :
    AdaptPos lams nfft lams.length (adaptInit lams SkA nfft) := by
  refine ⟨?_, ?_⟩
  · intro f hf
    rw [adaptInit_S_entry lams SkA hf]
    exact div_nonneg (add_nonneg (hSk 0 (by omega) f hf) (hSk 1 (by omega) f hf)) zero_le_two
  · intro f hf t ht
    rw [adaptInit_wk_entry lams SkA hf ht]
    -- the start weight `λ_t ∈ (0, 1]` is itself at most `1/λ_t`
    exact ⟨(hl t ht).1.le, (le_div_iff₀ (hl t ht).1).mpr (mul_le_one₀ (hl t ht).2 (hl t ht).1.le (hl t ht).2)⟩

end Bounds

end SpecVerif.MtmL

/-! ### the table of squared eigenspectra

`pmtm` / `MultiTapering` build `SkA[t][f] = |Sk_t[f]|²` (one row per taper) from the tapers and hand it to `pmtmWeights`
and `mtMean`.  The table has two definitions, `GridL.mtSkA` and `ShiftL.mtSkAbs2`, which are the same list
(`AdaptL.mtSkA_eq_mtSkAbs2`); the entry lemma is stated for the second. -/

namespace SpecVerif.GridL
variable {K : Type} [Field K] [StarRing K]

def mtSkA (tw x : List K) (tapers : List (List K)) (n : ℕ) : List (List K) :=
  (tapers.map (fun tp => eigenspectrum tw x tp n)).map (fun r => r.map abs2)

end SpecVerif.GridL

namespace SpecVerif.ShiftL
variable {K : Type} [Field K] [StarRing K]

def mtSkAbs2 (tw x : List K) (tapers : List (List K)) (n : ℕ) : List (List K) :=
  tapers.map (fun tp => (eigenspectrum tw x tp n).map abs2)

theorem nth_mtSkAbs2 (tw x : List K) (tapers : List (List K)) (n t k : ℕ) :
    nth ((mtSkAbs2 tw x tapers n).getD t []) k
      = if t < tapers.length then abs2 (nth (eigenspectrum tw x (tapers.getD t []) n) k) else 0 := by
  unfold mtSkAbs2
  by_cases ht : t < tapers.length
  · rw [if_pos ht, List.getD_eq_getElem?_getD, List.getD_eq_getElem?_getD, List.getElem?_map,
      List.getElem?_eq_getElem ht]
    simp only [Option.map_some, Option.getD_some]
    rw [nth_map abs2 (by rw [abs2_eq, zero_mul])]
  · rw [if_neg ht, List.getD_eq_getElem?_getD, List.getElem?_map,
      List.getElem?_eq_none_iff.mpr (by omega)]
    rfl

end SpecVerif.ShiftL

namespace SpecVerif.AdaptL
open SpecVerif.ShiftL
variable {K : Type} [Field K]

theorem mtSkA_eq_mtSkAbs2 [StarRing K] (tw x : List K) (tapers : List (List K)) (n : ℕ) :
    GridL.mtSkA tw x tapers n = mtSkAbs2 tw x tapers n := by
  unfold GridL.mtSkA mtSkAbs2
  rw [List.map_map]
  rfl

end SpecVerif.AdaptL
