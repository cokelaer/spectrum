import SpecVerif.Proofs.Lemmas.Minvar
import SpecVerif.Proofs.Lemmas.LinPred
import SpecVerif.Proofs.Lemmas.LevinsonPD
import SpecVerif.Proofs.Lemmas.Burg
import Mathlib.Tactic.LinearCombination
/-
  The Gohberg–Semencul identity, by finite sums only.

  `R = hR r` is the Hermitian Toeplitz matrix of the lags `r` (`R_{ij} = r(i-j)` for `j ≤ i`,
  `conj r(j-i)` above the diagonal, `Lemmas/Levinson.lean`), `a = [1, a_1, …, a_p]` and `P` solve the
  order-`p` normal equations `Σ_j R_{ij} a_j = P δ_{i0}` (`LevEq r p a P`), and
  `G = gsG (p+1) a = L₁L₁ᴴ − L₂L₂ᴴ` (`Lemmas/Minvar.lean`).  Then `R·G = P·I = G·R` on the indices
  `≤ p`, hence every right (or left) inverse of `R` equals `G/P`.

  Proof: `C = R·G` has first column `P e_0` (normal equations, `G_{l0} = a_l`), last column `P e_p`
  (conjugate-reversed equations, `G_{lp} = conj a_{p-l}`), and is constant along its diagonals
  (`C_{i+1,j+1} = C_{ij}`, from the displacement recursion
  `G_{i+1,j+1} = G_{ij} + a_{i+1} conj a_{j+1} − b_{i+1} conj b_{j+1}` and `R_{i+1,l+1} = R_{il}`).

  Also here (used by C16 only): the Burg model solves the normal equations of `burgAc`, and `burgAc` is positive
  definite when all `|k_i| < 1` (through `toepPD_of_levRun_pos`, `Lemmas/LevinsonPD.lean`).  The products of matrices
  given as functions and the forms `sesq` are in `Lemmas/Sesq.lean`.
-/
namespace SpecVerif.GSL
open Finset SpecVerif SpecVerif.MinvarL

/-- a matrix that is constant along its diagonals (indices `≤ p`) is given by its first and last columns -/
theorem eq_of_diag_const {α : Type} (C : ℕ → ℕ → α) (p : ℕ)
    (hC : ∀ i j, i < p → j < p → C (i + 1) (j + 1) = C i j) (i j : ℕ) (hi : i ≤ p) (hj : j ≤ p) :
    C i j = if j ≤ i then C (i - j) 0 else C (i + (p - j)) p := by
  have shift : ∀ k i j, i + k ≤ p → j + k ≤ p → C (i + k) (j + k) = C i j := by
    intro k
    induction k with
    | zero => intro i j _ _; rfl
    | succ k ih =>
      intro i j hi hj
      rw [← Nat.add_assoc, ← Nat.add_assoc, hC (i + k) (j + k) (by omega) (by omega)]
      exact ih i j (by omega) (by omega)
  by_cases hji : j ≤ i
  · rw [if_pos hji, ← shift j (i - j) 0 (by omega) (by omega), Nat.sub_add_cancel hji, Nat.zero_add]
  · rw [if_neg hji, ← shift (p - j) i j (by omega) (by omega), Nat.add_sub_cancel' hj]

variable {K : Type} [Field K] [StarRing K]

/-- displacement recursion -/
theorem gsG_succ_succ (m : ℕ) (a : ℕ → K) (i j : ℕ) :
    gsG m a (i + 1) (j + 1)
      = gsG m a i j
        + (a (i + 1) * star (a (j + 1)) - gsB m a (i + 1) * star (gsB m a (j + 1))) := by
  unfold gsG
  rw [Nat.add_min_add_right, Finset.sum_range_succ' _ (min i j + 1)]
  simp only [Nat.add_sub_add_right, Nat.sub_zero]

theorem gsG_col_zero (m : ℕ) (a : ℕ → K) (ha0 : a 0 = 1) (i : ℕ) : gsG m a i 0 = a i := by
  unfold gsG
  rw [Nat.min_zero, Finset.sum_range_one, Nat.sub_zero, Nat.sub_zero, gsB_zero, star_zero, mul_zero,
    sub_zero, ha0, star_one, mul_one]

theorem gsG_row_zero (m : ℕ) (a : ℕ → K) (ha0 : a 0 = 1) (j : ℕ) :
    gsG m a 0 j = star (a j) := by
  rw [gsG_hermitian m a j 0, gsG_col_zero m a ha0]

/-- last row of the `(p+1) × (p+1)` matrix (the two sums telescope) -/
theorem gsG_row_last (p : ℕ) (a : ℕ → K) (ha0 : a 0 = 1) (j : ℕ) (hj : j ≤ p) :
    gsG (p + 1) a p j = a (p - j) := by
  have hd := gsG_diag (p + 1) a j (p - j)
  rw [show j + (p - j) = p by omega] at hd
  rw [hd, Finset.sum_range_succ', Nat.zero_add, gsB_zero, star_zero, mul_zero, sub_zero, ha0,
    star_one, mul_one, Finset.sum_sub_distrib, ← Finset.sum_range_reflect
      (fun s => gsB (p + 1) a (s + 1 + (p - j)) * star (gsB (p + 1) a (s + 1)))]
  have h2 : ∀ s ∈ range j,
      gsB (p + 1) a (j - 1 - s + 1 + (p - j)) * star (gsB (p + 1) a (j - 1 - s + 1))
        = a (s + 1 + (p - j)) * star (a (s + 1)) := by
    intro s hs
    have hs' := mem_range.mp hs
    rw [gsB_mul_star, show p + 1 - (j - 1 - s + 1) = s + 1 + (p - j) by omega, Nat.add_sub_cancel]
  rw [Finset.sum_congr rfl h2, sub_self, zero_add]

theorem gsG_col_last (p : ℕ) (a : ℕ → K) (ha0 : a 0 = 1) (l : ℕ) (hl : l ≤ p) :
    gsG (p + 1) a l p = star (a (p - l)) := by
  rw [gsG_hermitian (p + 1) a p l, gsG_row_last p a ha0 l hl]

def gsC (r : ℕ → K) (p : ℕ) (a : ℕ → K) (i j : ℕ) : K :=
  ∑ l ∈ range (p + 1), hR r i l * gsG (p + 1) a l j

/-- first column of `R·G`: the normal equations -/
theorem gsC_col_zero (r : ℕ → K) (p : ℕ) (a : ℕ → K) (P : K) (ha0 : a 0 = 1)
    (hN : LevEq r p a P) (i : ℕ) (hi : i ≤ p) :
    gsC r p a i 0 = if i = 0 then P else 0 := by
  unfold gsC
  simp only [gsG_col_zero (p + 1) a ha0]
  exact hN i hi

/-- last column of `R·G`: the conjugate-reversed normal equations -/
theorem gsC_col_last (r : ℕ → K) (h0 : star (r 0) = r 0) (p : ℕ) (a : ℕ → K) (P : K)
    (hP : star P = P) (ha0 : a 0 = 1) (hN : LevEq r p a P) (i : ℕ) (hi : i ≤ p) :
    gsC r p a i p = if i = p then P else 0 := by
  unfold gsC
  rw [← LevEqRev_of_LevEq r h0 p a P hP hN i hi]
  apply Finset.sum_congr rfl
  intro l hl
  rw [gsG_col_last p a ha0 l (Nat.lt_succ_iff.mp (mem_range.mp hl))]

/-- `R·G` is constant along its diagonals -/
theorem gsC_shift (r : ℕ → K) (h0 : star (r 0) = r 0) (p : ℕ) (a : ℕ → K) (P : K)
    (hP : star P = P) (ha0 : a 0 = 1) (hN : LevEq r p a P) (i j : ℕ) (hi : i < p) (hj : j < p) :
    gsC r p a (i + 1) (j + 1) = gsC r p a i j := by
  -- row `i+1 ≥ 1` of the normal equations
  have E1 := hN (i + 1) (by omega)
  rw [if_neg (Nat.succ_ne_zero i), Finset.sum_range_succ'] at E1
  simp only [hR_succ] at E1
  rw [ha0, mul_one] at E1
  -- row `i < p` of the reversed equations
  have E2 := LevEqRev_of_LevEq r h0 p a P hP hN i (by omega)
  rw [if_neg (by omega), Finset.sum_range_succ, Nat.sub_self, ha0, star_one, mul_one] at E2
  unfold gsC
  rw [Finset.sum_range_succ' _ p, Finset.sum_range_succ _ p]
  simp only [hR_succ, gsG_succ_succ, gsB_succ]
  rw [gsG_row_zero (p + 1) a ha0, gsG_row_last p a ha0 j (by omega), star_star]
  simp only [Nat.add_sub_add_right]
  have hsplit : ∑ l ∈ range p, hR r i l *
        (gsG (p + 1) a l j + (a (l + 1) * star (a (j + 1)) - star (a (p - l)) * a (p - j)))
      = ∑ l ∈ range p, hR r i l * gsG (p + 1) a l j
        + (∑ l ∈ range p, hR r i l * a (l + 1)) * star (a (j + 1))
        - (∑ l ∈ range p, hR r i l * star (a (p - l))) * a (p - j) := by
    rw [Finset.sum_mul, Finset.sum_mul, ← Finset.sum_add_distrib, ← Finset.sum_sub_distrib]
    apply Finset.sum_congr rfl
    intro l _
    ring
  rw [hsplit]
  linear_combination star (a (j + 1)) * E1 - a (p - j) * E2

theorem gs_right (r : ℕ → K) (h0 : star (r 0) = r 0) (p : ℕ) (a : ℕ → K) (P : K) (hP : star P = P)
    (ha0 : a 0 = 1) (hN : LevEq r p a P) (i j : ℕ) (hi : i ≤ p) (hj : j ≤ p) :
    ∑ l ∈ range (p + 1), hR r i l * gsG (p + 1) a l j = if i = j then P else 0 := by
  show gsC r p a i j = _
  rw [eq_of_diag_const (gsC r p a) p (gsC_shift r h0 p a P hP ha0 hN) i j hi hj]
  by_cases hji : j ≤ i
  · rw [if_pos hji, gsC_col_zero r p a P ha0 hN (i - j) (by omega)]
    exact if_congr (by omega) rfl rfl
  · rw [if_neg hji, gsC_col_last r h0 p a P hP ha0 hN (i + (p - j)) (by omega)]
    exact if_congr (by omega) rfl rfl

/-- **Gohberg–Semencul**: `G/P` is a two-sided inverse of `R` (`(G/P)·R = I` is the adjoint of `R·(G/P) = I`,
both matrices being Hermitian) -/
theorem gs_inverse (r : ℕ → K) (h0 : star (r 0) = r 0) (p : ℕ) (a : ℕ → K) (P : K) (hP : star P = P)
    (hP0 : P ≠ 0) (ha0 : a 0 = 1) (hN : LevEq r p a P) :
    (∀ i j, i < p + 1 → j < p + 1 →
      ∑ l ∈ range (p + 1), hR r i l * (gsG (p + 1) a l j / P) = if i = j then 1 else 0) ∧
    (∀ i j, i < p + 1 → j < p + 1 →
      ∑ l ∈ range (p + 1), (gsG (p + 1) a i l / P) * hR r l j = if i = j then 1 else 0) := by
  have hRG : ∀ i j, i < p + 1 → j < p + 1 →
      ∑ l ∈ range (p + 1), hR r i l * (gsG (p + 1) a l j / P) = if i = j then 1 else 0 := by
    intro i j hi hj
    simp only [mul_div_assoc']
    rw [← Finset.sum_div, gs_right r h0 p a P hP ha0 hN i j (by omega) (by omega), ite_div,
      div_self hP0, zero_div]
  refine ⟨hRG, fun i j hi hj => ?_⟩
  have h := congrArg star (hRG j i hj hi)
  rw [star_sum, apply_ite star, star_one, star_zero] at h
  rw [← if_congr (eq_comm (a := j) (b := i)) rfl rfl, ← h]
  apply Finset.sum_congr rfl
  intro l _
  rw [star_mul', star_div₀, hP, hR_star r h0, ← gsG_hermitian (p + 1) a l i, mul_comm]

/-- `ρ = ρ_0 ∏ (1 - k_i conj k_i)`: the Burg error power is non-zero iff the mean power is and no reflection
coefficient lies on the unit circle -/
theorem burg_rho_ne_zero_iff (x : List K) (p : ℕ) :
    (burgRun x p).rho ≠ 0
      ↔ (burgRun x 0).rho ≠ 0 ∧ ∀ i, i < p → 1 - BurgL.bK x i * star (BurgL.bK x i) ≠ 0 := by
  rw [BurgL.burgRun_rho_prod_range, mul_ne_zero_iff, Finset.prod_ne_zero_iff]
  exact and_congr Iff.rfl
    ⟨fun h i hi => h i (mem_range.mpr hi), fun h i hi => h i (mem_range.mp hi)⟩

theorem burg_domain_of_rho_ne_zero (x : List K) (p : ℕ) (hρ : (burgRun x p).rho ≠ 0) :
    (burgRun x 0).rho ≠ 0 ∧ ∀ k ∈ (burgRun x p).ref, 1 - k * star k ≠ 0 := by
  obtain ⟨h0, hk⟩ := (burg_rho_ne_zero_iff x p).mp hρ
  refine ⟨h0, fun κ hκ => ?_⟩
  rw [BurgL.burgRun_ref, mem_vec] at hκ
  obtain ⟨i, hi, rfl⟩ := hκ
  exact hk i hi

/-- the autocorrelation implied by the order-`p` Burg model of `x`: `r_0 = ρ_0 = mean |x|²`
(`(burgRun x 0).rho`), `r_j = rc2ac(k, ρ_0)[j]` for the Burg reflection coefficients `k` -/
def burgAc (x : List K) (p : ℕ) : ℕ → K :=
  rseq (burgRun x 0).rho (rc2ac (burgRun x p).ref (burgRun x 0).rho).tail

theorem eq_burgAc (x : List K) (p : ℕ) (r : ℕ → K) (hr0 : r 0 = (burgRun x 0).rho)
    (hr : ∀ j, 0 < j → j ≤ p → r j = nth (rc2ac (burgRun x p).ref (burgRun x 0).rho) j)
    (d : ℕ) (hd : d < p + 1) : r d = burgAc x p d := by
  cases d with
  | zero => exact hr0
  | succ d => rw [hr (d + 1) (by omega) (by omega), burgAc, rseq_succ, nth_tail]

/-- `LEVINSON` on the implied autocorrelation retraces the Burg model -/
theorem levRun_burgAc (x : List K) (p : ℕ) (hρ0 : (burgRun x 0).rho ≠ 0)
    (hk : ∀ κ ∈ (burgRun x p).ref, 1 - κ * star κ ≠ 0) :
    (levRun (burgRun x 0).rho (rc2ac (burgRun x p).ref (burgRun x 0).rho).tail p).ref
        = (burgRun x p).ref ∧
    (levRun (burgRun x 0).rho (rc2ac (burgRun x p).ref (burgRun x 0).rho).tail p).A
        = (burgRun x p).a ∧
    (levRun (burgRun x 0).rho (rc2ac (burgRun x p).ref (burgRun x 0).rho).tail p).P
        = (burgRun x p).rho := by
  have h := levRun_rc2ac_ref (burgRun x p).ref (burgRun x 0).rho hρ0 hk (burgRun x p).ref.length
    le_rfl
  have e : rc2poly (burgRun x p).ref (burgRun x 0).rho = ((burgRun x p).a, (burgRun x p).rho) :=
    BurgL.rc2poly_burgRun_ref x p
  rw [List.take_length, e, BurgL.burgRun_ref_length] at h
  exact h

/-- for `r = burgAc x p`; C16 `minvar_ar_solves_normal_equations` transports it to any `r` agreeing with `burgAc`
on `0..p` (`eq_burgAc`, `LevEq_congr`) -/
theorem burg_normal_equations (x : List K) (p : ℕ) (hρ : (burgRun x p).rho ≠ 0) :
    LevEq (burgAc x p) p (nth ((1 : K) :: (burgRun x p).a)) (burgRun x p).rho := by
  obtain ⟨hr0ne, hk⟩ := burg_domain_of_rho_ne_zero x p hρ
  obtain ⟨_, hA, hP⟩ := levRun_burgAc x p hr0ne hk
  have hLev := levRun_LevEq (burgRun x 0).rho (rc2ac (burgRun x p).ref (burgRun x 0).rho).tail
    (BurgL.burgRun_rho_star x 0) p
    (fun j hj => levRun_P_ne_zero _ _ p (by rw [hP]; exact hρ) j (by omega))
  have hα : nth ((1 : K) :: (burgRun x p).a) = alphaOf (burgRun x p).a := by
    funext j
    cases j <;> rfl
  rw [hA, hP, ← hα] at hLev
  exact hLev

/-- C16 writes the entries of `R = hR r` out; this is the bridge (`sesq_eq_sum` is the one for the forms) -/
theorem hR_eq_ite (r : ℕ → K) (i j : ℕ) :
    hR r i j = if j ≤ i then r (i - j) else star (r (j - i)) := rfl

section RC
variable {𝕜 : Type} [RCLike 𝕜]

theorem burg_rho_ne_zero_of_refl_lt_one (x : List 𝕜) (p : ℕ) (hρ0 : (burgRun x 0).rho ≠ 0)
    (hk : ∀ i, i < p → ‖nth (burgRun x p).ref i‖ < 1) : (burgRun x p).rho ≠ 0 :=
  (burg_rho_ne_zero_iff x p).mpr ⟨hρ0, fun i hi =>
    one_sub_mul_star_ne_zero_of_norm_lt_one _ (by rw [← BurgL.nth_burgRun_ref x p i hi]; exact hk i hi)⟩

/-- **the autocorrelation implied by a Burg model is positive definite** when all `|k_i| < 1` -/
theorem burg_implied_toepPD (x : List 𝕜) (p : ℕ) (hρ0 : (burgRun x 0).rho ≠ 0)
    (hk : ∀ i, i < p → ‖nth (burgRun x p).ref i‖ < 1) : ToepPD (burgAc x p) p := by
  have hstar0 := BurgL.burgRun_rho_star x 0
  -- `ρ_0 = mean |x|²` is a non-negative real, non-zero by hypothesis
  have hpos0 : 0 < RCLike.re (burgRun x 0).rho := by
    refine lt_of_le_of_ne
      (BurgL.re_rho_nonneg x 0 (Nat.zero_le _) (fun i hi => absurd hi (Nat.not_lt_zero i))) ?_
    intro h
    apply hρ0
    have hre : ((RCLike.re (burgRun x 0).rho : ℝ) : 𝕜) = (burgRun x 0).rho :=
      RCLike.conj_eq_iff_re.mp (by rw [starRingEnd_apply]; exact hstar0)
    rw [← hre, ← h, RCLike.ofReal_zero]
  obtain ⟨href, _, _⟩ := levRun_burgAc x p hρ0
    (burg_domain_of_rho_ne_zero x p (burg_rho_ne_zero_of_refl_lt_one x p hρ0 hk)).2
  exact toepPD_of_levRun_pos (burgRun x 0).rho _ hstar0 p
    (levRun_P_pos_of_refl_lt_one _ _ hpos0 p (by rw [href]; exact hk))

/-- a real `2 × 2` form in completed-square shape is positive definite: the two test matrices of C16's
examples -/
theorem sq_add_mul_sq_pos (e : ℕ → ℝ) (he : ∃ i, i < 2 ∧ e i ≠ 0) (c : ℝ) {d : ℝ} (hd : 0 < d) :
    0 < (e 0 + c * e 1) ^ 2 + d * (e 1) ^ 2 := by
  obtain ⟨i, hi, hne⟩ := he
  by_cases h1 : e 1 = 0
  · have h0 : e 0 + c * e 1 ≠ 0 := by
      rw [h1, mul_zero, add_zero]
      obtain rfl | rfl : i = 0 ∨ i = 1 := by omega
      · exact hne
      · exact absurd h1 hne
    positivity
  · positivity

end RC

end SpecVerif.GSL
