import SpecVerif.Proofs.Lemmas.Basic
import SpecVerif.Model.DFT
/-
  The model's DFT bin over a field, for ANY `n`-th root of unity `ω` (primitivity is needed only in
  `DFTOrth.lean`): the table look-up is `ω^(jk)`; a bin is homogeneous in the data (any table); the
  DFT of a sequence supported on lags `-L..L`; self-adjointness for Hermitian-symmetric input.
-/
namespace SpecVerif
open Finset

variable {K : Type} [Field K]

theorem pow_mod_of_pow_eq_one {ω : K} {n : ℕ} (h : ω ^ n = 1) (m : ℕ) : ω ^ (m % n) = ω ^ m :=
  (pow_eq_pow_mod m h).symm

theorem ne_zero_of_pow_eq_one {ω : K} {n : ℕ} (hn : 0 < n) (h : ω ^ n = 1) : ω ≠ 0 := by
  rintro rfl
  rw [zero_pow hn.ne'] at h
  exact zero_ne_one h

theorem pow_sub_mul_eq_inv_pow {ω : K} {n : ℕ} (hω : ω ^ n = 1) {m : ℕ} (hm : m ≤ n)
    (k : ℕ) : ω ^ ((n - m) * k) = ω⁻¹ ^ (m * k) := by
  have h1 : ω ^ ((n - m) * k) * ω ^ (m * k) = 1 := by
    rw [← pow_add, ← Nat.add_mul, Nat.sub_add_cancel hm, pow_mul, hω, one_pow]
  rw [inv_pow]
  exact eq_inv_of_mul_eq_one_left h1

theorem nth_twiddles {ω : K} {n : ℕ} (hn : 0 < n) (h : ω ^ n = 1) (m : ℕ) :
    nth (twiddles ω n) (m % n) = ω ^ m := by
  unfold twiddles
  rw [nth_vec, if_pos (Nat.mod_lt _ hn), powN_eq_pow, ← pow_eq_pow_mod m h]

theorem dftBin_eq {ω : K} {n : ℕ} (hn : 0 < n) (h : ω ^ n = 1) (x : List K) (k : ℕ) :
    dftBin (twiddles ω n) n x k = ∑ j ∈ range (min x.length n), nth x j * ω ^ (j * k) := by
  unfold dftBin
  rw [sumR_eq_sum]
  apply Finset.sum_congr rfl
  intro j _
  rw [nth_twiddles hn h]

/-- the sum over all `n` indices: reading `x` beyond its length gives the zero padding -/
theorem dftBin_eq_full {ω : K} {n : ℕ} (hn : 0 < n) (h : ω ^ n = 1) (x : List K) (k : ℕ) :
    dftBin (twiddles ω n) n x k = ∑ j ∈ range n, nth x j * ω ^ (j * k) := by
  rw [dftBin_eq hn h]
  apply Finset.sum_subset (Finset.range_mono (Nat.min_le_right _ _))
  intro i hin hi
  rw [mem_range] at hin hi
  rw [nth_of_ge x i (by omega), zero_mul]

/-- without truncation (`len x ≤ n`) bin `k` is the polynomial `Σ_t x_t z^t` at the point `z = ω^k` of
the circle -/
theorem dftBin_eq_eval {ω : K} {n : ℕ} (hn : 0 < n) (h : ω ^ n = 1) (x : List K)
    (hx : x.length ≤ n) (k : ℕ) :
    dftBin (twiddles ω n) n x k = ∑ t ∈ range x.length, nth x t * (ω ^ k) ^ t := by
  rw [dftBin_eq hn h, min_eq_left hx]
  apply Finset.sum_congr rfl
  intro t _
  rw [← pow_mul, mul_comm k t]

theorem dft_length (tw : List K) (n : ℕ) (x : List K) : (dft tw n x).length = n := vec_length _ _

theorem rdft_length (tw : List K) (n : ℕ) (x : List K) : (rdft tw n x).length = n / 2 + 1 :=
  vec_length _ _

/-- `ω^{-mk}` through the point `z = ω^k` of the circle (`ω^{mk} = (ω^k)^m` is `pow_mul'`) -/
theorem inv_pow_mul_eq_point (ω : K) (m k : ℕ) : ω⁻¹ ^ (m * k) = ((ω ^ k)⁻¹) ^ m := by
  rw [← inv_pow, ← pow_mul, mul_comm]

theorem dftBin_smul_of_nth (tw : List K) (n : ℕ) (c : K) {x y : List K} (hl : y.length = x.length)
    (h : ∀ j, nth y j = c * nth x j) (k : ℕ) : dftBin tw n y k = c * dftBin tw n x k := by
  unfold dftBin
  rw [hl, sumR_eq_sum, sumR_eq_sum, Finset.mul_sum]
  apply Finset.sum_congr rfl
  intro j _
  rw [h j, mul_assoc]

theorem dftBin_smul (tw : List K) (n : ℕ) (c : K) (m : ℕ) (g : ℕ → K) (k : ℕ) :
    dftBin tw n (vec m (fun j => c * g j)) k = c * dftBin tw n (vec m g) k := by
  apply dftBin_smul_of_nth tw n c ((vec_length _ _).trans (vec_length _ _).symm)
  intro j
  rw [nth_vec, nth_vec, mul_ite, mul_zero]

theorem dftBin_map_mul (tw : List K) (n : ℕ) (c : K) (x : List K) (k : ℕ) :
    dftBin tw n (x.map (fun v => c * v)) k = c * dftBin tw n x k :=
  dftBin_smul_of_nth tw n c (List.length_map _) (nth_map_mul_left c x) k

theorem dftBin_map_div (tw : List K) (n : ℕ) (c : K) (x : List K) (k : ℕ) :
    dftBin tw n (x.map (fun v => v / c)) k = dftBin tw n x k / c := by
  rw [div_eq_inv_mul]
  apply dftBin_smul_of_nth tw n c⁻¹ (List.length_map _)
  intro j
  rw [nth_map_div, div_eq_inv_mul]

/-- DFT of a sequence supported on `[0, L] ∪ [n-L, n)` (lags `0..L` in front, lags `-L..-1` wrapped to
the back, zeros between): `Σ_j s_j ω^{jk} = s_0 + Σ_{m=1}^{L} (s_m ω^{mk} + s_{n-m} ω^{-mk})`. -/
theorem sum_two_sided {ω : K} {n L : ℕ} (hω : ω ^ n = 1) (hL : 2 * L + 1 ≤ n) (s : ℕ → K)
    (hmid : ∀ i, L < i → i < n - L → s i = 0) (k : ℕ) :
    ∑ j ∈ range n, s j * ω ^ (j * k)
      = s 0 + ∑ m ∈ Ico 1 (L + 1), (s m * ω ^ (m * k) + s (n - m) * ω⁻¹ ^ (m * k)) := by
  have hLn : L + 1 ≤ n - L := by omega
  have hn : L + 1 ≤ n := hLn.trans (Nat.sub_le n L)
  rw [Finset.range_eq_Ico,
    ← Finset.sum_Ico_consecutive _ (Nat.zero_le 1) ((Nat.le_add_left 1 L).trans hn),
    ← Finset.sum_Ico_consecutive _ (Nat.le_add_left 1 L) hn,
    ← Finset.sum_Ico_consecutive _ hLn (Nat.sub_le n L),
    Finset.sum_Ico_succ_top (Nat.zero_le 0), Finset.Ico_self, Finset.sum_empty, zero_add,
    Nat.zero_mul, pow_zero, mul_one, Finset.sum_add_distrib]
  have emid : ∑ i ∈ Ico (L + 1) (n - L), s i * ω ^ (i * k) = 0 := by
    apply Finset.sum_eq_zero
    intro i hi
    rw [hmid i (Finset.mem_Ico.mp hi).1 (Finset.mem_Ico.mp hi).2, zero_mul]
  -- the back half read backwards: index `n - m` carries `ω^{(n-m)k} = ω^{-mk}`
  have eback : ∑ i ∈ Ico (n - L) n, s i * ω ^ (i * k)
      = ∑ m ∈ Ico 1 (L + 1), s (n - m) * ω⁻¹ ^ (m * k) := by
    have hr := Finset.sum_Ico_reflect (fun i => s i * ω ^ (i * k)) 1 (hn.trans (Nat.le_succ n))
    rw [Nat.add_sub_add_right, Nat.add_sub_cancel] at hr
    rw [← hr]
    apply Finset.sum_congr rfl
    intro m hm
    rw [pow_sub_mul_eq_inv_pow hω ((Finset.mem_Ico.mp hm).2.le.trans hn)]
  rw [emid, eback, zero_add]

variable [StarRing K]

theorem mul_star_self_of_star_eq_inv {ω : K} (hω0 : ω ≠ 0) (hstar : star ω = ω⁻¹) :
    ω * star ω = 1 := by
  rw [hstar, mul_inv_cancel₀ hω0]

theorem dft_selfadjoint_of_hermitian {ω : K} {n : ℕ} (hω : ω ^ n = 1) (hstar : star ω = ω⁻¹)
    (x : ℕ → K) (h0 : star (x 0) = x 0) (hx : ∀ j, 0 < j → j < n → x (n - j) = star (x j)) (k : ℕ) :
    star (∑ j ∈ range n, x j * ω ^ (j * k)) = ∑ j ∈ range n, x j * ω ^ (j * k) := by
  cases n with
  | zero => rw [Finset.sum_range_zero, star_zero]
  | succ m =>
    rw [Finset.sum_range_succ', star_add, star_sum, Nat.zero_mul, pow_zero, mul_one, h0,
      ← Finset.sum_range_reflect]
    refine congrArg (· + x 0) (Finset.sum_congr rfl ?_)
    intro j hj
    have hjm : j + 1 < m + 1 := Nat.succ_lt_succ (mem_range.mp hj)
    have e : m - 1 - j + 1 = m + 1 - (j + 1) := by omega
    rw [e, hx (j + 1) (Nat.succ_pos j) hjm, pow_sub_mul_eq_inv_pow hω hjm.le, star_mul', star_pow,
      star_star, star_inv₀, hstar, inv_inv]

end SpecVerif
