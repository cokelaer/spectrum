import SpecVerif.Proofs.Lemmas.Basic
import SpecVerif.Proofs.Lemmas.Arma
import SpecVerif.Proofs.Lemmas.Levinson
import Mathlib.Tactic.LinearCombination
/-
  The similarity `x_n ↦ c·μⁿ·x_n` (`c ≠ 0`, `μ·conj μ = 1`): scaling (`x.map (c * ·)`, `μ = 1`; C03) and
  modulation (`modulate μ x`, `c = 1`; C04) are its two instances, so a recursion of the model is simulated once
  for both.  Here: the vocabulary (`modulate`, `twist`) and the Levinson recursion on the lags `t·μᵏ·r_k`; the
  Burg recursion on the data `c·μⁿ·x_n` is at the end of `Lemmas/Burg.lean`.  A simulation takes the transformed
  input through its entries (`∀ j, nth T' j = t * (μ ^ (j + 1) * nth T j)`), so an instance is a proof of that
  hypothesis: `sim_smul` for scaling, `sim_modulate` for modulation.
-/
namespace SpecVerif.ShiftL
open Finset SpecVerif SpecVerif.ArmaL

section Defs
variable {K : Type} [Field K]

/-- multiplication of sample `n` by `e^{2πi m n/NFFT}` when `μ = ω⁻¹ ^ m` -/
def modulate (μ : K) (x : List K) : List K := vec x.length (fun n => μ ^ n * nth x n)

/-- `A_j ↦ μ^{j+1} A_j` for a list that stores the entries `1, 2, …` of a sequence -/
def twist (μ : K) (A : List K) : List K := vec A.length (fun j => μ ^ (j + 1) * nth A j)

@[simp] theorem modulate_length (μ : K) (x : List K) : (modulate μ x).length = x.length :=
  vec_length _ _

@[simp] theorem twist_length (μ : K) (x : List K) : (twist μ x).length = x.length :=
  vec_length _ _

/-- total indexing of a modulated list (out of range both sides are `0`) -/
theorem nth_modulate (μ : K) (x : List K) (i : ℕ) : nth (modulate μ x) i = μ ^ i * nth x i := by
  unfold modulate
  rw [nth_vec]
  by_cases h : i < x.length
  · rw [if_pos h]
  · rw [if_neg h, nth_of_ge x i (by omega), mul_zero]

theorem nth_twist (μ : K) (x : List K) (i : ℕ) : nth (twist μ x) i = μ ^ (i + 1) * nth x i := by
  unfold twist
  rw [nth_vec]
  by_cases h : i < x.length
  · rw [if_pos h]
  · rw [if_neg h, nth_of_ge x i (by omega), mul_zero]

/-- scaling is the similarity with `μ = 1`, whatever the exponent `e n` of `μ` -/
theorem sim_smul (c : K) (x : List K) {e : ℕ → ℕ} (n : ℕ) :
    nth (x.map (fun v => c * v)) n = c * ((1 : K) ^ e n * nth x n) := by
  rw [nth_map_mul_left, one_pow, one_mul]

/-- modulation is the similarity with `c = 1` -/
theorem sim_modulate (μ : K) (x : List K) (n : ℕ) : nth (modulate μ x) n = 1 * (μ ^ n * nth x n) := by
  rw [nth_modulate, one_mul]

theorem twist_append_singleton (μ : K) (l : List K) (c : K) :
    twist μ (l ++ [c]) = twist μ l ++ [μ ^ (l.length + 1) * c] := by
  apply list_ext_nth
  · rw [twist_length, List.length_append, List.length_append, twist_length, List.length_singleton,
      List.length_singleton]
  · intro i hi
    rw [twist_length, List.length_append, List.length_singleton] at hi
    rw [nth_twist]
    by_cases h : i < l.length
    · rw [nth_append_left _ _ _ h, nth_append_left _ _ _ (by rwa [twist_length]), nth_twist]
    · have hi' : i = l.length := by omega
      rw [hi', nth_append_length, ← twist_length μ l, nth_append_length, twist_length]

/-- the coefficient list with its leading `1`: the twist of the stored part is the modulation of the whole -/
theorem modulate_cons_one (μ : K) (a : List K) : modulate μ ((1 : K) :: a) = (1 : K) :: twist μ a := by
  apply list_ext_nth
  · rw [modulate_length, List.length_cons, List.length_cons, twist_length]
  · intro i _
    rw [nth_modulate]
    cases i with
    | zero => rw [pow_zero, one_mul]; rfl
    | succ i => exact (nth_twist μ a i).symm

theorem twist_one (A : List K) : twist 1 A = A := by
  apply list_ext_nth (twist_length 1 A)
  intro j _
  rw [nth_twist, one_pow, one_mul]

end Defs

section Unimod
variable {K : Type} [Field K] [StarRing K]

theorem mul_star_self_ne_zero {c : K} (hc : c ≠ 0) : c * star c ≠ 0 :=
  mul_ne_zero hc (star_ne_zero.mpr hc)

/-- the hypothesis `hμ` of a simulation at `μ = 1` (scaling alone) -/
theorem unimod_one : (1 : K) * star 1 = 1 := by rw [star_one, mul_one]

/-- The powers of `μ` cancel against their conjugates.  In the proofs of this development that end in
`linear_combination e * unimod_pow_cancel hμ n`, the coefficient `e` is the term of the goal with its powers
of `μ` stripped: what is left to `ring` is `e·(μⁿ·conj μⁿ − 1) = 0`. -/
theorem unimod_pow_cancel {μ : K} (hμ : μ * star μ = 1) (n : ℕ) : μ ^ n * star μ ^ n = 1 := by
  rw [← mul_pow, hμ, one_pow]

theorem abs2_sim {μ : K} (hμ : μ * star μ = 1) (c : K) (a : ℕ) (z : K) :
    abs2 (c * (μ ^ a * z)) = c * star c * abs2 z := by
  rw [abs2_eq, abs2_eq, star_mul', star_mul', star_pow]
  linear_combination (c * star c * z * star z) * unimod_pow_cancel hμ a

theorem abs2_unimod_mul {μ : K} (hμ : μ * star μ = 1) (a : ℕ) (z : K) :
    abs2 (μ ^ a * z) = abs2 z := by
  rw [← one_mul (μ ^ a * z), abs2_sim hμ, star_one, one_mul, one_mul]

theorem energy_sim {c μ : K} (hμ : μ * star μ = 1) {x' x : List K}
    (hx : ∀ n, nth x' n = c * (μ ^ n * nth x n)) (N : ℕ) :
    ∑ j ∈ range N, nth x' j * star (nth x' j) = c * star c * ∑ j ∈ range N, nth x j * star (nth x j) := by
  rw [Finset.mul_sum]
  exact Finset.sum_congr rfl (fun j _ => by rw [hx]; exact abs2_sim hμ c j _)

end Unimod

section Lev
variable {K : Type} [Field K] [StarRing K]

theorem levup_twist {μ : K} (hμ : μ * star μ = 1) (a : List K) (c : K) :
    levup (twist μ a) (μ ^ (a.length + 1) * c) = twist μ (levup a c) := by
  apply list_ext_nth
  · rw [levup_length, twist_length, twist_length, levup_length]
  · intro j _
    rw [nth_twist, nth_levup, nth_levup, twist_length]
    by_cases h : j < a.length
    · rw [if_pos h, if_pos h, nth_twist, nth_twist, star_mul', star_pow]
      have e : μ ^ (a.length + 1) = μ ^ (j + 1) * μ ^ (a.length - 1 - j + 1) := by
        rw [← pow_add]; congr 1; omega
      rw [e]
      linear_combination (μ ^ (j + 1) * c * star (nth a (a.length - 1 - j)))
        * unimod_pow_cancel hμ (a.length - 1 - j + 1)
    · rw [if_neg h, if_neg h]
      by_cases h2 : j = a.length
      · rw [if_pos h2, if_pos h2, h2]
      · rw [if_neg h2, if_neg h2, mul_zero]

def simLev (t μ : K) (s : LevState K) : LevState K :=
  { A := twist μ s.A, P := t * s.P, ref := twist μ s.ref }

theorem levStep_sim {t μ : K} (ht : t ≠ 0) (hμ : μ * star μ = 1) {T' T : List K}
    (hT : ∀ j, nth T' j = t * (μ ^ (j + 1) * nth T j)) (s : LevState K) (k : ℕ)
    (hA : s.A.length = k) (href : s.ref.length = k) :
    levStep T' (simLev t μ s) k = simLev t μ (levStep T s k) := by
  subst hA
  have hsave : nth T' s.A.length
        + sumR s.A.length (fun j => nth (twist μ s.A) j * nth T' (s.A.length - j - 1))
      = t * (μ ^ (s.A.length + 1)
          * (nth T s.A.length + sumR s.A.length (fun j => nth s.A j * nth T (s.A.length - j - 1)))) := by
    rw [sumR_eq_sum, sumR_eq_sum, hT, mul_add, mul_add, Finset.mul_sum, Finset.mul_sum]
    refine congrArg (_ + ·) (Finset.sum_congr rfl (fun j hj => ?_))
    have hj' : j < s.A.length := mem_range.mp hj
    have e : μ ^ (s.A.length + 1) = μ ^ (j + 1) * μ ^ (s.A.length - j - 1 + 1) := by
      rw [← pow_add]; congr 1; omega
    rw [nth_twist, hT, e]
    ring
  have htemp : ∀ S : K, -(t * (μ ^ (s.A.length + 1) * S)) / (t * s.P)
      = μ ^ (s.A.length + 1) * (-S / s.P) := by
    intro S
    rw [neg_mul_eq_mul_neg, mul_div_mul_left _ _ ht]
    ring
  -- the left sides of `hsave` and `htemp` are `save` and `temp` of the unfolded `levStep`, word for word
  simp only [levStep, simLev, hsave, htemp]
  rw [LevState.mk.injEq]
  refine ⟨levup_twist hμ _ _, ?_, ?_⟩
  · rw [abs2_unimod_mul hμ, mul_assoc]
  · rw [twist_append_singleton, href]

theorem levRun_sim {t μ : K} (ht : t ≠ 0) (hμ : μ * star μ = 1) (r0 : K) {T' T : List K}
    (hT : ∀ j, nth T' j = t * (μ ^ (j + 1) * nth T j)) (k : ℕ) :
    levRun (t * r0) T' k = simLev t μ (levRun r0 T k) := by
  induction k with
  | zero => rfl
  | succ k ih =>
    rw [levRun_succ, ih, levStep_sim ht hμ hT _ k (levRun_A_length r0 T k)
      (levRun_ref_length r0 T k), ← levRun_succ]

end Lev

end SpecVerif.ShiftL

/-! ### scaling alone (`μ = 1`), in the form used by C03 and by `Lemmas/LpcLsf` -/
namespace SpecVerif.ScaleL
open SpecVerif SpecVerif.ShiftL
variable {K : Type} [Field K] [StarRing K]

def scaleLev (t : K) (st : LevState K) : LevState K := { A := st.A, P := t * st.P, ref := st.ref }

theorem levRun_smul {t : K} (ht : t ≠ 0) (r0 : K) (T : List K) (k : ℕ) :
    levRun (t * r0) (T.map (fun v => t * v)) k = scaleLev t (levRun r0 T k) := by
  rw [levRun_sim ht (μ := 1) (T' := T.map (fun v => t * v)) (T := T) unimod_one r0
    (sim_smul t T)]
  unfold simLev scaleLev
  rw [twist_one, twist_one]

end SpecVerif.ScaleL
