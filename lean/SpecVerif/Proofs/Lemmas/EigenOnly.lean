import SpecVerif.Proofs.Lemmas.Eigen
import SpecVerif.Proofs.Lemmas.Norm
import Mathlib.LinearAlgebra.Matrix.Rank
import Mathlib.Analysis.Complex.Basic
/-
  Converse direction of C17: the denominator of MUSIC / EV vanishes ONLY at the tones.
  `Π_{m<T}(X − x_m)` has degree `T < P`, so its coefficient vector is a null vector of the tone matrix that
  does not vanish off the nodes; noise vectors spanning the tone-null space must therefore see every
  non-tone (`exists_noise_nonvanishing`).  Spanning follows from linear independence by `dim ker = P − T`
  (`spansToneNull_of_linearIndependent`).  Over `RCLike` the denominator is a sum of non-negative reals.
  Last section: the one-tone instance (`x_n = (-1)^n`) used by the non-vacuity examples of C17 and C02.
-/
namespace SpecVerif.EigenOnlyL
open Finset Polynomial SpecVerif SpecVerif.EigenL

section Field
variable {F : Type} [Field F]

noncomputable def nodePoly (T : ℕ) (x : ℕ → F) : Polynomial F := ∏ m ∈ range T, (X - C (x m))

theorem nodePoly_natDegree (T : ℕ) (x : ℕ → F) : (nodePoly T x).natDegree = T := by
  unfold nodePoly
  rw [natDegree_prod_of_monic _ _ (fun m _ => monic_X_sub_C (x m))]
  simp

theorem nodePoly_eval (T : ℕ) (x : ℕ → F) (y : F) :
    (nodePoly T x).eval y = ∏ m ∈ range T, (y - x m) := by
  simp [nodePoly, eval_prod]

theorem nodePoly_sum {P T : ℕ} (hT : T < P) (x : ℕ → F) (y : F) :
    ∑ K ∈ range P, (nodePoly T x).coeff K * y ^ K = ∏ m ∈ range T, (y - x m) := by
  rw [← nodePoly_eval, eval_eq_sum_range' (by rw [nodePoly_natDegree]; exact hT)]

theorem nodePoly_null {P T : ℕ} (hT : T < P) (x : ℕ → F) (m : ℕ) (hm : m < T) :
    ∑ K ∈ range P, (nodePoly T x).coeff K * x m ^ K = 0 := by
  rw [nodePoly_sum hT]
  exact Finset.prod_eq_zero (mem_range.mpr hm) (sub_self _)

theorem nodePoly_off {P T : ℕ} (hT : T < P) (x : ℕ → F) (y : F) (hy : ∀ m, m < T → y ≠ x m) :
    ∑ K ∈ range P, (nodePoly T x).coeff K * y ^ K ≠ 0 := by
  rw [nodePoly_sum hT]
  exact Finset.prod_ne_zero_iff.mpr (fun m hm => sub_ne_zero.mpr (hy m (mem_range.mp hm)))

/-- the noise vectors `v_i`, `i ∈ [nsig, P)`, span the tone-null space
    `{u : Σ_K u_K z_m^{-K} = 0 for all m < T}` (on the coordinates `K < P`): what an exact SVD delivers for
    the zero singular value of the data matrix of `T` tones -/
def SpansToneNull (P T nsig : ℕ) (z : ℕ → F) (v : ℕ → ℕ → F) : Prop :=
  ∀ u : ℕ → F, (∀ m, m < T → ∑ K ∈ range P, u K * (z m)⁻¹ ^ K = 0) →
    ∃ a : ℕ → F, ∀ K, K < P → u K = ∑ i ∈ Ico nsig P, a i * v i K

/-- the noise vectors cannot all annihilate the steering vector of a non-tone: `hspan` applied to the
    coefficients of `nodePoly`.  No hypothesis on the `z_m` themselves. -/
theorem exists_noise_nonvanishing (P T nsig : ℕ) (z : ℕ → F) (v : ℕ → ℕ → F) (hT : T < P)
    (hspan : SpansToneNull P T nsig z v) (z0 : F) (hz0 : ∀ m, m < T → z0 ≠ z m) :
    ∃ i, nsig ≤ i ∧ i < P ∧ ∑ K ∈ range P, v i K * z0⁻¹ ^ K ≠ 0 := by
  by_contra hcon
  have hall : ∀ i ∈ Ico nsig P, ∑ K ∈ range P, v i K * z0⁻¹ ^ K = 0 := by
    intro i hi
    by_contra h
    exact hcon ⟨i, (mem_Ico.mp hi).1, (mem_Ico.mp hi).2, h⟩
  set x : ℕ → F := fun m => (z m)⁻¹ with hx
  obtain ⟨a, ha⟩ := hspan (fun K => (nodePoly T x).coeff K) (fun m hm => nodePoly_null hT x m hm)
  have hne := nodePoly_off hT x z0⁻¹ (fun m hm h => hz0 m hm (inv_injective h))
  apply hne
  have e : ∀ K ∈ range P, (nodePoly T x).coeff K * z0⁻¹ ^ K
      = ∑ i ∈ Ico nsig P, a i * (v i K * z0⁻¹ ^ K) := by
    intro K hK
    rw [ha K (mem_range.mp hK), Finset.sum_mul]
    exact Finset.sum_congr rfl (fun i _ => mul_assoc _ _ _)
  rw [Finset.sum_congr rfl e, Finset.sum_comm]
  apply Finset.sum_eq_zero
  intro i hi
  rw [← Finset.mul_sum, hall i hi, mul_zero]

/-- the tone matrix `A_{mK} = x_m^K` of `T ≤ P` pairwise distinct nodes has independent rows (its leading
    `T × T` block is a Vandermonde matrix), so its null space has dimension `P - T` -/
theorem finrank_ker_toneMatrix {P T : ℕ} (hT : T ≤ P) (x : Fin T → F) (hx : Function.Injective x) :
    Module.finrank F
      (LinearMap.ker (Matrix.of fun (m : Fin T) (K : Fin P) => x m ^ (K : ℕ)).mulVecLin) = P - T := by
  set A : Matrix (Fin T) (Fin P) F := Matrix.of fun m K => x m ^ (K : ℕ)
  have hrow : LinearIndependent F A.row := by
    rw [Fintype.linearIndependent_iff]
    intro g hg
    exact congrFun (Matrix.eq_zero_of_forall_pow_sum_mul_pow_eq_zero hx (fun I => by
      have := congrFun hg (Fin.castLE hT I)
      rw [Finset.sum_apply] at this
      exact this))
  have h1 := LinearMap.finrank_range_add_finrank_ker A.mulVecLin
  have h2 : Module.finrank F (LinearMap.range A.mulVecLin) = T := by
    have := hrow.rank_matrix
    rwa [Fintype.card_fin] at this
  rw [Module.finrank_fin_fun] at h1
  omega

/-- **linear independence + dimension count gives spanning** (what an exact SVD delivers with `NSIG = T`) -/
theorem spansToneNull_of_linearIndependent (P T : ℕ) (z : ℕ → F) (v : ℕ → ℕ → F) (hT : T ≤ P)
    (hzinj : ∀ m m', m < T → m' < T → z m = z m' → m = m')
    (hli : LinearIndependent F (fun (i : Fin (P - T)) (K : Fin P) => v (T + i) K))
    (hnull : ∀ i, T ≤ i → i < P → ∀ m, m < T → ∑ K ∈ range P, v i K * (z m)⁻¹ ^ K = 0) :
    SpansToneNull P T T z v := by
  intro u hu
  classical
  set A : Matrix (Fin T) (Fin P) F := Matrix.of fun m K => (z m)⁻¹ ^ (K : ℕ) with hA
  -- a vector of the tone-null space, restricted to the coordinates `K < P`, lies in `ker A`
  have hmem : ∀ (f : ℕ → F), (∀ m, m < T → ∑ K ∈ range P, f K * (z m)⁻¹ ^ K = 0) →
      (fun K : Fin P => f K) ∈ LinearMap.ker A.mulVecLin := by
    intro f hf
    rw [LinearMap.mem_ker]
    funext m
    simp only [Matrix.mulVecLin_apply, Matrix.mulVec, dotProduct, A, Matrix.of_apply, Pi.zero_apply]
    rw [Fin.sum_univ_eq_sum_range (fun K => (z m)⁻¹ ^ K * f K) P, ← hf m m.2]
    exact Finset.sum_congr rfl (fun K _ => mul_comm _ _)
  -- the `P - T` independent noise vectors lie in `ker A`, of dimension `P - T`: they span it
  have hspan : Submodule.span F (Set.range fun (i : Fin (P - T)) (K : Fin P) => v (T + i) K)
      = LinearMap.ker A.mulVecLin := by
    apply Submodule.eq_of_le_of_finrank_eq
    · rw [Submodule.span_le]
      rintro _ ⟨i, rfl⟩
      exact hmem (v (T + i)) (hnull (T + i) (by omega) (by omega))
    · rw [finrank_span_eq_card hli, Fintype.card_fin, hA,
        finrank_ker_toneMatrix hT (fun m : Fin T => (z m)⁻¹)
          (fun m m' h => Fin.ext (hzinj m m' m.2 m'.2 (inv_injective h)))]
  have hu' := hmem u hu
  rw [← hspan, Submodule.mem_span_range_iff_exists_fun] at hu'
  obtain ⟨c, hc⟩ := hu'
  refine ⟨fun i => if h : i - T < P - T then c ⟨i - T, h⟩ else 0, ?_⟩
  intro K hK
  have := congrFun hc ⟨K, hK⟩
  simp only [Finset.sum_apply, Pi.smul_apply, smul_eq_mul] at this
  rw [← this, Finset.sum_Ico_eq_sum_range, ← Fin.sum_univ_eq_sum_range
    (fun j => (if h : T + j - T < P - T then c ⟨T + j - T, h⟩ else 0) * v (T + j) K) (P - T)]
  apply Finset.sum_congr rfl
  intro j _
  have e : T + (j : ℕ) - T = j := by omega
  rw [dif_pos (by rw [e]; exact j.2)]
  congr 2
  exact Fin.ext e.symm

end Field

section RC
variable {F : Type} [RCLike F]

theorem sum_nonneg_real (n : ℕ) (f : ℕ → F)
    (h : ∀ j, j < n → ∃ r : ℝ, 0 ≤ r ∧ f j = (r : F)) :
    ∃ d : ℝ, 0 ≤ d ∧ ∑ j ∈ range n, f j = (d : F) := by
  induction n with
  | zero => exact ⟨0, le_refl _, by simp⟩
  | succ n ih =>
    obtain ⟨d, hd, he⟩ := ih (fun j hj => h j (by omega))
    obtain ⟨r, hr, hf⟩ := h n (by omega)
    refine ⟨d + r, add_nonneg hd hr, ?_⟩
    rw [Finset.sum_range_succ, he, hf, RCLike.ofReal_add]

theorem sum_real_pos (n : ℕ) (f : ℕ → F)
    (h : ∀ j, j < n → ∃ r : ℝ, 0 ≤ r ∧ f j = (r : F)) (j0 : ℕ) (hj0 : j0 < n) (hne : f j0 ≠ 0) :
    ∃ d : ℝ, 0 < d ∧ ∑ j ∈ range n, f j = (d : F) := by
  obtain ⟨d, hd, he⟩ := sum_nonneg_real n f h
  refine ⟨d, ?_, he⟩
  have hre : d = ∑ j ∈ range n, RCLike.re (f j) := by
    have := congrArg RCLike.re he
    rw [RCLike.ofReal_re, map_sum] at this
    exact this.symm
  rw [hre]
  have hnn : ∀ j ∈ range n, 0 ≤ RCLike.re (f j) := by
    intro j hj
    obtain ⟨r, hr, hf⟩ := h j (mem_range.mp hj)
    rw [hf, RCLike.ofReal_re]; exact hr
  apply lt_of_lt_of_le _ (Finset.single_le_sum hnn (mem_range.mpr hj0))
  obtain ⟨r, hr, hf⟩ := h j0 hj0
  rw [hf, RCLike.ofReal_re]
  apply lt_of_le_of_ne hr
  intro h0
  apply hne
  rw [hf, ← h0, RCLike.ofReal_zero]

theorem eigenDenom_term_real (z σ : F) (ev : Bool) (hσ : ev = true → ∃ s : ℝ, 0 < s ∧ σ = (s : F)) :
    ∃ r : ℝ, 0 ≤ r ∧ (if ev then abs2 z / σ else abs2 z) = (r : F) ∧ (z ≠ 0 → r ≠ 0) := by
  cases ev with
  | false =>
    exact ⟨‖z‖ ^ 2, sq_nonneg _, by rw [if_neg Bool.false_ne_true, abs2_eq, mul_star_eq_ofReal],
      fun hz => pow_ne_zero 2 (norm_ne_zero_iff.mpr hz)⟩
  | true =>
    obtain ⟨s, hs, rfl⟩ := hσ rfl
    exact ⟨‖z‖ ^ 2 / s, div_nonneg (sq_nonneg _) hs.le,
      by rw [if_pos rfl, abs2_eq, mul_star_eq_ofReal, RCLike.ofReal_div],
      fun hz => div_ne_zero (pow_ne_zero 2 (norm_ne_zero_iff.mpr hz)) hs.ne'⟩

theorem eigenDenom_nonneg_real (tw : List F) (cols : List (List F)) (S : List F)
    (nsig P nfft : ℕ) (ev : Bool) (k : ℕ)
    (hS : ev = true → ∀ i, nsig ≤ i → i < P → ∃ s : ℝ, 0 < s ∧ nth S i = (s : F)) :
    ∃ d : ℝ, 0 ≤ d ∧ eigenDenom tw cols S nsig P nfft ev k = (d : F) := by
  rw [eigenDenom_eq_sum]
  refine sum_nonneg_real _ _ (fun j hj => ?_)
  obtain ⟨r, hr, he, _⟩ := eigenDenom_term_real (dftBin tw nfft (cols.getD (j + nsig) []) k)
    (nth S (j + nsig)) ev (fun h => hS h (j + nsig) (by omega) (by omega))
  exact ⟨r, hr, he⟩

theorem eigenDenom_pos_of_term (tw : List F) (cols : List (List F)) (S : List F)
    (nsig P nfft : ℕ) (ev : Bool) (k : ℕ)
    (hS : ev = true → ∀ i, nsig ≤ i → i < P → ∃ s : ℝ, 0 < s ∧ nth S i = (s : F))
    (i : ℕ) (h1 : nsig ≤ i) (h2 : i < P) (hne : dftBin tw nfft (cols.getD i []) k ≠ 0) :
    ∃ d : ℝ, 0 < d ∧ eigenDenom tw cols S nsig P nfft ev k = (d : F) := by
  have hterm := fun j (hj : j < P - nsig) =>
    eigenDenom_term_real (dftBin tw nfft (cols.getD (j + nsig) []) k) (nth S (j + nsig)) ev
      (fun h => hS h (j + nsig) (by omega) (by omega))
  rw [eigenDenom_eq_sum]
  refine sum_real_pos _ _ (fun j hj => ?_) (i - nsig) (by omega) ?_
  · obtain ⟨r, hr, he, _⟩ := hterm j hj
    exact ⟨r, hr, he⟩
  · obtain ⟨r, _, he, hr0⟩ := hterm (i - nsig) (by omega)
    rw [he]
    exact RCLike.ofReal_ne_zero.mpr (hr0 (by rw [Nat.sub_add_cancel h1]; exact hne))

theorem one_div_ofReal_pos {r : ℝ} (hr : 0 < r) : 0 < 1 / r ∧ 1 / (r : F) = ((1 / r : ℝ) : F) :=
  ⟨one_div_pos.mpr hr, by rw [RCLike.ofReal_div, RCLike.ofReal_one]⟩

theorem eigenDenom_eq_zero_iff (tw : List F) (cols : List (List F)) (S : List F)
    (nsig P nfft : ℕ) (ev : Bool) (k : ℕ)
    (hS : ev = true → ∀ i, nsig ≤ i → i < P → ∃ s : ℝ, 0 < s ∧ nth S i = (s : F)) :
    eigenDenom tw cols S nsig P nfft ev k = 0
      ↔ ∀ i, nsig ≤ i → i < P → dftBin tw nfft (cols.getD i []) k = 0 := by
  constructor
  · intro h0 i h1 h2
    by_contra hne
    obtain ⟨d, hd, he⟩ := eigenDenom_pos_of_term tw cols S nsig P nfft ev k hS i h1 h2 hne
    rw [h0] at he
    have : (d : F) = 0 := he.symm
    rw [RCLike.ofReal_eq_zero] at this
    exact hd.ne' this
  · exact eigenDenom_eq_zero tw cols S nsig P nfft ev k

end RC

/-! ### the test instance of the non-vacuity examples of C17 and C02

One tone `x_n = (-1)^n`, `N = 5`, `P = 2`, `NSIG = 1`, noise singular vector `(1,1)`: the noise column is
`(-1,-1)`, and it is a null vector of the first forward row of `FB`. -/

section Example

theorem tone_example_cols (i : ℕ) (h1 : 1 ≤ i) (h2 : i < 2) :
    ([[], [-1, -1]] : List (List ℂ)).getD i [] = vec 2 (fun _ => -star (1 : ℂ)) := by
  obtain rfl : i = 1 := by omega
  simp [vec]

theorem tone_example_svd (I : ℕ) (hI : I < 1) :
    ∑ K ∈ range 2, mentryM (fbMatrix (tones 5 1 (fun _ => (1 : ℂ)) (fun _ => -1)) 2) I K * 1 = 0 := by
  obtain rfl : I = 0 := by omega
  rw [Finset.sum_range_succ, Finset.sum_range_one,
    fb_entry_tone_fwd 5 2 1 0 0 _ _ (by intro m _; norm_num) (by decide) (by norm_num),
    fb_entry_tone_fwd 5 2 1 0 1 _ _ (by intro m _; norm_num) (by decide) (by norm_num)]
  norm_num

end Example

end SpecVerif.EigenOnlyL
