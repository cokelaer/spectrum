import SpecVerif.Model.Basic
import Mathlib.Algebra.Notation.Defs
/-
  `LawfulIsZero`: the zero test `IsZero.isZero` of the model (pivot search of the Gauss–Jordan
  elimination, guards of the Marple recursions) decides equality with `0`.  True for the executed
  instance `CRat` (`Lemmas/CRatField.lean`); the hypothesis under which the model's linear solver is
  verified (`Lemmas/GaussJordan.lean`).
-/
namespace SpecVerif.GJL
open SpecVerif

/-- the zero test of the model's pivot search decides equality with `0` -/
class LawfulIsZero (K : Type) [Zero K] [IsZero K] : Prop where
  isZero_iff : ∀ x : K, isZero x = true ↔ x = 0

theorem isZero_false_iff {K : Type} [Zero K] [IsZero K] [LawfulIsZero K] (x : K) :
    isZero x = false ↔ x ≠ 0 := by
  rw [← Bool.not_eq_true, LawfulIsZero.isZero_iff]

/-- the zero test `decide (x = 0)` is lawful -/
theorem lawful_decide {K : Type} [Zero K] [DecidableEq K] :
    @LawfulIsZero K _ ⟨fun x => decide (x = 0)⟩ :=
  @LawfulIsZero.mk K _ ⟨fun x => decide (x = 0)⟩ (fun _ => decide_eq_true_iff)

end SpecVerif.GJL
