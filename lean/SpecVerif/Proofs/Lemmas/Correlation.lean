import SpecVerif.Proofs.Lemmas.Basic
import SpecVerif.Model.Correlation
import Mathlib.Algebra.BigOperators.Field
import Mathlib.Tactic.Ring
/-
  The correlation sums of `Model/Correlation.lean` as `Finset` sums, entry
  formulas for `correlation`, `xcorr`, `corrmtx`, and the re-indexing identity behind
  `XᴴX = N·Toeplitz(r_biased)` for the 'autocorrelation' data matrix.  Defines `mentry` (= `mentryM`),
  `hermToep`, `shiftEntry`, `normLag`, which the statements of C09/C12 use.
-/
namespace SpecVerif
open Finset

/-- entry `(i,j)` of a matrix given as a list of rows (zero outside); the same function as the model's
`mentryM` (`Model/LinAlg`) -/
def mentry {K : Type} [OfNat K 0] (M : List (List K)) (i j : ℕ) : K := nth (M.getD i []) j

/-- the Hermitian Toeplitz matrix with first column `r`: `T[a][b] = r[a-b]` for `b ≤ a` and
`conj r[b-a]` above the diagonal -/
def hermToep {K : Type} [OfNat K 0] [Star K] (r : List K) (a b : ℕ) : K :=
  if b ≤ a then nth r (a - b) else star (nth r (b - a))

/-- the zero-padded, shifted data `x[i-j]` (`0` when `i < j`): entry of the autocorrelation data
matrix -/
def shiftEntry {K : Type} [OfNat K 0] (x : List K) (i j : ℕ) : K :=
  if j ≤ i then nth x (i - j) else 0

theorem mentry_vec_vec {K : Type} [Zero K] (R C : ℕ) (f : ℕ → ℕ → K) (i j : ℕ) (hi : i < R)
    (hj : j < C) : mentry (vec R (fun i => vec C (f i))) i j = f i j := by
  unfold mentry
  rw [getD_vec_lt _ hi, nth_vec_lt _ hj]

theorem shiftEntry_of_le {K : Type} [OfNat K 0] (x : List K) {i j : ℕ} (h : j ≤ i) :
    shiftEntry x i j = nth x (i - j) := if_pos h

theorem shiftEntry_of_lt {K : Type} [OfNat K 0] (x : List K) {i j : ℕ} (h : i < j) :
    shiftEntry x i j = 0 := if_neg (Nat.not_le.mpr h)

/-- the normalisation that `CORRELATION` and `xcorr` apply to the raw lag-`m` sum `s` of `n` samples -/
def normLag {K : Type} [Field K] (norm : Norm) (n m : ℕ) (rms2 s : K) : K :=
  match norm with
  | .biased => s / (n : K)
  | .unbiased => s / ((n - m : ℕ) : K)
  | .none => s
  | .coeff => s / rms2 / (n : K)

theorem normLag_rms2 {K : Type} [Field K] {norm : Norm} (hc : norm ≠ .coeff) (n m : ℕ)
    (rms2 rms2' s : K) :
    normLag norm n m rms2 s = normLag norm n m rms2' s := by
  cases norm with
  | biased => rfl
  | unbiased => rfl
  | none => rfl
  | coeff => exact absurd rfl hc

section
variable {K : Type} [Field K] [StarRing K]

theorem corrRaw_eq (x y : List K) (n k : ℕ) :
    corrRaw x y n k = ∑ j ∈ range (n - k), nth x (j + k) * star (nth y j) := by
  simp [corrRaw]

theorem meanPow_eq (x : List K) (n : ℕ) :
    meanPow x n = (∑ j ∈ range n, nth x j * star (nth x j)) / (n : K) := by
  simp [meanPow]

theorem corrRaw_zero_eq (x : List K) (n : ℕ) :
    corrRaw x x n 0 = ∑ j ∈ range n, nth x j * star (nth x j) := by
  simp [corrRaw]

theorem corrRaw_eq_zero_of_le (x y : List K) (n k : ℕ) (h : n ≤ k) : corrRaw x y n k = 0 := by
  rw [corrRaw_eq, Nat.sub_eq_zero_of_le h, Finset.sum_range_zero]

theorem correlation_length (x y : List K) (L : ℕ) (norm : Norm) (rms2 : K) :
    (correlation x y L norm rms2).length = L + 1 := vec_length _ _

theorem nth_correlation (x y : List K) (L : ℕ) (norm : Norm) (rms2 : K) (k : ℕ) (hk : k ≤ L) :
    nth (correlation x y L norm rms2) k =
      (match norm with
        | .biased => corrRaw x y (max x.length y.length) k / ((max x.length y.length : ℕ) : K)
        | .unbiased =>
            corrRaw x y (max x.length y.length) k / ((max x.length y.length - k : ℕ) : K)
        | .none => corrRaw x y (max x.length y.length) k
        | .coeff => if k = 0 then 1
            else corrRaw x y (max x.length y.length) k / rms2 / ((max x.length y.length : ℕ) : K)) := by
  unfold correlation
  simp only [nth_vec, Nat.lt_succ_of_le hk, if_true]
  cases norm <;> rfl

theorem nth_correlation_biased (x y : List K) (L : ℕ) (rms2 : K) {k : ℕ} (hk : k ≤ L) :
    nth (correlation x y L .biased rms2) k
      = corrRaw x y (max x.length y.length) k / ((max x.length y.length : ℕ) : K) :=
  nth_correlation x y L .biased rms2 k hk

theorem star_normLag (norm : Norm) (n m : ℕ) (rms2 s : K) :
    star (normLag norm n m rms2 s) = normLag norm n m (star rms2) (star s) := by
  cases norm with
  | biased => simp only [normLag, star_div₀, star_natCast]
  | unbiased => simp only [normLag, star_div₀, star_natCast]
  | none => rfl
  | coeff => simp only [normLag, star_div₀, star_natCast]

/-- `correlation` normalises the raw sum, except that coeff writes `1` at lag 0 -/
theorem nth_correlation_normLag (x y : List K) (L : ℕ) (norm : Norm) (rms2 : K) {k : ℕ} (hk : k ≤ L)
    (hc : norm ≠ .coeff ∨ k ≠ 0) :
    nth (correlation x y L norm rms2) k
      = normLag norm (max x.length y.length) k rms2 (corrRaw x y (max x.length y.length) k) := by
  rw [nth_correlation x y L norm rms2 k hk]
  cases norm with
  | biased => rfl
  | unbiased => rfl
  | none => rfl
  | coeff => exact if_neg (hc.resolve_left (fun h => h rfl))

theorem nth_xcorr_of_le (x y : List K) (L : ℕ) (norm : Norm) (rms2 : K) {i : ℕ} (h1 : L ≤ i)
    (h2 : i ≤ 2 * L) :
    nth (xcorr x y L norm rms2) i
      = normLag norm x.length (i - L) rms2 (corrRaw x y x.length (i - L)) := by
  unfold xcorr
  simp only [nth_vec_lt _ (Nat.lt_succ_of_le h2), if_pos h1]
  cases norm <;> rfl

theorem nth_xcorr_of_lt (x y : List K) (L : ℕ) (norm : Norm) (rms2 : K) {i : ℕ} (h : i < L) :
    nth (xcorr x y L norm rms2) i
      = normLag norm x.length (L - i) rms2 (star (corrRaw y x x.length (L - i))) := by
  unfold xcorr
  simp only [nth_vec_lt _ (by omega : i < 2 * L + 1), if_neg (Nat.not_le.mpr h)]
  cases norm <;> rfl

theorem mentry_autocorrelation (x : List K) (m i j : ℕ) (hi : i < x.length + m) (hj : j ≤ m) :
    mentry (corrmtx x m .autocorrelation) i j = shiftEntry x i j := by
  unfold corrmtx
  exact mentry_vec_vec _ _ _ i j hi (Nat.lt_succ_of_le hj)

theorem mentry_covariance (x : List K) (m i j : ℕ) (hi : i < x.length - m) (hj : j ≤ m) :
    mentry (corrmtx x m .covariance) i j = nth x (i + m - j) :=
  (mentry_vec_vec _ _ _ i j hi (Nat.lt_succ_of_le hj)).trans (if_pos (by omega))

theorem mentry_modified_top (x : List K) (m i j : ℕ) (hi : i < x.length - m) (hj : j ≤ m) :
    mentry (corrmtx x m .modified) i j = nth x (i + m - j) := by
  unfold corrmtx mentry
  rw [getD_vec_lt _ (by omega), if_pos hi, nth_vec_lt _ (Nat.lt_succ_of_le hj)]
  exact if_pos (by omega)

theorem mentry_modified_bottom (x : List K) (m i j : ℕ) (hi : i < x.length - m) (hj : j ≤ m) :
    mentry (corrmtx x m .modified) (x.length - m + i) j = star (nth x (i + j)) := by
  unfold corrmtx mentry
  rw [getD_vec_lt _ (by omega), if_neg (by omega), nth_vec_lt _ (Nat.lt_succ_of_le hj),
    conj_eq_star, Nat.add_sub_cancel_left]

theorem hermToep_star (r : List K) (h0 : star (nth r 0) = nth r 0) (a b : ℕ) :
    star (hermToep r a b) = hermToep r b a := by
  unfold hermToep
  rcases Nat.lt_trichotomy a b with h | rfl | h
  · rw [if_neg (by omega), if_pos (by omega), star_star]
  · rw [if_pos (Nat.le_refl a), Nat.sub_self, h0]
  · rw [if_pos (by omega), if_neg (by omega)]

theorem gram_shift_ge (x : List K) (m a b : ℕ) (ha : a ≤ m) (hba : b ≤ a) :
    ∑ i ∈ range (x.length + m), star (shiftEntry x i a) * shiftEntry x i b
      = corrRaw x x x.length (a - b) := by
  have hb : ∀ j, b ≤ a + j := fun j => hba.trans (Nat.le_add_right a j)
  have e : ∀ j, a + j - b = j + (a - b) := fun j => by rw [Nat.add_comm a j, Nat.add_sub_assoc hba]
  rw [← Nat.add_sub_cancel' (ha.trans (Nat.le_add_left m x.length)), Finset.sum_range_add]
  have h0 : ∑ i ∈ range a, star (shiftEntry x i a) * shiftEntry x i b = 0 := by
    apply Finset.sum_eq_zero
    intro i hi
    rw [shiftEntry_of_lt x (mem_range.mp hi), star_zero, zero_mul]
  rw [h0, zero_add, corrRaw_eq]
  symm
  apply Finset.sum_subset_zero_on_sdiff
  · intro j hj
    have := mem_range.mp hj
    exact mem_range.mpr (by omega)
  · intro j hj
    rw [mem_sdiff, mem_range, mem_range, Nat.not_lt, Nat.sub_le_iff_le_add, ← e j] at hj
    rw [shiftEntry_of_le x (hb j), nth_of_ge x _ hj.2, mul_zero]
  · intro j _
    rw [shiftEntry_of_le x (Nat.le_add_right a j), shiftEntry_of_le x (hb j),
      Nat.add_sub_cancel_left, e j, mul_comm]

/-- the Gram matrix of the shifted data is the Hermitian Toeplitz matrix of the raw lag sums -/
theorem gram_shift (x : List K) (m a b : ℕ) (ha : a ≤ m) (hb : b ≤ m) :
    ∑ i ∈ range (x.length + m), star (shiftEntry x i a) * shiftEntry x i b
      = if b ≤ a then corrRaw x x x.length (a - b) else star (corrRaw x x x.length (b - a)) := by
  by_cases h : b ≤ a
  · rw [if_pos h, gram_shift_ge x m a b ha h]
  · rw [if_neg h, ← gram_shift_ge x m b a hb (by omega), star_sum]
    apply Finset.sum_congr rfl
    intro i _
    rw [star_mul', star_star, mul_comm]

theorem quad_form_gram (R C : ℕ) (X : ℕ → ℕ → K) (v : ℕ → K) :
    ∑ a ∈ range C, ∑ b ∈ range C, star (v a) * (∑ i ∈ range R, star (X i a) * X i b) * v b
      = ∑ i ∈ range R, star (∑ b ∈ range C, X i b * v b) * (∑ b ∈ range C, X i b * v b) := by
  have hR : ∀ i ∈ range R,
      star (∑ b ∈ range C, X i b * v b) * (∑ b ∈ range C, X i b * v b)
        = ∑ a ∈ range C, ∑ b ∈ range C, star (v a) * (star (X i a) * X i b) * v b := by
    intro i _
    rw [star_sum, Finset.sum_mul_sum]
    apply Finset.sum_congr rfl
    intro a _
    apply Finset.sum_congr rfl
    intro b _
    rw [star_mul']
    ring
  rw [Finset.sum_congr rfl hR]
  symm
  rw [Finset.sum_comm]
  apply Finset.sum_congr rfl
  intro a _
  rw [Finset.sum_comm]
  apply Finset.sum_congr rfl
  intro b _
  rw [Finset.mul_sum, Finset.sum_mul]

theorem biased_r0_eq_meanPow (x : List K) (maxlags : ℕ) (rms2 : K) :
    nth (correlation x x maxlags .biased rms2) 0 = meanPow x x.length
      ∧ star (nth (correlation x x maxlags .biased rms2) 0)
          = nth (correlation x x maxlags .biased rms2) 0 := by
  have h : nth (correlation x x maxlags .biased rms2) 0 = meanPow x x.length := by
    rw [nth_correlation_biased x x maxlags rms2 (Nat.zero_le _), Nat.max_self, corrRaw_zero_eq,
      meanPow_eq]
  refine ⟨h, ?_⟩
  rw [h, meanPow_eq, star_div₀, star_natCast, star_sum]
  congr 1
  apply Finset.sum_congr rfl
  intro j _
  rw [star_mul', star_star, mul_comm]

theorem gram_autocorrelation (x : List K) (m : ℕ) (rms2 : K) (hN : (x.length : K) ≠ 0) (a b : ℕ)
    (ha : a ≤ m) (hb : b ≤ m) :
    ∑ i ∈ range (x.length + m),
        star (mentry (corrmtx x m .autocorrelation) i a) * mentry (corrmtx x m .autocorrelation) i b
      = (x.length : K) * hermToep (correlation x x m .biased rms2) a b := by
  have hE : ∀ i ∈ range (x.length + m),
      star (mentry (corrmtx x m .autocorrelation) i a) * mentry (corrmtx x m .autocorrelation) i b
        = star (shiftEntry x i a) * shiftEntry x i b := by
    intro i hi
    rw [mentry_autocorrelation x m i a (mem_range.mp hi) ha,
      mentry_autocorrelation x m i b (mem_range.mp hi) hb]
  rw [Finset.sum_congr rfl hE, gram_shift x m a b ha hb]
  unfold hermToep
  by_cases h : b ≤ a
  · rw [if_pos h, if_pos h, nth_correlation_biased x x m rms2 ((Nat.sub_le a b).trans ha),
      Nat.max_self, mul_div_cancel₀ _ hN]
  · rw [if_neg h, if_neg h, nth_correlation_biased x x m rms2 ((Nat.sub_le b a).trans hb),
      Nat.max_self, star_div₀, star_natCast, mul_div_cancel₀ _ hN]

theorem toeplitz_quadratic_form (x : List K) (m : ℕ) (rms2 : K) (hN : (x.length : K) ≠ 0)
    (v : ℕ → K) :
    (x.length : K) * ∑ a ∈ range (m + 1), ∑ b ∈ range (m + 1),
        star (v a) * hermToep (correlation x x m .biased rms2) a b * v b
      = ∑ i ∈ range (x.length + m),
          star (∑ b ∈ range (m + 1), mentry (corrmtx x m .autocorrelation) i b * v b)
            * (∑ b ∈ range (m + 1), mentry (corrmtx x m .autocorrelation) i b * v b) := by
  rw [← quad_form_gram, Finset.mul_sum]
  apply Finset.sum_congr rfl
  intro a ha
  rw [Finset.mul_sum]
  apply Finset.sum_congr rfl
  intro b hb
  rw [gram_autocorrelation x m rms2 hN a b (Nat.lt_succ_iff.mp (mem_range.mp ha))
    (Nat.lt_succ_iff.mp (mem_range.mp hb))]
  ring

end

end SpecVerif
