import SpecVerif.Proofs.Lemmas.SincKernel
import SpecVerif.Proofs.Lemmas.DpssTri
import SpecVerif.Proofs.Lemmas.Eval
/-
  C18 — `dpss(N, NW, k)`: the Python glue around the C eigen-solver `multitap`.  The solver is a PARAMETER (`raws`, `tapsum` are
  inputs of `dpssGlue`); its contract — columns mutually orthogonal with squared norm `N`, `tapsum[i] = Σ_n raw_i[n]`, each column
  an eigenvector of the tridiagonal matrix `T` of `Model/DpssTri.lean` — enters as hypotheses and is checked on every run (driver
  command `dpsstri`).  Proved: shapes; scaling and flip give orthonormal columns and leave the ratio alone; the sign convention
  (odd tapers: sign read at the first sample above 1 % of the largest — the first samples of long wide-band tapers are below the
  solver's round-off); the recomputed ratio is `tᵀKt` for the sinc kernel, i.e. the energy inside `|f| ≤ W`, hence in `(0,1)` for
  `0 < NW < N/2`; `TK = KT` and `T` unreduced, hence an eigenvector of `T` is one of `K` and the reported ratio is its `K`-eigenvalue.
  NOT proved: that the `k` smallest eigenvalues of `T` belong to the `k` most concentrated sequences (Slepian 1978).
  Everything at `R := ℝ` (instance `instRealFnReal`).
-/
namespace SpecVerif.C18
open Finset SpecVerif SpecVerif.DpssL

theorem dpss_shape (N : ℕ) (NW : ℝ) (raws : List (List ℝ)) (tapsum : List ℝ) :
    (dpssGlue N NW raws tapsum).1.length = raws.length ∧
    (∀ t ∈ (dpssGlue N NW raws tapsum).1, t.length = N) ∧
    (dpssGlue N NW raws tapsum).2.length = raws.length := by
  refine ⟨by rw [glue_tapers_eq, vec_length], ?_, by rw [glue_eigvals_eq, vec_length]⟩
  intro t ht
  rw [glue_tapers_eq, mem_vec] at ht
  obtain ⟨i, _, rfl⟩ := ht
  exact dpssTaper_length N i _ _

theorem ratio_of_taper (N : ℕ) (NW : ℝ) (raws : List (List ℝ)) (tapsum : List ℝ) {i : ℕ}
    (hi : i < raws.length) :
    (dpssGlue N NW raws tapsum).2.getD i 0
      = dpssEigval N (NW / (N : ℝ)) ((dpssGlue N NW raws tapsum).1.getD i []) := by
  rw [glue_eigvals_eq, getD_vec_lt _ hi, glue_taper_getD N NW raws tapsum hi]

theorem flip_preserves_acvs (t : List ℝ) (d : ℕ) : acvs (t.map (fun v => -v)) d = acvs t d := by
  rw [acvs_eq, acvs_eq, List.length_map]
  apply Finset.sum_congr rfl
  intro n _
  rw [getD_map_neg, getD_map_neg]; ring

theorem flip_preserves_eigval (N : ℕ) (W : ℝ) (t : List ℝ) :
    dpssEigval N W (t.map (fun v => -v)) = dpssEigval N W t := by
  rw [dpssEigval_eq, dpssEigval_eq]
  apply Finset.sum_congr rfl
  intro d _
  rw [flip_preserves_acvs]

/-- inner products change sign under the flip (so orthogonality is preserved) -/
theorem flip_preserves_inner (N : ℕ) (t u : List ℝ) :
    ∑ n ∈ range N, (t.map (fun v => -v)).getD n 0 * u.getD n 0
      = -∑ n ∈ range N, t.getD n 0 * u.getD n 0 := by
  rw [← Finset.sum_neg_distrib]
  apply Finset.sum_congr rfl
  intro n _
  rw [getD_map_neg]; ring

theorem flip_preserves_normsq (N : ℕ) (t : List ℝ) :
    ∑ n ∈ range N, (t.map (fun v => -v)).getD n 0 * (t.map (fun v => -v)).getD n 0
      = ∑ n ∈ range N, t.getD n 0 * t.getD n 0 := by
  apply Finset.sum_congr rfl
  intro n _
  rw [getD_map_neg]; ring

/-- the reported ratio is that of the scaled raw column `raw/√N`, flipped or not -/
theorem eigval_flip_invariant (N i : ℕ) (W : ℝ) (raw : List ℝ) (ts : ℝ) :
    dpssEigval N W (dpssTaper N i raw ts)
      = dpssEigval N W (vec N (fun n => raw.getD n 0 / Real.sqrt (N : ℝ))) := by
  rcases dpssTaper_eq_or N i raw ts with h | h
  · rw [h, scaled]
  · rw [h, flip_preserves_eigval, scaled]

theorem unit_norm_of_contract {N : ℕ} (hN : 0 < N) (i : ℕ) (raw : List ℝ) (ts : ℝ)
    (hraw : ∑ n ∈ range N, raw.getD n 0 * raw.getD n 0 = (N : ℝ)) :
    ∑ n ∈ range N, (dpssTaper N i raw ts).getD n 0 * (dpssTaper N i raw ts).getD n 0 = 1 := by
  rw [normsq_dpssTaper, hraw]
  exact div_self (Nat.cast_ne_zero.mpr hN.ne')

/-- the normalisation hypothesis is satisfiable: `N = 2`, column `(1, -1)` -/
example : ∑ n ∈ range 2, ([1, -1] : List ℝ).getD n 0 * ([1, -1] : List ℝ).getD n 0 = ((2 : ℕ) : ℝ) := by
  simp only [spec_eval]
  norm_num only

theorem orthogonal_of_contract {N : ℕ} (i j : ℕ) (rawi rawj : List ℝ) (tsi tsj : ℝ)
    (horth : ∑ n ∈ range N, rawi.getD n 0 * rawj.getD n 0 = 0) :
    ∑ n ∈ range N, (dpssTaper N i rawi tsi).getD n 0 * (dpssTaper N j rawj tsj).getD n 0 = 0 := by
  obtain ⟨c, _, hc⟩ := dpssTaper_getD N i rawi tsi
  obtain ⟨d, _, hd⟩ := dpssTaper_getD N j rawj tsj
  rw [Finset.sum_congr rfl (fun n hn => by rw [hc n (Finset.mem_range.mp hn), hd n (Finset.mem_range.mp hn)]),
    sum_mul_mul_mul, horth, mul_zero]

/-- `dpss` output has orthonormal columns whenever the C routine's columns are mutually orthogonal with
squared norm `N` (the routine's contract) -/
theorem orthonormal_of_contract {N : ℕ} (hN : 0 < N) (NW : ℝ) (raws : List (List ℝ)) (tapsum : List ℝ)
    (hcontract : ∀ i j, i < raws.length → j < raws.length →
      ∑ n ∈ range N, (raws.getD i []).getD n 0 * (raws.getD j []).getD n 0
        = if i = j then (N : ℝ) else 0)
    {i j : ℕ} (hi : i < raws.length) (hj : j < raws.length) :
    ∑ n ∈ range N, ((dpssGlue N NW raws tapsum).1.getD i []).getD n 0
        * ((dpssGlue N NW raws tapsum).1.getD j []).getD n 0
      = if i = j then 1 else 0 := by
  rw [glue_taper_getD N NW raws tapsum hi, glue_taper_getD N NW raws tapsum hj]
  by_cases hij : i = j
  · subst hij
    rw [if_pos rfl]
    apply unit_norm_of_contract hN
    rw [hcontract i i hi hi, if_pos rfl]
  · rw [if_neg hij]
    apply orthogonal_of_contract
    rw [hcontract i j hi hj, if_neg hij]

/-- the contract is satisfiable: `N = 2`, columns `(1,1)` and `(1,-1)` -/
example : ∀ i j, i < ([[1, 1], [1, -1]] : List (List ℝ)).length → j < ([[1, 1], [1, -1]] : List (List ℝ)).length →
    ∑ n ∈ range 2, (([[1, 1], [1, -1]] : List (List ℝ)).getD i []).getD n 0
        * (([[1, 1], [1, -1]] : List (List ℝ)).getD j []).getD n 0
      = if i = j then ((2 : ℕ) : ℝ) else 0 := by
  intro i j hi hj
  have hi' : i = 0 ∨ i = 1 := by simp only [List.length_cons, List.length_nil] at hi; omega
  have hj' : j = 0 ∨ j = 1 := by simp only [List.length_cons, List.length_nil] at hj; omega
  rcases hi' with rfl | rfl <;> rcases hj' with rfl | rfl
  all_goals
    simp only [spec_eval]
    norm_num

theorem sign_convention_even_sum {N i : ℕ} (hi : i % 2 = 0) (raw : List ℝ) (ts : ℝ)
    (hts : ts = ∑ n ∈ range N, raw.getD n 0) :
    ∑ n ∈ range N, (dpssTaper N i raw ts).getD n 0
      = |∑ n ∈ range N, raw.getD n 0| / Real.sqrt (N : ℝ) := by
  rw [dpssTaper_even raw ts hi]
  split
  · next h =>
    rw [sum_map_neg, sum_scaled, ← hts, abs_of_neg h, neg_div]
  · next h =>
    rw [sum_scaled, ← hts, abs_of_nonneg (not_lt.mp h)]

/-- even-index taper: it suffices that the reported sum `ts` has the SIGN of the raw column's sum -/
theorem sign_convention_even {N i : ℕ} (hi : i % 2 = 0) (raw : List ℝ) (ts : ℝ)
    (hneg : ts < 0 → ∑ n ∈ range N, raw.getD n 0 ≤ 0)
    (hpos : 0 ≤ ts → 0 ≤ ∑ n ∈ range N, raw.getD n 0) :
    0 ≤ ∑ n ∈ range N, (dpssTaper N i raw ts).getD n 0 := by
  rw [dpssTaper_even raw ts hi]
  split
  · next h =>
    rw [sum_map_neg, sum_scaled, ← neg_div]
    exact div_nonneg (neg_nonneg.mpr (hneg h)) (Real.sqrt_nonneg _)
  · next h =>
    rw [sum_scaled]
    exact div_nonneg (hpos (not_lt.mp h)) (Real.sqrt_nonneg _)

/-- odd-index taper: read above the noise floor (`firstSignificant`: the first sample whose magnitude exceeds 1% of the
largest magnitude `absMax`; `0` if there is none) the taper starts with a positive lobe -/
theorem sign_convention_odd {N i : ℕ} (hi : i % 2 = 1) (raw : List ℝ) (ts : ℝ) :
    firstSignificant (dpssTaper N i raw ts)
      = |firstSignificant (vec N (fun n => raw.getD n 0 / Real.sqrt (N : ℝ)))| ∧
    0 ≤ firstSignificant (dpssTaper N i raw ts) := by
  have hi' : i % 2 ≠ 0 := by omega
  have key := firstSignificant_dpssTaper_odd (N := N) raw ts hi'
  rw [scaled] at key
  exact ⟨key, key ▸ abs_nonneg _⟩

/-- what `sign_convention_odd` means sample by sample, for a raw column that is not identically zero: the first significant
sample `t[k]` is POSITIVE, every sample before it is negligible, and `absMax t` is the largest magnitude, attained -/
theorem sign_convention_odd_leading_lobe {N i : ℕ} (hi : i % 2 = 1) (raw : List ℝ) (ts : ℝ)
    (hraw : ∃ n, n < N ∧ raw.getD n 0 ≠ 0) :
    ∃ k, k < N ∧
      (dpssTaper N i raw ts).getD k 0 = firstSignificant (dpssTaper N i raw ts) ∧
      0 < (dpssTaper N i raw ts).getD k 0 ∧
      absMax (dpssTaper N i raw ts) / 100 < (dpssTaper N i raw ts).getD k 0 ∧
      (∀ j, j < k → |(dpssTaper N i raw ts).getD j 0| ≤ absMax (dpssTaper N i raw ts) / 100) ∧
      (∀ n, |(dpssTaper N i raw ts).getD n 0| ≤ absMax (dpssTaper N i raw ts)) ∧
      ∃ m, m < N ∧ |(dpssTaper N i raw ts).getD m 0| = absMax (dpssTaper N i raw ts) := by
  have hi' : i % 2 ≠ 0 := by omega
  have hlen := dpssTaper_length N i raw ts
  have hfs := firstSignificant_dpssTaper_odd (N := N) raw ts hi'
  have hsc : firstSignificant (scaled N raw) ≠ 0 :=
    (firstSignificant_ne_zero_iff _).mpr (scaled_exists_ne_zero raw hraw)
  generalize dpssTaper N i raw ts = t at hlen hfs ⊢
  have hne : firstSignificant t ≠ 0 := by rw [hfs]; exact abs_ne_zero.mpr hsc
  have hnn : 0 ≤ firstSignificant t := by rw [hfs]; exact abs_nonneg _
  have hM := absMax_nonneg t
  obtain ⟨k, hk, hkb, hgt, hbefore⟩ := firstSignificant_spec hne
  rw [abs_of_nonneg hnn] at hgt
  refine ⟨k, hlen ▸ hk, hkb, ?_, ?_, hbefore, abs_getD_le_absMax t, ?_⟩
  · rw [hkb]; exact lt_of_le_of_ne hnn (Ne.symm hne)
  · rw [hkb]; exact hgt
  · rcases absMax_attained t with h0 | ⟨w, hw, hwe⟩
    · exfalso
      have := abs_le_absMax (firstSignificant_mem hne)
      rw [abs_of_nonneg hnn] at this
      rw [h0, zero_div] at hgt
      rw [h0] at this
      exact lt_irrefl _ (hgt.trans_le this)
    · obtain ⟨m, hm, hmw⟩ := exists_getD_of_mem hw
      exact ⟨m, hlen ▸ hm, by rw [hmw, hwe]⟩

/-- the hypothesis is satisfiable, and the rule differs from "sign of the very first sample": in
`[10⁻⁹, -1, 1, 0]` the first sample is positive but negligible, the first significant one is `-1` … -/
example : absMax ([1 / 1000000000, -1, 1, 0] : List ℝ) = 1 ∧
    firstSignificant ([1 / 1000000000, -1, 1, 0] : List ℝ) = -1 ∧
    0 < ([1 / 1000000000, -1, 1, 0] : List ℝ).getD 0 0 :=
  ⟨taper_example.1, taper_example.2, by norm_num⟩

/-- … so the odd-index taper built from the raw column `[2·10⁻⁹, -2, 2, 0]` (`N = 4`, `√N = 2`) IS flipped, to
`[-10⁻⁹, 1, -1, 0]`, whereas its first sample is positive -/
example : dpssTaper 4 1 ([2 / 1000000000, -2, 2, 0] : List ℝ) 0 = [-(1 / 1000000000), 1, -1, 0] := by
  have h4 : Real.sqrt ((4 : ℕ) : ℝ) = 2 := by
    rw [show ((4 : ℕ) : ℝ) = 2 * 2 by norm_num]; exact Real.sqrt_mul_self zero_le_two
  have hsc : scaled 4 ([2 / 1000000000, -2, 2, 0] : List ℝ) = [1 / 1000000000, -1, 1, 0] := by
    simp only [scaled, h4, spec_eval, spec_eval_proc]
    norm_num only
  rw [dpssTaper_odd _ _ (by norm_num), hsc, taper_example.2]
  norm_num

/-- the sign convention on the output of `dpss`, given the C routine's contract `tapsum[i] = Σ_n raw_i[n]` (odd index: the first
sample above 1% of the largest magnitude; by `sign_convention_odd_leading_lobe` it is positive and preceded only by negligible
samples when the column is not zero) -/
theorem sign_convention {N : ℕ} (NW : ℝ) (raws : List (List ℝ)) (tapsum : List ℝ) {i : ℕ}
    (hi : i < raws.length)
    (hts : tapsum.getD i 0 = ∑ n ∈ range N, (raws.getD i []).getD n 0) :
    (i % 2 = 0 → 0 ≤ ∑ n ∈ range N, ((dpssGlue N NW raws tapsum).1.getD i []).getD n 0) ∧
    (i % 2 = 1 → 0 ≤ firstSignificant ((dpssGlue N NW raws tapsum).1.getD i [])) := by
  rw [glue_taper_getD N NW raws tapsum hi]
  constructor
  · intro he
    rw [sign_convention_even_sum he _ _ hts]
    exact div_nonneg (abs_nonneg _) (Real.sqrt_nonneg _)
  · intro ho
    exact (sign_convention_odd ho _ _).2

theorem kernel_symmetric (W : ℝ) (n m : ℕ) : sincKernel W n m = sincKernel W m n :=
  sincKernel_symm W n m

/-- the recomputed ratio `Σ_d acvs_d(t) · r_d` is the quadratic form of the sinc concentration kernel (written out), i.e. the
energy of `t` inside `|f| ≤ W` in its time-domain form; any `W`, including `W = 0` -/
theorem eigval_is_rayleigh (N : ℕ) (W : ℝ) (t : List ℝ) (ht : t.length = N) :
    dpssEigval N W t
      = ∑ n ∈ range N, ∑ m ∈ range N,
          t.getD n 0 *
            (if n = m then 2 * W
             else Real.sin (2 * Real.pi * W * ((n : ℝ) - (m : ℝ))) / (Real.pi * ((n : ℝ) - (m : ℝ))))
            * t.getD m 0 := by
  rw [eigval_eq_quadform N W t ht]
  simp only [sincKernel]

theorem reported_ratio_is_rayleigh (N : ℕ) (NW : ℝ) (raws : List (List ℝ)) (tapsum : List ℝ) {i : ℕ}
    (hi : i < raws.length) :
    (dpssGlue N NW raws tapsum).2.getD i 0
      = ∑ n ∈ range N, ∑ m ∈ range N,
          ((dpssGlue N NW raws tapsum).1.getD i []).getD n 0 * sincKernel (NW / (N : ℝ)) n m
            * ((dpssGlue N NW raws tapsum).1.getD i []).getD m 0 := by
  rw [ratio_of_taper N NW raws tapsum hi]
  apply eigval_eq_quadform
  rw [glue_taper_getD N NW raws tapsum hi]
  exact dpssTaper_length N i _ _

theorem eigval_of_eigenvector (N : ℕ) (W μ : ℝ) (t : List ℝ) (ht : t.length = N)
    (hev : ∀ n, n < N → ∑ m ∈ range N, sincKernel W n m * t.getD m 0 = μ * t.getD n 0)
    (hunit : ∑ n ∈ range N, t.getD n 0 * t.getD n 0 = 1) :
    dpssEigval N W t = μ := by
  rw [eigval_eq_quadform N W t ht]
  exact quadform_of_eigvec N (sincKernel W) μ (fun n => t.getD n 0) hev hunit

/-- agreement with the eigen-solver, when the raw column is an eigenvector of the sinc kernel itself (`W = NW/N`; squared norm `N`
is the C routine's contract) -/
theorem reported_ratio_eq_eigenvalue_of_contract {N : ℕ} (hN : 0 < N) (NW μ : ℝ)
    (raws : List (List ℝ)) (tapsum : List ℝ) {i : ℕ} (hi : i < raws.length)
    (hev : ∀ n, n < N → ∑ m ∈ range N, sincKernel (NW / (N : ℝ)) n m * (raws.getD i []).getD m 0
      = μ * (raws.getD i []).getD n 0)
    (hnorm : ∑ n ∈ range N, (raws.getD i []).getD n 0 * (raws.getD i []).getD n 0 = (N : ℝ)) :
    (∀ n, n < N →
      ∑ m ∈ range N, sincKernel (NW / (N : ℝ)) n m * ((dpssGlue N NW raws tapsum).1.getD i []).getD m 0
        = μ * ((dpssGlue N NW raws tapsum).1.getD i []).getD n 0) ∧
    (dpssGlue N NW raws tapsum).2.getD i 0 = μ := by
  rw [ratio_of_taper N NW raws tapsum hi, glue_taper_getD N NW raws tapsum hi]
  have hT := eigvec_dpssTaper N i (sincKernel (NW / (N : ℝ))) μ _ (tapsum.getD i 0) hev
  exact ⟨hT, eigval_of_eigenvector N _ μ _ (dpssTaper_length N i _ _) hT
    (unit_norm_of_contract hN i _ _ hnorm)⟩

/-- the eigenvector contract is satisfiable: `N = 2`, `W = 1/4`, `K = [[1/2, 1/π], [1/π, 1/2]]`,
column `(1, 1)` with eigenvalue `1/2 + 1/π` and squared norm `2 = N` -/
example : ∀ n, n < 2 → ∑ m ∈ range 2, sincKernel (1 / 4) n m * ([1, 1] : List ℝ).getD m 0
      = (1 / 2 + 1 / Real.pi) * ([1, 1] : List ℝ).getD n 0 := by
  have h10 : sincKernel (1 / 4) 1 0 = 1 / Real.pi := by
    have h := sincKernel_add_left (1 / 4) 0 1
    rw [zero_add, Nat.cast_one, rho, if_neg one_ne_zero,
      show 2 * Real.pi * (1 / 4) * 1 = Real.pi / 2 by ring, Real.sin_pi_div_two, mul_one] at h
    exact h
  have h01 : sincKernel (1 / 4) 0 1 = 1 / Real.pi := by rw [sincKernel_symm, h10]
  intro n hn
  have hn' : n = 0 ∨ n = 1 := by omega
  rcases hn' with rfl | rfl
  all_goals
    simp only [spec_eval, sincKernel_diag, h01, h10]
    ring

theorem reported_ratio_unit {N : ℕ} (hN : 0 < N) (NW : ℝ) (raws : List (List ℝ)) (tapsum : List ℝ) {i : ℕ}
    (hi : i < raws.length)
    (hnorm : ∑ n ∈ range N, (raws.getD i []).getD n 0 * (raws.getD i []).getD n 0 = (N : ℝ)) :
    ∃ t : ℕ → ℝ, ∑ n ∈ range N, t n * t n = 1 ∧
      (dpssGlue N NW raws tapsum).2.getD i 0
        = ∑ n ∈ range N, ∑ m ∈ range N, t n * sincKernel (NW / (N : ℝ)) n m * t m :=
  ⟨_, unit_norm_of_contract hN i _ _ hnorm, by
    rw [reported_ratio_is_rayleigh N NW raws tapsum hi, glue_taper_getD N NW raws tapsum hi]⟩

/-- if `0 ≤ vᵀKv ≤ vᵀv` for all `v` (`sinc_kernel_bounds`) then the ratio reported for a unit taper lies in `[0,1]` -/
theorem rayleigh_in_unit_interval_of_kernel_bounds (N : ℕ) (W : ℝ)
    (hK : ∀ v : ℕ → ℝ,
      0 ≤ ∑ n ∈ range N, ∑ m ∈ range N, v n * sincKernel W n m * v m ∧
      ∑ n ∈ range N, ∑ m ∈ range N, v n * sincKernel W n m * v m ≤ ∑ n ∈ range N, v n * v n)
    (t : List ℝ) (ht : t.length = N) (hunit : ∑ n ∈ range N, t.getD n 0 * t.getD n 0 = 1) :
    0 ≤ dpssEigval N W t ∧ dpssEigval N W t ≤ 1 := by
  rw [eigval_eq_quadform N W t ht]
  have h := hK (fun n => t.getD n 0)
  exact ⟨h.1, hunit ▸ h.2⟩

/-- the kernel-bound hypothesis is satisfiable: `N = 1`, `W = 1/4` (`K = [1/2]`) -/
example : ∀ v : ℕ → ℝ,
    0 ≤ ∑ n ∈ range 1, ∑ m ∈ range 1, v n * sincKernel (1 / 4) n m * v m ∧
    ∑ n ∈ range 1, ∑ m ∈ range 1, v n * sincKernel (1 / 4) n m * v m ≤ ∑ n ∈ range 1, v n * v n := by
  intro v
  simp only [Finset.sum_range_one, sincKernel_diag]
  have h := mul_self_nonneg (v 0)
  rw [mul_right_comm]
  exact ⟨mul_nonneg h (by norm_num), mul_le_of_le_one_right h (by norm_num)⟩

theorem reported_ratio_in_unit_interval {N : ℕ} (hN : 0 < N) (NW : ℝ) (raws : List (List ℝ))
    (tapsum : List ℝ)
    (hK : ∀ v : ℕ → ℝ,
      0 ≤ ∑ n ∈ range N, ∑ m ∈ range N, v n * sincKernel (NW / (N : ℝ)) n m * v m ∧
      ∑ n ∈ range N, ∑ m ∈ range N, v n * sincKernel (NW / (N : ℝ)) n m * v m
        ≤ ∑ n ∈ range N, v n * v n)
    {i : ℕ} (hi : i < raws.length)
    (hnorm : ∑ n ∈ range N, (raws.getD i []).getD n 0 * (raws.getD i []).getD n 0 = (N : ℝ)) :
    0 ≤ (dpssGlue N NW raws tapsum).2.getD i 0 ∧ (dpssGlue N NW raws tapsum).2.getD i 0 ≤ 1 := by
  obtain ⟨t, ht, h⟩ := reported_ratio_unit hN NW raws tapsum hi hnorm
  rw [h]
  exact ⟨(hK t).1, ht ▸ (hK t).2⟩

open SpecVerif.SincL in
/-- `vᵀKv` is the energy of the trigonometric polynomial `Σ_n v_n e^{2πifn}` inside the band `|f| ≤ W`, and `vᵀv` its energy over
the whole period `|f| ≤ 1/2` (Parseval); `|Σ_n v_n e^{2πifn}|²` in real form; any real `W` -/
theorem kernel_quadform_is_inband_energy (N : ℕ) (W : ℝ) (v : ℕ → ℝ) :
    ∑ n ∈ range N, ∑ m ∈ range N, v n * sincKernel W n m * v m
      = ∫ f in (-W)..W, ((∑ n ∈ range N, v n * Real.cos (2 * Real.pi * f * (n : ℝ))) ^ 2
          + (∑ n ∈ range N, v n * Real.sin (2 * Real.pi * f * (n : ℝ))) ^ 2) ∧
    ∑ n ∈ range N, v n * v n
      = ∫ f in (-(1 / 2 : ℝ))..(1 / 2), ((∑ n ∈ range N, v n * Real.cos (2 * Real.pi * f * (n : ℝ))) ^ 2
          + (∑ n ∈ range N, v n * Real.sin (2 * Real.pi * f * (n : ℝ))) ^ 2) := by
  have h1 := quadform_eq_integral N W v
  have h2 := normsq_eq_integral N v
  simp only [specDensity] at h1 h2
  exact ⟨h1, h2⟩

/-- `0 ≤ vᵀKv ≤ vᵀv` for `0 ≤ W ≤ 1/2`: energy inside the band ≤ energy over the period (`kernel_quadform_is_inband_energy`) -/
theorem sinc_kernel_bounds (N : ℕ) (W : ℝ) (h0 : 0 ≤ W) (h1 : W ≤ 1 / 2) :
    ∀ v : ℕ → ℝ,
      0 ≤ ∑ n ∈ range N, ∑ m ∈ range N, v n * sincKernel W n m * v m ∧
      ∑ n ∈ range N, ∑ m ∈ range N, v n * sincKernel W n m * v m ≤ ∑ n ∈ range N, v n * v n :=
  fun v => ⟨SincL.quadform_nonneg N h0 v, SincL.quadform_le_normsq N h0 h1 v⟩

/-- instance inside the property's domain: `N = 3`, `NW = 1`, `W = 1/3` -/
example : ∀ v : ℕ → ℝ,
    0 ≤ ∑ n ∈ range 3, ∑ m ∈ range 3, v n * sincKernel (1 / 3) n m * v m ∧
    ∑ n ∈ range 3, ∑ m ∈ range 3, v n * sincKernel (1 / 3) n m * v m ≤ ∑ n ∈ range 3, v n * v n :=
  sinc_kernel_bounds 3 (1 / 3) (by norm_num) (by norm_num)

/-- positivity alone needs only `0 < W` (any bandwidth, also `W > 1/2`) -/
theorem sinc_kernel_pos_def (N : ℕ) (W : ℝ) (h0 : 0 < W) (v : ℕ → ℝ) (hv : ∃ n, n < N ∧ v n ≠ 0) :
    0 < ∑ n ∈ range N, ∑ m ∈ range N, v n * sincKernel W n m * v m := by
  rw [SincL.quadform_eq_integral]
  exact SincL.integral_specDensity_pos N v hv (by linarith)

/-- strict for `0 < W < 1/2` and `v` not identically zero on `[0,N)`: a non-zero trigonometric polynomial has positive energy
in every interval of positive length, in the band and outside it -/
theorem sinc_kernel_bounds_strict (N : ℕ) (W : ℝ) (h0 : 0 < W) (h1 : W < 1 / 2)
    (v : ℕ → ℝ) (hv : ∃ n, n < N ∧ v n ≠ 0) :
    0 < ∑ n ∈ range N, ∑ m ∈ range N, v n * sincKernel W n m * v m ∧
    ∑ n ∈ range N, ∑ m ∈ range N, v n * sincKernel W n m * v m < ∑ n ∈ range N, v n * v n :=
  ⟨sinc_kernel_pos_def N W h0 v hv, SincL.quadform_lt_normsq N h0.le h1 v hv⟩

/-- the hypotheses of the strict bounds are satisfiable: `N = 2`, `W = 1/4`, `v = (1, -1, 0, …)` gives
`vᵀKv = 1 - 2/π ∈ (0, 2)` -/
example : 0 < ∑ n ∈ range 2, ∑ m ∈ range 2,
      (fun k : ℕ => if k = 0 then (1 : ℝ) else if k = 1 then -1 else 0) n * sincKernel (1 / 4) n m
        * (fun k : ℕ => if k = 0 then (1 : ℝ) else if k = 1 then -1 else 0) m :=
  (sinc_kernel_bounds_strict 2 (1 / 4) (by norm_num) (by norm_num) _ ⟨0, by norm_num, by norm_num⟩).1

/-- the ratio `dpss` recomputes for a unit taper lies in `[0,1]` for `0 ≤ W ≤ 1/2` -/
theorem rayleigh_in_unit_interval (N : ℕ) (W : ℝ) (h0 : 0 ≤ W) (h1 : W ≤ 1 / 2)
    (t : List ℝ) (ht : t.length = N) (hunit : ∑ n ∈ range N, t.getD n 0 * t.getD n 0 = 1) :
    0 ≤ dpssEigval N W t ∧ dpssEigval N W t ≤ 1 :=
  rayleigh_in_unit_interval_of_kernel_bounds N W (sinc_kernel_bounds N W h0 h1) t ht hunit

/-- … and strictly inside `(0,1)` for `0 < W < 1/2` -/
theorem rayleigh_in_open_unit_interval (N : ℕ) (W : ℝ) (h0 : 0 < W) (h1 : W < 1 / 2)
    (t : List ℝ) (ht : t.length = N) (hunit : ∑ n ∈ range N, t.getD n 0 * t.getD n 0 = 1) :
    0 < dpssEigval N W t ∧ dpssEigval N W t < 1 := by
  rw [eigval_eq_quadform N W t ht]
  have h := sinc_kernel_bounds_strict N W h0 h1 (fun n => t.getD n 0)
    (exists_ne_zero_of_normsq _ (by rw [hunit]; exact one_ne_zero))
  exact ⟨h.1, hunit ▸ h.2⟩

/-- `[0,1]` on `0 ≤ NW ≤ N/2`, i.e. `W = NW/N ∈ [0, 1/2]` -/
theorem reported_ratio_in_unit_interval_unconditional {N : ℕ} (hN : 0 < N) (NW : ℝ) (raws : List (List ℝ))
    (tapsum : List ℝ) (hNW0 : 0 ≤ NW) (hNW1 : NW ≤ (N : ℝ) / 2)
    {i : ℕ} (hi : i < raws.length)
    (hnorm : ∑ n ∈ range N, (raws.getD i []).getD n 0 * (raws.getD i []).getD n 0 = (N : ℝ)) :
    0 ≤ (dpssGlue N NW raws tapsum).2.getD i 0 ∧ (dpssGlue N NW raws tapsum).2.getD i 0 ≤ 1 := by
  have hNR : (0 : ℝ) < (N : ℝ) := Nat.cast_pos.mpr hN
  exact reported_ratio_in_unit_interval hN NW raws tapsum
    (sinc_kernel_bounds N _ (div_nonneg hNW0 hNR.le)
      ((div_le_iff₀ hNR).mpr (by rw [one_div, inv_mul_eq_div]; exact hNW1))) hi hnorm

/-- the hypotheses are satisfiable, also at the end point `NW = N/2`: `N = 2`, `NW = 1`, raw column `(1, 1)` -/
example : 0 ≤ (dpssGlue 2 (1 : ℝ) [[1, 1]] [2]).2.getD 0 0 ∧ (dpssGlue 2 (1 : ℝ) [[1, 1]] [2]).2.getD 0 0 ≤ 1 :=
  reported_ratio_in_unit_interval_unconditional (N := 2) (i := 0) (by norm_num) 1 [[1, 1]] [2] (by norm_num) (by norm_num)
    (by decide) (by simp only [spec_eval, spec_eval_proc]; norm_num only)

/-- the property on its whole domain and more (`1 ≤ NW < N/2` is inside `0 < NW < N/2`) -/
theorem reported_ratio_in_open_unit_interval {N : ℕ} (hN : 0 < N) (NW : ℝ) (raws : List (List ℝ))
    (tapsum : List ℝ) (hNW0 : 0 < NW) (hNW1 : NW < (N : ℝ) / 2)
    {i : ℕ} (hi : i < raws.length)
    (hnorm : ∑ n ∈ range N, (raws.getD i []).getD n 0 * (raws.getD i []).getD n 0 = (N : ℝ)) :
    0 < (dpssGlue N NW raws tapsum).2.getD i 0 ∧ (dpssGlue N NW raws tapsum).2.getD i 0 < 1 := by
  have hNR : (0 : ℝ) < (N : ℝ) := Nat.cast_pos.mpr hN
  obtain ⟨t, ht, h⟩ := reported_ratio_unit hN NW raws tapsum hi hnorm
  rw [h]
  have hb := sinc_kernel_bounds_strict N _ (div_pos hNW0 hNR)
    ((div_lt_iff₀ hNR).mpr (by rw [one_div, inv_mul_eq_div]; exact hNW1)) t
    (exists_ne_zero_of_normsq t (by rw [ht]; exact one_ne_zero))
  exact ⟨hb.1, ht ▸ hb.2⟩

/-- the concentration ratios lie in `(0, 1]` on the closed range `0 < NW ≤ N/2` (at `NW = N/2` the kernel is the
identity and every ratio is exactly 1) -/
theorem reported_ratio_in_Ioc {N : ℕ} (hN : 0 < N) (NW : ℝ) (raws : List (List ℝ))
    (tapsum : List ℝ) (hNW0 : 0 < NW) (hNW1 : NW ≤ (N : ℝ) / 2)
    {i : ℕ} (hi : i < raws.length)
    (hnorm : ∑ n ∈ range N, (raws.getD i []).getD n 0 * (raws.getD i []).getD n 0 = (N : ℝ)) :
    0 < (dpssGlue N NW raws tapsum).2.getD i 0 ∧ (dpssGlue N NW raws tapsum).2.getD i 0 ≤ 1 := by
  refine ⟨?_, (reported_ratio_in_unit_interval_unconditional hN NW raws tapsum hNW0.le hNW1 hi hnorm).2⟩
  obtain ⟨t, ht, h⟩ := reported_ratio_unit hN NW raws tapsum hi hnorm
  rw [h]
  exact sinc_kernel_pos_def N _ (div_pos hNW0 (Nat.cast_pos.mpr hN)) t
    (exists_ne_zero_of_normsq t (by rw [ht]; exact one_ne_zero))

/-- the hypotheses are satisfiable inside the property's domain `1 ≤ NW < N/2`: `N = 3`, `NW = 1`, one raw column
`(1, 1, 1)` of squared norm `3 = N` -/
example : 0 < (dpssGlue 3 (1 : ℝ) [[1, 1, 1]] [3]).2.getD 0 0 ∧
    (dpssGlue 3 (1 : ℝ) [[1, 1, 1]] [3]).2.getD 0 0 < 1 :=
  reported_ratio_in_open_unit_interval (N := 3) (i := 0) (by norm_num) 1 [[1, 1, 1]] [3] (by norm_num) (by norm_num)
    (by decide) (by simp only [spec_eval, spec_eval_proc]; norm_num only)

/-! `multitap` (src/cpp/mydpss.c) does not diagonalise the (ill-conditioned) kernel `K` but the tridiagonal matrix `T` of
`Model/DpssTri.lean` (formulas and EISPACK convention there).

NOT proved (and not needed for what follows): that the ORDER of the eigenvalues of `T` matches the order of the eigenvalues
of `K` — i.e. that the `nwin` smallest eigenvalues of `T` (which the routine selects) belong to the `nwin` MOST concentrated
sequences.  That is Slepian's deeper result (Slepian 1978, via the oscillation / sign-change count of the eigenvectors);
here only "eigenvector of `T` ⇒ eigenvector of `K`, and the reported ratio is its `K`-eigenvalue" is established. -/

/-- the entries of the model's matrix at `ℝ`, spelled out: the C formulas -/
theorem tridiag_entries (N : ℕ) (W : ℝ) (i j : ℕ) :
    dpssTriEntry N W i j
      = if i = j then -Real.cos (2 * Real.pi * W) * (((N : ℝ) - 1) / 2 - (i : ℝ)) ^ 2
        else if i + 1 = j then -((j : ℝ) * ((N : ℝ) - (j : ℝ))) / 2
        else if j + 1 = i then -((i : ℝ) * ((N : ℝ) - (i : ℝ))) / 2
        else 0 := by
  unfold dpssTriEntry
  rw [DpssTriL.dpssDiag_real, DpssTriL.dpssOff_real, DpssTriL.dpssOff_real]

theorem tridiag_symmetric (N : ℕ) (W : ℝ) (i j : ℕ) : dpssTriEntry N W i j = dpssTriEntry N W j i :=
  DpssTriL.dpssTriEntry_symm N W i j

/-- the model's three-term product `dpssTriMul` IS the matrix–vector product with these entries -/
theorem tridiag_mul_is_matrix_product {N : ℕ} (W : ℝ) (v : List ℝ) {i : ℕ} (hi : i < N) :
    (dpssTriMul N W v).getD i 0 = ∑ j ∈ range N, dpssTriEntry N W i j * v.getD j 0 := by
  rw [DpssTriL.sum_entry_eq_triRow W (fun j => v.getD j 0) hi]
  change nth (dpssTriMul N W v) i = _
  unfold dpssTriMul
  rw [nth_vec_lt _ hi, DpssTriL.dpssOff_succ_ite hi, DpssTriL.dpssOff_zero_ite]
  rfl

/-- `T K = K T` (Slepian 1978), entry by entry, for every `N ≥ 1` and EVERY real `W`; per entry this is
`sin(θ(k-1)) + sin(θ(k+1)) = 2 cos θ · sin(θk)` with `θ = 2πW`, `k = m - n` -/
theorem tridiag_commutes_with_kernel {N : ℕ} (W : ℝ) {m n : ℕ} (hm : m < N) (hn : n < N) :
    ∑ j ∈ range N, dpssTriEntry N W m j * sincKernel W j n
      = ∑ j ∈ range N, sincKernel W m j * dpssTriEntry N W j n :=
  DpssTriL.tri_mul_kernel_comm W hm hn

theorem tridiag_commutes_with_kernel_explicit {N : ℕ} (W : ℝ) {m n : ℕ} (hm : m < N) (hn : n < N) :
    ∑ j ∈ range N,
        (if m = j then -Real.cos (2 * Real.pi * W) * (((N : ℝ) - 1) / 2 - (m : ℝ)) ^ 2
         else if m + 1 = j then -((j : ℝ) * ((N : ℝ) - (j : ℝ))) / 2
         else if j + 1 = m then -((m : ℝ) * ((N : ℝ) - (m : ℝ))) / 2 else 0)
        * (if j = n then 2 * W
           else Real.sin (2 * Real.pi * W * ((j : ℝ) - (n : ℝ))) / (Real.pi * ((j : ℝ) - (n : ℝ))))
      = ∑ j ∈ range N,
        (if m = j then 2 * W
         else Real.sin (2 * Real.pi * W * ((m : ℝ) - (j : ℝ))) / (Real.pi * ((m : ℝ) - (j : ℝ))))
        * (if j = n then -Real.cos (2 * Real.pi * W) * (((N : ℝ) - 1) / 2 - (j : ℝ)) ^ 2
           else if j + 1 = n then -((n : ℝ) * ((N : ℝ) - (n : ℝ))) / 2
           else if n + 1 = j then -((j : ℝ) * ((N : ℝ) - (j : ℝ))) / 2 else 0) := by
  have h := tridiag_commutes_with_kernel W hm hn
  simp only [tridiag_entries, sincKernel] at h
  exact h

/-- the matrix is UNREDUCED: every coupling `offdiag[i]`, `1 ≤ i ≤ N-1`, is non-zero (negative) -/
theorem tridiag_unreduced {N i : ℕ} (h1 : 1 ≤ i) (h2 : i < N) : (dpssOff N i : ℝ) < 0 ∧ (dpssOff N i : ℝ) ≠ 0 :=
  ⟨DpssTriL.dpssOff_neg h1 h2, DpssTriL.dpssOff_ne_zero h1 h2⟩

/-- three-term recurrence: an eigenvector of `T` whose first component is `0` is the zero vector -/
theorem tridiag_eigvec_zero_of_first_zero {N : ℕ} {W θ : ℝ} {v : ℕ → ℝ}
    (hev : ∀ i, i < N → ∑ j ∈ range N, dpssTriEntry N W i j * v j = θ * v i) (h0 : v 0 = 0) :
    ∀ i, i < N → v i = 0 := by
  intro i
  induction i using Nat.strong_induction_on with
  | _ i ih =>
    intro hi
    cases i with
    | zero => exact h0
    | succ k =>
      -- row `k` reads `offdiag[k]·v(k-1) + diag[k]·v(k) + offdiag[k+1]·v(k+1) = θ·v(k)` with `v(k-1) = v(k) = 0`
      have hk : k < N := by omega
      have vk1 : v (k - 1) = 0 := by
        rcases k.eq_zero_or_pos with rfl | hpos
        · exact h0
        · exact ih (k - 1) (by omega) (by omega)
      have hrow := hev k hk
      rw [DpssTriL.sum_entry_eq_triRow W v hk, DpssTriL.triRow, vk1, ih k (by omega) hk, mul_zero, mul_zero, mul_zero,
        zero_add, zero_add] at hrow
      exact (mul_eq_zero.mp hrow).resolve_left (DpssTriL.dpssOff_ne_zero (by omega) hi)

/-- simple eigenvalues: two eigenvectors of `T` for the same eigenvalue are proportional -/
theorem tridiag_eigenspace_one_dimensional {N : ℕ} {W θ : ℝ} {u v : ℕ → ℝ}
    (hu : ∀ i, i < N → ∑ j ∈ range N, dpssTriEntry N W i j * u j = θ * u i)
    (hv : ∀ i, i < N → ∑ j ∈ range N, dpssTriEntry N W i j * v j = θ * v i)
    (hne : ∃ i, i < N ∧ v i ≠ 0) :
    ∃ c : ℝ, ∀ i, i < N → u i = c * v i := by
  have hv0 : v 0 ≠ 0 := fun h0 => by
    obtain ⟨i, hi, hvi⟩ := hne
    exact hvi (tridiag_eigvec_zero_of_first_zero hv h0 i hi)
  refine ⟨u 0 / v 0, fun i hi => ?_⟩
  have h : v 0 * u i + -(u 0) * v i = 0 :=
    tridiag_eigvec_zero_of_first_zero (DpssTriL.eigvec_lincomb hu hv (v 0) (-(u 0))) (by ring) i hi
  field_simp
  linarith

/-- transfer: `T (K v) = K (T v) = θ (K v)` and the `θ`-eigenspace of `T` is a line -/
theorem tridiag_eigenvector_is_kernel_eigenvector {N : ℕ} {W θ : ℝ} {v : ℕ → ℝ}
    (hev : ∀ i, i < N → ∑ j ∈ range N, dpssTriEntry N W i j * v j = θ * v i)
    (hne : ∃ i, i < N ∧ v i ≠ 0) :
    ∃ μ : ℝ, ∀ n, n < N → ∑ m ∈ range N, sincKernel W n m * v m = μ * v n :=
  tridiag_eigenspace_one_dimensional (DpssTriL.kernel_apply_eigvec hev) hev hne

/-- non-vacuity (`N = 3`, every `W`): `(1, 0, -1)` is an eigenvector of `T` for `θ = -cos(2πW)`; it is not zero -/
example (W : ℝ) : (∀ i, i < 3 → ∑ j ∈ range 3, dpssTriEntry 3 W i j * ([1, 0, -1] : List ℝ).getD j 0
      = -Real.cos (2 * Real.pi * W) * ([1, 0, -1] : List ℝ).getD i 0) ∧
    ∃ i, i < 3 ∧ ([1, 0, -1] : List ℝ).getD i 0 ≠ 0 := by
  refine ⟨?_, 0, by norm_num, by norm_num⟩
  intro i hi
  rw [DpssTriL.sum_entry_eq_triRow W _ hi]
  obtain rfl | rfl | rfl : i = 0 ∨ i = 1 ∨ i = 2 := by omega
  all_goals
    simp only [DpssTriL.triRow, DpssTriL.dpssOff_real, DpssTriL.dpssDiag_real, spec_eval, spec_eval_proc]
    norm_num

/-- C18 "the columns agree with an independent eigen-solver": if the raw column is an eigenvector of the matrix the C code
diagonalises (`dpssTriMul`, `W = NW/N`) and has squared norm `N`, then the raw column and the returned taper are kernel eigenvectors
for one `μ`, and the returned ratio is `μ` -/
theorem reported_ratio_eq_kernel_eigenvalue_of_tridiag_eigenvector {N : ℕ} (hN : 0 < N) (NW θ : ℝ)
    (raws : List (List ℝ)) (tapsum : List ℝ) {i : ℕ} (hi : i < raws.length)
    (htri : ∀ n, n < N →
      (dpssTriMul N (NW / (N : ℝ)) (raws.getD i [])).getD n 0 = θ * (raws.getD i []).getD n 0)
    (hnorm : ∑ n ∈ range N, (raws.getD i []).getD n 0 * (raws.getD i []).getD n 0 = (N : ℝ)) :
    ∃ μ : ℝ,
      (∀ n, n < N → ∑ m ∈ range N, sincKernel (NW / (N : ℝ)) n m * (raws.getD i []).getD m 0
        = μ * (raws.getD i []).getD n 0) ∧
      (∀ n, n < N →
        ∑ m ∈ range N, sincKernel (NW / (N : ℝ)) n m * ((dpssGlue N NW raws tapsum).1.getD i []).getD m 0
          = μ * ((dpssGlue N NW raws tapsum).1.getD i []).getD n 0) ∧
      (dpssGlue N NW raws tapsum).2.getD i 0 = μ := by
  have hev : ∀ n, n < N → ∑ j ∈ range N, dpssTriEntry N (NW / (N : ℝ)) n j * (raws.getD i []).getD j 0
      = θ * (raws.getD i []).getD n 0 := by
    intro n hn
    rw [← tridiag_mul_is_matrix_product _ _ hn]
    exact htri n hn
  obtain ⟨μ, hμ⟩ := tridiag_eigenvector_is_kernel_eigenvector (v := fun n => (raws.getD i []).getD n 0) hev
    (exists_ne_zero_of_normsq _ (by rw [hnorm]; exact Nat.cast_ne_zero.mpr hN.ne'))
  obtain ⟨h1, h2⟩ := reported_ratio_eq_eigenvalue_of_contract hN NW μ raws tapsum hi hμ hnorm
  exact ⟨μ, hμ, h1, h2⟩

/-- the same for a whole call -/
theorem dpss_columns_are_kernel_eigenvectors_of_tridiag {N : ℕ} (hN : 0 < N) (NW : ℝ)
    (raws : List (List ℝ)) (tapsum : List ℝ)
    (htri : ∀ i, i < raws.length → ∃ θ : ℝ, ∀ n, n < N →
      (dpssTriMul N (NW / (N : ℝ)) (raws.getD i [])).getD n 0 = θ * (raws.getD i []).getD n 0)
    (hnorm : ∀ i, i < raws.length →
      ∑ n ∈ range N, (raws.getD i []).getD n 0 * (raws.getD i []).getD n 0 = (N : ℝ)) :
    ∀ i, i < raws.length →
      ∀ n, n < N →
        ∑ m ∈ range N, sincKernel (NW / (N : ℝ)) n m * ((dpssGlue N NW raws tapsum).1.getD i []).getD m 0
          = (dpssGlue N NW raws tapsum).2.getD i 0 * ((dpssGlue N NW raws tapsum).1.getD i []).getD n 0 := by
  intro i hi
  obtain ⟨θ, hθ⟩ := htri i hi
  obtain ⟨μ, _, h2, h3⟩ :=
    reported_ratio_eq_kernel_eigenvalue_of_tridiag_eigenvector hN NW θ raws tapsum hi hθ (hnorm i hi)
  rw [h3]
  exact h2

/-- the hypotheses are satisfiable (`N = 2`, `NW = 1/2`, i.e. `W = 1/4`, `cos(2πW) = 0`, `T = [[0, -1/2], [-1/2, 0]]`):
the column `(1, 1)` is an eigenvector of `T` for `θ = -1/2` and has squared norm `2 = N` -/
example : (∀ n, n < 2 → (dpssTriMul 2 ((1 / 2 : ℝ) / ((2 : ℕ) : ℝ)) (([[1, 1]] : List (List ℝ)).getD 0 [])).getD n 0
      = -(1 / 2) * (([[1, 1]] : List (List ℝ)).getD 0 []).getD n 0) ∧
    ∑ n ∈ range 2, (([[1, 1]] : List (List ℝ)).getD 0 []).getD n 0 * (([[1, 1]] : List (List ℝ)).getD 0 []).getD n 0
      = ((2 : ℕ) : ℝ) := by
  have hc : Real.cos (2 * Real.pi * (1 / 4)) = 0 := by
    rw [show 2 * Real.pi * (1 / 4) = Real.pi / 2 by ring, Real.cos_pi_div_two]
  constructor
  · intro n hn
    rw [tridiag_mul_is_matrix_product _ _ hn, DpssTriL.sum_entry_eq_triRow _ _ hn]
    obtain rfl | rfl : n = 0 ∨ n = 1 := by omega
    all_goals
      simp only [DpssTriL.triRow, DpssTriL.dpssOff_real, DpssTriL.dpssDiag_real, spec_eval, spec_eval_proc]
      norm_num [hc]
  · simp only [spec_eval]
    norm_num only

end SpecVerif.C18
