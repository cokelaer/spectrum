import SpecVerif.Proofs.Lemmas.LinPred
import SpecVerif.Proofs.Lemmas.RealFn
import SpecVerif.Proofs.Lemmas.LsfRoundtrip
import Mathlib.Data.List.Sort
import Mathlib.Algebra.Star.Rat
/-
  C11 — conversions between autocorrelation, prediction polynomial (+ final error), reflection
  coefficients (+ zero lag), log-area ratios / inverse-sine parameters and line spectral frequencies.

  Conventions: `K` is any field with an involution (`ℝ` with trivial `star`, `ℂ` with conjugation);
  coefficient lists carry no leading 1, except in the lsf sections (`LpcL.polyEval`, highest power first,
  leading 1 included); the domain "|k| ≠ 1" is `1 - k * star k ≠ 0` (implied by `|k| < 1`); "minimum
  phase" is `‖k‖ < 1` for every `k ∈ poly2rc c`; "real" is `star c_j = c_j`.
  poly ↔ lsf is relative to ONE contract, that of `numpy.roots` / `numpy.poly`: the computed root lists
  multiply back to the deflated polynomials (hypotheses `hP hQ hrP hrQ`, the same in every theorem of the
  last three sections).  Not modelled: the root finder, and `poly2lsf`'s choice of one root per conjugate
  pair by position (`rP[1::2]`), which depends on the order of `numpy.roots`' output.
  The ideas of the circle and interlacing proofs are in the headers of `Lemmas/LsfCircle`, `LsfInterlace`,
  `LsfRoundtrip`.
-/
namespace SpecVerif.C11
open SpecVerif

variable {K : Type} [Field K] [StarRing K]

/-! ### step-up and step-down -/

theorem levup_length (a : List K) (k : K) : (levup a k).length = a.length + 1 :=
  _root_.SpecVerif.levup_length a k

theorem levdown_length (b : List K) : (levdown b).length = b.length - 1 :=
  levdown_length' b

theorem levup_last (a : List K) (k : K) :
    nth (levup a k) ((levup a k).length - 1) = k := by
  rw [levup_length a k, Nat.add_sub_cancel, nth_levup_last]

theorem levdown_levup (a : List K) (k : K) (hk : 1 - k * star k ≠ 0) :
    levdown (levup a k) = a :=
  levdown_levup' a k hk

theorem levup_levdown (b : List K) (k : K) (hb : b ≠ []) (hlast : nth b (b.length - 1) = k)
    (hk : 1 - k * star k ≠ 0) :
    levup (levdown b) k = b := by
  subst hlast
  exact levup_levdown' b hb hk

/-- non-vacuity of `hk` in `levdown_levup`, `levup_levdown` -/
example : (1 : ℚ) - (1 / 3) * star (1 / 3) ≠ 0 := by norm_num

/-! ### reflection coefficients ↔ polynomial -/

theorem rc2poly_length (kr : List K) (r0 : K) : (rc2poly kr r0).1.length = kr.length :=
  rc2poly_length' kr r0

theorem rc2poly_error (kr : List K) (r0 : K) :
    (rc2poly kr r0).2 = r0 * (kr.map (fun k => 1 - star k * k)).prod :=
  rc2poly_error' kr r0

theorem poly2rc_rc2poly (kr : List K) (r0 : K) (hk : ∀ k ∈ kr, 1 - k * star k ≠ 0) :
    poly2rc (rc2poly kr r0).1 = kr := by
  induction kr using List.reverseRecOn with
  | nil => rfl
  | append_singleton kr k ih =>
    rw [rc2poly_append_singleton]
    rw [poly2rc_levup _ _ (hk k (by simp))]
    rw [ih (fun k' hk' => hk k' (by simp [hk']))]

theorem rc2poly_poly2rc (a : List K) (r0 : K) (hk : ∀ k ∈ poly2rc a, 1 - k * star k ≠ 0) :
    (rc2poly (poly2rc a) r0).1 = a :=
  rc2poly_poly2rc' a r0 hk

/-- non-vacuity: two real reflection coefficients `1/2, 1/3`, `r0 = 2`: the polynomial is
`[2/3, 1/3]`, the final error `2·(3/4)·(8/9) = 4/3`, and `poly2rc` recovers the coefficients. -/
example : rc2poly [(1 / 2 : ℚ), 1 / 3] 2 = ([2 / 3, 1 / 3], 4 / 3) ∧
    poly2rc [(2 / 3 : ℚ), 1 / 3] = [1 / 2, 1 / 3] := by
  decide +kernel

theorem poly2rc_length (a : List K) : (poly2rc a).length = a.length :=
  SpecVerif.poly2rc_length a

/-! ### the commuting square  ac → poly  =  ac → rc → poly -/

/-- Levinson's coefficient update *is* step-up: after `p` stages the polynomial and the prediction
error are exactly `rc2poly` of the reflection coefficients found so far — for every input. -/
theorem ac2poly_eq_rc2poly_ac2rc (r0 : K) (T : List K) (p : ℕ) :
    (levRun r0 T p).A = (rc2poly (levRun r0 T p).ref r0).1 ∧
    (levRun r0 T p).P = (rc2poly (levRun r0 T p).ref r0).2 := by
  rw [rc2poly_levRun_ref]
  exact ⟨rfl, rfl⟩

theorem levRun_length (r0 : K) (T : List K) (p : ℕ) :
    (levRun r0 T p).A.length = p ∧ (levRun r0 T p).ref.length = p :=
  ⟨levRun_A_length r0 T p, levRun_ref_length r0 T p⟩

/-- ac → rc → poly → rc is ac → rc: on the domain, `poly2rc` of Levinson's polynomial returns
Levinson's reflection coefficients. -/
theorem poly2rc_ac2poly (r0 : K) (T : List K) (p : ℕ)
    (hk : ∀ k ∈ (levRun r0 T p).ref, 1 - k * star k ≠ 0) :
    poly2rc (levRun r0 T p).A = (levRun r0 T p).ref := by
  rw [(ac2poly_eq_rc2poly_ac2rc r0 T p).1]
  exact poly2rc_rc2poly _ r0 hk


/-! ### autocorrelation ↔ (reflection coefficients, zero lag) and ↔ (polynomial, final error) -/

theorem rc2ac_length (kr : List K) (r0 : K) (hk : ∀ k ∈ kr, 1 - k * star k ≠ 0) :
    (rc2ac kr r0).length = kr.length + 1 :=
  rc2ac_length' kr r0 hk

theorem rc2ac_zero_lag (kr : List K) (r0 : K) (hne : kr ≠ [])
    (hk : ∀ k ∈ kr, 1 - k * star k ≠ 0) : nth (rc2ac kr r0) 0 = r0 :=
  nth_rc2ac_zero kr r0 (List.length_pos_iff.mpr hne) hk

theorem rc2ac_recursion (kr : List K) (r0 : K) (hk : ∀ k ∈ kr, 1 - k * star k ≠ 0)
    (m : ℕ) (hm : m < kr.length) :
    nth (rc2ac kr r0) (m + 1)
      = -(∑ i ∈ Finset.range m, nth (rc2poly (kr.take m) r0).1 i * nth (rc2ac kr r0) (m - i))
        - nth kr m * (rc2poly (kr.take m) r0).2 :=
  nth_rc2ac_succ kr r0 hk m hm

/-- **ac2rc ∘ rc2ac = id** (and ac2poly ∘ rc2ac = rc2poly): Levinson run on the lags produced by
`rc2ac kr r0` (zero lag `r0 ≠ 0`, reflection coefficients off the unit circle) returns `kr`, and the
polynomial and error of `rc2poly kr r0`. -/
theorem ac2rc_rc2ac (kr : List K) (r0 : K) (hr0 : r0 ≠ 0) (hk : ∀ k ∈ kr, 1 - k * star k ≠ 0) :
    (levRun r0 (rc2ac kr r0).tail kr.length).ref = kr ∧
    (levRun r0 (rc2ac kr r0).tail kr.length).A = (rc2poly kr r0).1 ∧
    (levRun r0 (rc2ac kr r0).tail kr.length).P = (rc2poly kr r0).2 := by
  have h := levRun_rc2ac_ref kr r0 hr0 hk kr.length le_rfl
  rwa [List.take_length] at h

/-- **rc2ac ∘ ac2rc = id**: for lags `r0 :: T` whose final Levinson error is non-zero (true for a
positive-definite sequence), `rc2ac` of Levinson's reflection coefficients gives the lags back. -/
theorem rc2ac_ac2rc (r0 : K) (T : List K) (hT : T ≠ []) (hP : (levRun r0 T T.length).P ≠ 0) :
    rc2ac (levRun r0 T T.length).ref r0 = r0 :: T :=
  rc2ac_levRun r0 T hT hP

/-- **poly2ac ∘ ac2poly = id**: `rlevinson` applied to Levinson's polynomial and final error gives
the lags back. -/
theorem poly2ac_ac2poly (r0 : K) (T : List K) (hT : T ≠ []) (hP : (levRun r0 T T.length).P ≠ 0) :
    poly2ac (levRun r0 T T.length).A (levRun r0 T T.length).P = r0 :: T := by
  rw [← rc2ac_levRun r0 T hT hP, rc2ac_eq, rc2poly_levRun_ref]

/-- **ac2poly ∘ poly2ac = id**: Levinson run on the lags produced by `poly2ac a e` (`e ≠ 0`, step-down
reflection coefficients of `a` off the unit circle) returns `a`, `e` and `poly2rc a`. -/
theorem ac2poly_poly2ac (a : List K) (e : K) (ha : a ≠ []) (he : e ≠ 0)
    (hk : ∀ k ∈ poly2rc a, 1 - k * star k ≠ 0) :
    (levRun (nth (poly2ac a e) 0) (poly2ac a e).tail a.length).A = a ∧
    (levRun (nth (poly2ac a e) 0) (poly2ac a e).tail a.length).P = e ∧
    (levRun (nth (poly2ac a e) 0) (poly2ac a e).tail a.length).ref = poly2rc a := by
  have hD := prod_one_sub_ne_zero (poly2rc a) hk
  have hpos : 0 < (poly2rc a).length := by
    rw [poly2rc_length]; exact List.length_pos_iff.mpr ha
  have hr0 : e / ((poly2rc a).map (fun k => 1 - star k * k)).prod ≠ 0 := div_ne_zero he hD
  rw [poly2ac_eq_rc2ac a e hk, nth_rc2ac_zero _ _ hpos hk]
  obtain ⟨h1, h2, h3⟩ := levRun_rc2ac_ref (poly2rc a) _ hr0 hk (poly2rc a).length le_rfl
  rw [List.take_length] at h1 h2 h3
  rw [poly2rc_length] at h1 h2 h3
  refine ⟨?_, ?_, h1⟩
  · rw [h2, rc2poly_poly2rc' a _ hk]
  · rw [h3, rc2poly_error', div_mul_cancel₀ _ hD]

/-- the commuting square on the synthesis side: poly → ac equals poly → rc → ac, the zero lag being
the final error divided by `∏ (1 - |k_i|²)` -/
theorem poly2ac_eq_rc2ac_poly2rc (a : List K) (e : K) (hk : ∀ k ∈ poly2rc a, 1 - k * star k ≠ 0) :
    poly2ac a e
      = rc2ac (poly2rc a) (e / ((poly2rc a).map (fun k => 1 - star k * k)).prod) :=
  poly2ac_eq_rc2ac a e hk

/-- Levinson's non-singular domain in terms of its output: a non-zero final error forces a non-zero
zero lag and every reflection coefficient off the unit circle. -/
theorem ac2rc_domain (r0 : K) (T : List K) (p : ℕ) (hP : (levRun r0 T p).P ≠ 0) :
    r0 ≠ 0 ∧ ∀ k ∈ (levRun r0 T p).ref, 1 - k * star k ≠ 0 :=
  ⟨levRun_P_ne_zero r0 T p hP 0 (Nat.zero_le _), levRun_ref_ne r0 T p hP⟩

/-- non-vacuity: real lags `[1, 1/2]` (positive definite): `k₁ = -1/2`, `E₁ = 3/4`. -/
example : (levRun (1 : ℚ) [1 / 2] 1).ref = [-1 / 2] ∧ (levRun (1 : ℚ) [1 / 2] 1).P = 3 / 4 := by
  decide +kernel

example : rc2ac [(-1 / 2 : ℚ)] 1 = [1, 1 / 2] := by
  decide +kernel

/-- the usual domain condition implies the algebraic one: a real reflection coefficient of modulus
`< 1` is off the unit circle -/
theorem real_rc_domain (k : ℝ) (hk : |k| < 1) : 1 - k * star k ≠ 0 :=
  one_sub_mul_star_ne_zero_of_norm_lt_one k (by rwa [Real.norm_eq_abs])

/-! ### reflection coefficients ↔ log-area ratios, inverse-sine parameters (`K = ℝ`) -/

theorem lar2rc_rc2lar (k : ℝ) (hk : |k| < 1) : lar2rc (rc2lar k) = k := by
  rw [lar2rc_real, rc2lar_real]
  have h : -(-2 * Real.artanh (-k)) / 2 = Real.artanh (-k) := by ring
  rw [h, Real.tanh_artanh ⟨neg_lt_neg (abs_lt.mp hk).2, neg_lt.mpr (abs_lt.mp hk).1⟩]
  ring

/-- non-vacuity of `hk` in `lar2rc_rc2lar` -/
example : |(1 / 2 : ℝ)| < 1 := by norm_num [abs_lt]

theorem rc2lar_lar2rc (g : ℝ) : rc2lar (lar2rc g) = g := by
  rw [rc2lar_real, lar2rc_real, neg_neg, Real.artanh_tanh]
  ring

theorem rc2lar_eq_log (k : ℝ) (hk : |k| < 1) : rc2lar k = Real.log ((1 + k) / (1 - k)) := by
  obtain ⟨h1, h2⟩ := abs_lt.mp hk
  rw [rc2lar_real, Real.artanh_eq_half_log ⟨(neg_lt_neg h2).le, (neg_lt.mpr h1).le⟩]
  have : (1 + k) / (1 - k) = ((1 + -k) / (1 - -k))⁻¹ := by
    rw [inv_div]; ring
  rw [this, Real.log_inv]
  ring

theorem lar2rc_mem (g : ℝ) : -1 < lar2rc g ∧ lar2rc g < 1 := by
  rw [lar2rc_real]
  constructor
  · exact neg_lt_neg (Real.tanh_lt_one (-g / 2))
  · exact neg_lt.mpr (Real.neg_one_lt_tanh (-g / 2))

theorem is2rc_rc2is (k : ℝ) (hk : |k| ≤ 1) : is2rc (rc2is k) = k := by
  obtain ⟨h1, h2⟩ := abs_le.mp hk
  rw [is2rc_real, rc2is_real]
  have h : 2 / Real.pi * Real.arcsin k * Real.pi / 2 = Real.arcsin k := by
    field_simp [Real.pi_ne_zero]
  rw [h, Real.sin_arcsin h1 h2]

theorem rc2is_is2rc (s : ℝ) (hs : |s| ≤ 1) : rc2is (is2rc s) = s := by
  obtain ⟨h1, h2⟩ := abs_le.mp hs
  have hq : 0 < Real.pi / 2 := half_pos Real.pi_pos
  have hcq : 2 / Real.pi * (Real.pi / 2) = 1 := by
    rw [div_mul_div_comm, mul_comm, div_self (mul_ne_zero Real.pi_pos.ne' two_ne_zero)]
  rw [is2rc_real, rc2is_real, mul_div_assoc, Real.arcsin_sin]
  · rw [mul_left_comm, hcq, mul_one]
  · rw [← neg_one_mul]
    exact mul_le_mul_of_nonneg_right h1 hq.le
  · exact mul_le_of_le_one_left hq.le h2

theorem rc2is_mem (k : ℝ) : -1 ≤ rc2is k ∧ rc2is k ≤ 1 := by
  have hc : 0 ≤ 2 / Real.pi := (div_pos two_pos Real.pi_pos).le
  have hcq : 2 / Real.pi * (Real.pi / 2) = 1 := by
    rw [div_mul_div_comm, mul_comm, div_self (mul_ne_zero Real.pi_pos.ne' two_ne_zero)]
  have h1 := mul_le_mul_of_nonneg_left (Real.neg_pi_div_two_le_arcsin k) hc
  have h2 := mul_le_mul_of_nonneg_left (Real.arcsin_le_pi_div_two k) hc
  rw [mul_neg, hcq] at h1
  rw [hcq] at h2
  rw [rc2is_real]
  exact ⟨h1, h2⟩

/-! ### prediction polynomial ↔ line spectral frequencies: the algebra of `poly2lsf` / `lsf2poly` -/

section Lsf
open SpecVerif.LpcL
variable {F : Type} [Field F]

/-- `numpy.convolve` of two non-empty coefficient lists has `len p + len q - 1` coefficients, entry
`n` is the convolution sum, and **evaluation is multiplicative**:
`(p * q)(z) = p(z) · q(z)` with `p(z) = Σ_i p_i z^{len p - 1 - i}` (highest power first) -/
theorem polyMul_eval (p q : List F) (hp : p ≠ []) (hq : q ≠ []) (z : F) :
    (polyMul p q).length = p.length + q.length - 1
    ∧ (∀ n, n < p.length + q.length - 1 →
        nth (polyMul p q) n = ∑ i ∈ Finset.range (n + 1), nth p i * nth q (n - i))
    ∧ polyEval (polyMul p q) z = polyEval p z * polyEval q z :=
  ⟨polyMul_length p q hp hq, nth_polyMul p q hp hq, LpcL.polyMul_eval p q hp hq z⟩

/-- **`numpy.poly`**: the polynomial built from a root list has `len rs + 1` coefficients and is the
product of its linear factors, `polyFromRoots rs (z) = ∏_{r ∈ rs} (z - r)`; in particular every
listed root is a root -/
theorem polyFromRoots_eval (rs : List F) (z : F) :
    (polyFromRoots rs).length = rs.length + 1
    ∧ polyEval (polyFromRoots rs) z = (rs.map (fun r => z - r)).prod
    ∧ (z ∈ rs → polyEval (polyFromRoots rs) z = 0) := by
  refine ⟨polyFromRoots_length rs, LpcL.polyFromRoots_eval rs z, ?_⟩
  intro hz
  rw [LpcL.polyFromRoots_eval rs z]
  exact List.prod_eq_zero (List.mem_map.mpr ⟨z, hz, sub_self z⟩)

/-- **the sum and difference polynomials of `poly2lsf`**: with `a1 = a ++ [0]` (`a = [1, a_1..a_p]`),
`P1 = a1 - reverse a1` and `Q1 = a1 + reverse a1` have `p + 2` coefficients, `(P1 + Q1)/2 = a1`
entry by entry, `P1` is antisymmetric and `Q1` symmetric -/
theorem lsfSplit_sum (h2 : (2 : F) ≠ 0) (a : List F) :
    (lsfSplit a).1.length = a.length + 1 ∧ (lsfSplit a).2.length = a.length + 1
    ∧ (∀ i, (nth (lsfSplit a).1 i + nth (lsfSplit a).2 i) / 2 = nth (a ++ [0]) i)
    ∧ (∀ i, i ≤ a.length → nth (lsfSplit a).1 (a.length - i) = -nth (lsfSplit a).1 i)
    ∧ (∀ i, i ≤ a.length → nth (lsfSplit a).2 (a.length - i) = nth (lsfSplit a).2 i) :=
  ⟨(lsfSplit_length a).1, (lsfSplit_length a).2, lsfSplit_half_sum h2 a,
    fun i hi => (lsfSplit_symm a i hi).1, fun i hi => (lsfSplit_symm a i hi).2⟩

/-- **the fixed roots** removed by `deconvolve` in `poly2lsf` and re-inserted by `lsf2poly`: the
difference polynomial `P1` always vanishes at `z = 1`; for odd order `p` it also vanishes at `z = -1`
(factor `[1, 0, -1]`), for even `p` the sum polynomial `Q1` vanishes at `z = -1` (factors `[1, -1]`
and `[1, 1]`) -/
theorem lsfSplit_fixed_roots (a : List F) (p : ℕ) (ha : a.length = p + 1) :
    polyEval (lsfSplit a).1 1 = 0
    ∧ (p % 2 = 1 → polyEval (lsfSplit a).1 (-1) = 0)
    ∧ (p % 2 = 0 → polyEval (lsfSplit a).2 (-1) = 0) :=
  ⟨lsfSplit_fst_root_one a,
    fun hp => lsfSplit_fst_root_neg_one a (by rw [ha, Nat.succ_mod_two_eq_zero_iff]; exact hp),
    fun hp => lsfSplit_snd_root_neg_one a (by rw [ha, Nat.succ_mod_two_eq_one_iff]; exact hp)⟩

/-- the three fixed factors as polynomials: `[1, -1] = z - 1`, `[1, 1] = z + 1`,
`[1, 0, -1] = z² - 1`, so a deflated polynomial `P` with `P * f = P1` satisfies
`P1(z) = P(z) · f(z)` -/
theorem lsf_fixed_factor_eval (z : F) :
    polyEval ([1, -1] : List F) z = z - 1 ∧ polyEval ([1, 1] : List F) z = z + 1
    ∧ polyEval ([1, 0, -1] : List F) z = z ^ 2 - 1 := by
  rw [polyEval_linear, polyEval_linear, polyEval_quadratic]
  exact ⟨(sub_eq_add_neg z 1).symm, rfl, by ring⟩

/-- **`lsf2poly ∘ poly2lsf = id`, algebraic form**: let `(P1, Q1) = lsfSplit a` for a prediction
polynomial `a` of order `p` (`len a = p + 1`), let `P`, `Q` be the deflated polynomials that
`deconvolve` returns with zero remainder (`P * [1,0,-1] = P1`, `Q * [1] = Q1` for odd `p`;
`P * [1,-1] = P1`, `Q * [1,1] = Q1` for even `p`), and let `rP`, `rQ` be *any* root lists with
`numpy.poly rP = P`, `numpy.poly rQ = Q` (the contract of `numpy.roots`).  Then the synthesis step of
`lsf2poly` returns `a`, and there are `2p` roots in total (`p` conjugate pairs = `p` line spectral
frequencies). -/
theorem lsf_roundtrip_algebra (h2 : (2 : F) ≠ 0) (a : List F) (p : ℕ) (ha : a.length = p + 1)
    (P Q rP rQ : List F)
    (hP : polyMul P (if p % 2 = 1 then [1, 0, -1] else [1, -1]) = (lsfSplit a).1)
    (hQ : polyMul Q (if p % 2 = 1 then [1] else [1, 1]) = (lsfSplit a).2)
    (hrP : polyFromRoots rP = P) (hrQ : polyFromRoots rQ = Q) :
    lsfRecombine rQ rP p = a ∧ rP.length + rQ.length = 2 * p := by
  subst hrP hrQ
  constructor
  · -- `lsf2poly` re-inserts the fixed factors: its `P1`, `Q1` are the two halves of `lsfSplit a`
    unfold lsfRecombine
    dsimp only
    rw [← apply_ite (polyMul (polyFromRoots rP)), hP]
    have hQ1 : (if p % 2 = 1 then polyFromRoots rQ else polyMul (polyFromRoots rQ) [1, 1])
        = (lsfSplit a).2 := by
      rw [← hQ, apply_ite (polyMul (polyFromRoots rQ)), polyMul_one]
    rw [hQ1]
    exact recombine_lsfSplit h2 a
  · -- count the coefficients of both products
    have h1 := congrArg List.length hP
    have h3 := congrArg List.length hQ
    rw [(lsfSplit_length a).1, ha] at h1
    rw [(lsfSplit_length a).2, ha] at h3
    by_cases hodd : p % 2 = 1
    · rw [if_pos hodd] at h1 h3
      rw [polyMul_length _ _ (polyFromRoots_ne_nil rP) (List.cons_ne_nil _ _),
        polyFromRoots_length] at h1
      rw [polyMul_one, polyFromRoots_length] at h3
      simp only [List.length_cons, List.length_nil] at h1
      clear hP hQ ha hodd
      omega
    · rw [if_neg hodd] at h1 h3
      rw [polyMul_length _ _ (polyFromRoots_ne_nil rP) (List.cons_ne_nil _ _),
        polyFromRoots_length] at h1
      rw [polyMul_length _ _ (polyFromRoots_ne_nil rQ) (List.cons_ne_nil _ _),
        polyFromRoots_length] at h3
      simp only [List.length_cons, List.length_nil] at h1 h3
      clear hP hQ ha hodd
      omega

/-- **`deconvolve` leaves zero remainder**: for every polynomial `a` of order `p` (`len a = p + 1`,
`2 ≠ 0`) the deflated polynomials assumed by `lsf_roundtrip_algebra` exist — `P1` is divisible by
`[1, 0, -1]` (odd `p`) resp. `[1, -1]` (even `p`) and `Q1` by `[1]` resp. `[1, 1]` (synthetic division
by the fixed roots `±1`) — and the quotients keep the leading coefficient of `a` (they are monic when
`a[0] = 1`, as the contract `numpy.poly(numpy.roots(P)) = P` requires). -/
theorem lsf_deflation_exists (h2 : (2 : F) ≠ 0) (a : List F) (p : ℕ) (ha : a.length = p + 1) :
    ∃ P Q : List F,
      polyMul P (if p % 2 = 1 then [1, 0, -1] else [1, -1]) = (lsfSplit a).1
      ∧ polyMul Q (if p % 2 = 1 then [1] else [1, 1]) = (lsfSplit a).2
      ∧ nth P 0 = nth a 0 ∧ nth Q 0 = nth a 0 := by
  have hane : a ≠ [] := List.ne_nil_of_length_pos (by omega)
  obtain ⟨hlead1, hlead2⟩ := lsfSplit_lead a hane
  have hl1 := (lsfSplit_length a).1
  have hl2 := (lsfSplit_length a).2
  by_cases hodd : p % 2 = 1
  · have hp1 : 1 ≤ p := (Nat.odd_iff.mpr hodd).pos
    obtain ⟨P, hP, hP0⟩ := exists_polyMul_quadratic h2 (lsfSplit a).1
      (by rw [hl1, ha]; exact Nat.add_le_add_right hp1 2)
      (lsfSplit_fst_root_one a)
      (lsfSplit_fst_root_neg_one a (by rw [ha, Nat.succ_mod_two_eq_zero_iff]; exact hodd))
    rw [if_pos hodd, if_pos hodd]
    exact ⟨P, (lsfSplit a).2, hP, polyMul_one _, hP0.trans hlead1, hlead2⟩
  · have heven : p % 2 = 0 := (Nat.mod_two_eq_zero_or_one p).resolve_right hodd
    obtain ⟨P, _, hP, hP0⟩ := exists_polyMul_linear (lsfSplit a).1
      (by rw [hl1, ha]; exact Nat.le_add_left 2 p) 1 (lsfSplit_fst_root_one a)
    obtain ⟨Q, _, hQ, hQ0⟩ := exists_polyMul_linear (lsfSplit a).2
      (by rw [hl2, ha]; exact Nat.le_add_left 2 p) (-1)
      (lsfSplit_snd_root_neg_one a (by rw [ha, Nat.succ_mod_two_eq_one_iff]; exact heven))
    rw [neg_neg] at hQ
    rw [if_neg hodd, if_neg hodd]
    exact ⟨P, Q, hP, hQ, hP0.trans hlead1, hQ0.trans hlead2⟩

/-- non-vacuity of `lsf_roundtrip_algebra` (odd order): `a = [1, 5/4]` over `ℚ` (`p = 1`) has
`P1 = [1, 0, -1]`, `Q1 = [1, 5/2, 1] = (z + 2)(z + 1/2)`; the deflated `P = [1]` has no roots, and
the recombination returns `a` -/
example : lsfSplit ([1, 5 / 4] : List ℚ) = ([1, 0, -1], [1, 5 / 2, 1])
    ∧ polyMul (polyFromRoots ([] : List ℚ)) [1, 0, -1] = [1, 0, -1]
    ∧ polyFromRoots ([-2, -1 / 2] : List ℚ) = [1, 5 / 2, 1]
    ∧ lsfRecombine ([-2, -1 / 2] : List ℚ) [] 1 = [1, 5 / 4] := by
  decide +kernel

/-- non-vacuity (even order): `a = [1, 0, 1/4]` over `ℚ` (`p = 2`); the deflated polynomials have no
rational roots, so only the split and the fixed factors are exhibited:
`P1 = [1, -1/4, 1/4, -1] = [1, 3/4, 1] * [1, -1]`, `Q1 = [1, 1/4, 1/4, 1] = [1, -3/4, 1] * [1, 1]` -/
example : lsfSplit ([1, 0, 1 / 4] : List ℚ) = ([1, -1 / 4, 1 / 4, -1], [1, 1 / 4, 1 / 4, 1])
    ∧ polyMul ([1, 3 / 4, 1] : List ℚ) [1, -1] = [1, -1 / 4, 1 / 4, -1]
    ∧ polyMul ([1, -3 / 4, 1] : List ℚ) [1, 1] = [1, 1 / 4, 1 / 4, 1] := by
  decide +kernel

end Lsf

/-! ### the zeros of the line spectral polynomials lie on the unit circle, are simple and distinct

`E` is `ℝ` or `ℂ`; over `E = ℂ` the statements are about the complex zeros of a real prediction polynomial
`a = [1, c_1..c_p]`, which is what `poly2lsf` hands to `numpy.roots`.  `polyA c z = z^p + Σ c_j z^{p-1-j}`,
`polyB c z = 1 + Σ conj(c_j) z^{j+1}`, `polyR c z = 1 + Σ c_j z^{j+1}` are the prediction polynomial,
its reciprocal and its reverse (`Lemmas/SchurCohn.lean`). -/

section LsfCircle
open SpecVerif.LpcL SpecVerif.SchurL SpecVerif.LsfCircleL
variable {E : Type} [RCLike E]

/-- **strict Schur–Cohn**: with at least one stage and all `|k_i| < 1`, the step-up polynomial strictly
dominates its reciprocal outside the unit circle, and is strictly dominated inside -/
theorem schur_cohn_strict (kr : List E) (r0 : E) (hne : kr ≠ []) (hk : ∀ k ∈ kr, ‖k‖ < 1) (z : E) :
    (1 < ‖z‖ → ‖polyB (rc2poly kr r0).1 z‖ < ‖polyA (rc2poly kr r0).1 z‖)
    ∧ (‖z‖ < 1 → ‖polyA (rc2poly kr r0).1 z‖ < ‖polyB (rc2poly kr r0).1 z‖) := by
  -- by `stepup_norm_lt_iff` the order of `|A'|`, `|B'|` is that of `|z·A|`, `|B|` one stage earlier,
  -- which the diagonal of the kernel gives
  obtain rfl | ⟨kr, k, rfl⟩ := List.eq_nil_or_concat' kr
  · exact absurd rfl hne
  obtain ⟨r, hr, h⟩ := norm_sq_polyB_sub (minPhase_rc2poly (kr := kr) r0 (fun k' hk' => hk k' (by simp [hk']))) z
  have hk1 : ‖k‖ < 1 := hk k (by simp)
  -- with `conj k` for `k` the two components swap roles
  have hmirror := stepup_norm_lt_iff (polyB (rc2poly kr r0).1 z) (z * polyA (rc2poly kr r0).1 z)
    (star k) (by rwa [norm_star])
  rw [star_star] at hmirror
  rw [rc2poly_append_singleton, polyA_levup, polyB_levup, mul_assoc]
  constructor
  · intro hz
    rw [stepup_norm_lt_iff _ _ k hk1,
      ← pow_lt_pow_iff_left₀ (norm_nonneg _) (norm_nonneg _) two_ne_zero, ← sub_neg, h]
    exact mul_neg_of_neg_of_pos (sub_neg.mpr (one_lt_pow₀ hz two_ne_zero)) hr
  · intro hz
    rw [hmirror, ← pow_lt_pow_iff_left₀ (norm_nonneg _) (norm_nonneg _) two_ne_zero, ← sub_pos, h]
    exact mul_pos (sub_pos.mpr (pow_lt_one₀ (norm_nonneg z) hz two_ne_zero)) hr

/-- non-vacuity: two real reflection coefficients of modulus `< 1` -/
example : ([(1 / 2 : ℝ), -1 / 3] ≠ []) ∧ ∀ k ∈ [(1 / 2 : ℝ), -1 / 3], ‖k‖ < 1 := by
  refine ⟨by simp, ?_⟩
  intro k hk
  simp only [List.mem_cons, List.not_mem_nil, or_false] at hk
  rcases hk with rfl | rfl <;> rw [Real.norm_eq_abs, abs_lt] <;> constructor <;> norm_num

/-- **the line spectral polynomials in closed form**: for `a = 1 :: c`,
`P1(z) = z·A(z) − R(z)` and `Q1(z) = z·A(z) + R(z)` with `R(z) = z^p A(1/z)` the reversed polynomial
(any field) -/
theorem lsfSplit_eval {F : Type} [Field F] (c : List F) (z : F) :
    polyEval (lsfSplit ((1 : F) :: c)).1 z = z * polyA c z - polyR c z
    ∧ polyEval (lsfSplit ((1 : F) :: c)).2 z = z * polyA c z + polyR c z :=
  polyEval_lsfSplit_cons c z

/-- **every zero of `P1` and of `Q1` lies on the unit circle** when the real prediction polynomial
`[1, c_1..c_p]` is minimum phase; `z = 0` is never a zero -/
theorem lsf_roots_on_unit_circle (c : List E) (hreal : ∀ j, star (nth c j) = nth c j)
    (hk : ∀ k ∈ poly2rc c, ‖k‖ < 1) (z : E) :
    (polyEval (lsfSplit ((1 : E) :: c)).1 z = 0 → ‖z‖ = 1)
    ∧ (polyEval (lsfSplit ((1 : E) :: c)).2 z = 0 → ‖z‖ = 1) := by
  exact lsfSplit_zero_on_circle (minPhase_of_poly2rc hk) hreal z

theorem lsf_roots_on_unit_circle_rc (kr : List E) (r0 : E) (hreal : ∀ k ∈ kr, star k = k)
    (hk : ∀ k ∈ kr, ‖k‖ < 1) (z : E) :
    (polyEval (lsfSplit ((1 : E) :: (rc2poly kr r0).1)).1 z = 0 → ‖z‖ = 1)
    ∧ (polyEval (lsfSplit ((1 : E) :: (rc2poly kr r0).1)).2 z = 0 → ‖z‖ = 1) :=
  lsfSplit_zero_on_circle (minPhase_rc2poly r0 hk) (rc2poly_star_fixed kr r0 hreal) z

/-- non-vacuity of the hypotheses: `c = [1/3, -1/3]` over `ℂ` is real with reflection coefficients
`[1/2, -1/3]` -/
example : (∀ j, star (nth ([1 / 3, -1 / 3] : List ℂ) j) = nth ([1 / 3, -1 / 3] : List ℂ) j)
    ∧ poly2rc ([1 / 3, -1 / 3] : List ℂ) = [1 / 2, -1 / 3]
    ∧ ∀ k ∈ ([1 / 2, -1 / 3] : List ℂ), ‖k‖ < 1 := by
  refine ⟨?_, ?_, ?_⟩
  · intro j
    rcases j with _ | _ | j <;>
      simp only [star_div₀, star_neg, star_one, star_ofNat, star_zero, spec_eval]
  · simp only [poly2rc, stepDowns, levdown, abs2, conj_eq_star, spec_eval, spec_eval_proc,
      star_div₀, star_neg, star_one, star_ofNat]
    norm_num only
  · intro k hk
    simp only [List.mem_cons, List.not_mem_nil, or_false] at hk
    rcases hk with rfl | rfl <;> norm_num

theorem lsf_no_common_root (c : List E) (hreal : ∀ j, star (nth c j) = nth c j)
    (hk : ∀ k ∈ poly2rc c, ‖k‖ < 1) (z : E) :
    ¬ (polyEval (lsfSplit ((1 : E) :: c)).1 z = 0 ∧ polyEval (lsfSplit ((1 : E) :: c)).2 z = 0) := by
  exact fun h => lsfSplit_no_common_zero (minPhase_of_poly2rc hk) hreal z h.1 h.2

/-- the zeros of `P1` and of `Q1` come in conjugate pairs (real coefficients) -/
theorem lsf_roots_conj_closed (c : List E) (hreal : ∀ j, star (nth c j) = nth c j) (z : E) :
    (polyEval (lsfSplit ((1 : E) :: c)).1 z = 0 → polyEval (lsfSplit ((1 : E) :: c)).1 (star z) = 0)
    ∧ (polyEval (lsfSplit ((1 : E) :: c)).2 z = 0
        → polyEval (lsfSplit ((1 : E) :: c)).2 (star z) = 0) := by
  simp only [(polyEval_lsfSplit_comb hreal _).1, (polyEval_lsfSplit_comb hreal _).2]
  constructor
  · intro h
    rw [← star_zero, ← h, star_lsfComb hreal, star_neg, star_one]
  · intro h
    rw [← star_zero, ← h, star_lsfComb hreal, star_one]

/-- **the zeros of `P1` and of `Q1` are simple**: neither polynomial can be written as
`(z − z0)²·H(z)` with a continuous (in particular: polynomial) cofactor `H`.  (Christoffel–Darboux
kernel of the step-up recursion, `LsfCircleL.cd_kernel`.) -/
theorem lsf_roots_simple (c : List E) (hreal : ∀ j, star (nth c j) = nth c j)
    (hk : ∀ k ∈ poly2rc c, ‖k‖ < 1) (z0 : E) (H : E → E) (hH : Continuous H) :
    (¬ ∀ z, polyEval (lsfSplit ((1 : E) :: c)).1 z = (z - z0) ^ 2 * H z)
    ∧ (¬ ∀ z, polyEval (lsfSplit ((1 : E) :: c)).2 z = (z - z0) ^ 2 * H z) := by
  have ha := minPhase_of_poly2rc hk
  simp only [(polyEval_lsfSplit_comb hreal _).1, (polyEval_lsfSplit_comb hreal _).2]
  exact ⟨lsfComb_no_double_zero ha _ z0 (by rw [norm_neg, norm_one]) H hH,
    lsfComb_no_double_zero ha _ z0 norm_one H hH⟩

/-- **the roots computed by `poly2lsf`**, relative to the contract of `numpy.roots` (the root lists
multiply back to the deflated polynomials, as in `lsf_roundtrip_algebra`): every one of the `2p` roots
has modulus 1, none is `±1` (so none is real), they are pairwise distinct — within `rP`, within `rQ`
and between the two — and each list is closed under conjugation -/
theorem lsf_computed_roots_unit_distinct (c : List E) (hreal : ∀ j, star (nth c j) = nth c j)
    (hk : ∀ k ∈ poly2rc c, ‖k‖ < 1) (p : ℕ) (hp : c.length = p) (P Q rP rQ : List E)
    (hP : polyMul P (if p % 2 = 1 then [1, 0, -1] else [1, -1]) = (lsfSplit ((1 : E) :: c)).1)
    (hQ : polyMul Q (if p % 2 = 1 then [1] else [1, 1]) = (lsfSplit ((1 : E) :: c)).2)
    (hrP : polyFromRoots rP = P) (hrQ : polyFromRoots rQ = Q) :
    (∀ r ∈ rP ++ rQ, ‖r‖ = 1 ∧ r ≠ 1 ∧ r ≠ -1) ∧ (rP ++ rQ).Nodup
      ∧ (∀ r ∈ rP, star r ∈ rP) ∧ (∀ r ∈ rQ, star r ∈ rQ)
      ∧ rP.length + rQ.length = 2 * p := by
  have hlen := (lsf_roundtrip_algebra (two_ne_zero : (2 : E) ≠ 0) ((1 : E) :: c) p
    (by rw [List.length_cons, hp]) P Q rP rQ hP hQ hrP hrQ).2
  have hfac := fun z => lsf_full_factor p P Q rP rQ _ _ hP hQ hrP hrQ z
  obtain ⟨hunit, hnd, hcP, hcQ⟩ := lsf_full_roots (minPhase_of_poly2rc hk) hreal _ _
    (fun z => (hfac z).1) (fun z => (hfac z).2)
  have hperm : ((rP ++ fixedP p) ++ (rQ ++ fixedQ p)).Perm
      ((rP ++ rQ) ++ (fixedP p ++ fixedQ p)) := by
    rw [List.append_assoc, List.append_assoc]
    refine (List.perm_append_left_iff rP).mpr ?_
    rw [← List.append_assoc, ← List.append_assoc]
    exact List.Perm.append_right _ List.perm_append_comm
  obtain ⟨hnd1, _, hdisj⟩ := List.nodup_append.mp (hperm.nodup_iff.mp hnd)
  have hne : ∀ r ∈ rP ++ rQ, r ≠ 1 ∧ r ≠ -1 := fun r hr =>
    ⟨fun h => hdisj r hr 1 ((mem_fixed p 1).mpr (Or.inl rfl)) h,
      fun h => hdisj r hr (-1) ((mem_fixed p (-1)).mpr (Or.inr rfl)) h⟩
  -- the conjugate of a computed root is a zero other than `±1`, hence computed
  have hstar : ∀ r ∈ rP ++ rQ, ∀ F : List E, F ⊆ fixedP p ++ fixedQ p → star r ∉ F := by
    intro r hr F hF h
    rcases (mem_fixed p _).mp (hF h) with h | h
    · exact (hne r hr).1 (by rw [← star_star r, h, star_one])
    · exact (hne r hr).2 (by rw [← star_star r, h, star_neg, star_one])
  refine ⟨fun r hr => ⟨hunit r (hperm.mem_iff.mpr (List.mem_append.mpr (Or.inl hr))), hne r hr⟩,
    hnd1, fun r hr => ?_, fun r hr => ?_, hlen⟩
  · exact (List.mem_append.mp (hcP r (List.mem_append.mpr (Or.inl hr)))).resolve_right
      (hstar r (List.mem_append.mpr (Or.inl hr)) _ (List.subset_append_left _ _))
  · exact (List.mem_append.mp (hcQ r (List.mem_append.mpr (Or.inl hr)))).resolve_right
      (hstar r (List.mem_append.mpr (Or.inr hr)) _ (List.subset_append_right _ _))

/-- non-vacuity of the hypotheses and of the root contract (order 2): `a = [1, -3/5, 2/5]` over `ℂ`
is real with reflection coefficients `[-3/7, 2/5]`; `P1 = [1, -1, 1, -1] = (z² + 1)(z − 1)` with computed
roots `±i`, `Q1 = [1, -1/5, -1/5, 1] = (z² − (6/5) z + 1)(z + 1)` with computed roots `(3 ± 4i)/5` —
unimodular, distinct, conjugate, angles `π/2` and `arctan(4/3)` -/
example : (∀ j, star (nth ([-3 / 5, 2 / 5] : List ℂ) j) = nth ([-3 / 5, 2 / 5] : List ℂ) j)
    ∧ poly2rc ([-3 / 5, 2 / 5] : List ℂ) = [-3 / 7, 2 / 5]
    ∧ (∀ k ∈ ([-3 / 7, 2 / 5] : List ℂ), ‖k‖ < 1)
    ∧ polyMul (polyFromRoots ([Complex.I, -Complex.I] : List ℂ)) [1, -1]
        = (lsfSplit ([1, -3 / 5, 2 / 5] : List ℂ)).1
    ∧ polyMul (polyFromRoots ([(3 + 4 * Complex.I) / 5, (3 - 4 * Complex.I) / 5] : List ℂ)) [1, 1]
        = (lsfSplit ([1, -3 / 5, 2 / 5] : List ℂ)).2 := by
  refine ⟨?_, ?_, ?_, ?_, ?_⟩
  · intro j
    rcases j with _ | _ | j <;>
      simp only [star_div₀, star_neg, star_ofNat, star_zero, spec_eval]
  · simp only [poly2rc, stepDowns, levdown, abs2, conj_eq_star, spec_eval, spec_eval_proc,
      star_div₀, star_neg, star_ofNat]
    norm_num only
  · intro k hk
    simp only [List.mem_cons, List.not_mem_nil, or_false] at hk
    rcases hk with rfl | rfl <;> norm_num
  · simp only [polyFromRoots, polyMul, lsfSplit, or_self, spec_eval, spec_eval_proc]
    norm_num
  · simp only [polyFromRoots, polyMul, lsfSplit, or_self, spec_eval, spec_eval_proc]
    norm_num
    -- `(3+4i)(3−4i)/25 = 1`: the two roots lie on the unit circle
    refine ⟨by ring, ?_, ?_⟩
    · linear_combination (-16 / 25 : ℂ) * Complex.I_sq
    · linear_combination (-16 / 25 : ℂ) * Complex.I_sq

/-- **the line spectral frequencies are `p` distinct real angles in `(0, π)`** (`E = ℂ`): under the
root contract every computed root is `e^{iθ}` with `θ = numpy.angle(r) ∈ (−π, π) \ {0}`, its conjugate
(angle `−θ`) is also computed, distinct roots have distinct angles, exactly `p` of the `2p` angles are
positive, and any list `lsf` that is a sorted rearrangement of the positive angles has length `p`, is
**strictly increasing** and lies in `(0, π)`.  (`poly2lsf` picks one root of each conjugate pair by
position, `rP[1::2]`, and negates the angle — that relies on the ordering of `numpy.roots`' output,
which is not modelled; the statement is about the positive representatives.) -/
theorem lsf_angles (c : List ℂ) (hreal : ∀ j, star (nth c j) = nth c j)
    (hk : ∀ k ∈ poly2rc c, ‖k‖ < 1) (p : ℕ) (hp : c.length = p) (P Q rP rQ : List ℂ)
    (hP : polyMul P (if p % 2 = 1 then [1, 0, -1] else [1, -1]) = (lsfSplit ((1 : ℂ) :: c)).1)
    (hQ : polyMul Q (if p % 2 = 1 then [1] else [1, 1]) = (lsfSplit ((1 : ℂ) :: c)).2)
    (hrP : polyFromRoots rP = P) (hrQ : polyFromRoots rQ = Q) :
    (∀ r ∈ rP ++ rQ, Complex.exp (r.arg * Complex.I) = r ∧ -Real.pi < r.arg ∧ r.arg < Real.pi
        ∧ r.arg ≠ 0 ∧ (star r).arg = -r.arg ∧ star r ∈ rP ++ rQ)
    ∧ ((rP ++ rQ).map Complex.arg).Nodup
    ∧ ∀ lsf : List ℝ,
        lsf.Perm (((rP ++ rQ).map Complex.arg).filter (fun θ => decide (0 < θ))) →
        lsf.Pairwise (· ≤ ·) →
        lsf.length = p ∧ lsf.Pairwise (· < ·) ∧ ∀ θ ∈ lsf, 0 < θ ∧ θ < Real.pi := by
  obtain ⟨h1, h2, h3, h4, h5⟩ :=
    lsf_computed_roots_unit_distinct c hreal hk p hp P Q rP rQ hP hQ hrP hrQ
  have hang : ∀ r ∈ rP ++ rQ, Complex.exp (r.arg * Complex.I) = r ∧ -Real.pi < r.arg
      ∧ r.arg < Real.pi ∧ r.arg ≠ 0 ∧ (star r).arg = -r.arg :=
    fun r hr => LsfInterlaceL.unit_arg r (h1 r hr).1 (h1 r hr).2.1 (h1 r hr).2.2
  have hconj : ∀ r ∈ rP ++ rQ, star r ∈ rP ++ rQ := by
    intro r hr
    rcases List.mem_append.mp hr with h | h
    · exact List.mem_append.mpr (Or.inl (h3 r h))
    · exact List.mem_append.mpr (Or.inr (h4 r h))
  have hnd : ((rP ++ rQ).map Complex.arg).Nodup := by
    refine List.Nodup.map_on ?_ h2
    intro x hx y hy hxy
    exact Complex.ext_norm_arg ((h1 x hx).1.trans (h1 y hy).1.symm) hxy
  refine ⟨fun r hr => ⟨(hang r hr).1, (hang r hr).2.1, (hang r hr).2.2.1, (hang r hr).2.2.2.1,
    (hang r hr).2.2.2.2, hconj r hr⟩, hnd, ?_⟩
  intro lsf hperm hsorted
  -- the positive angles, with their conjugates, are all `2p` roots
  have hrange : ∀ θ ∈ ((rP ++ rQ).map Complex.arg).filter (fun θ => decide (0 < θ)),
      0 < θ ∧ θ < Real.pi := by
    intro θ hθ
    rw [List.mem_filter, List.mem_map] at hθ
    obtain ⟨⟨r, hr, rfl⟩, hpos⟩ := hθ
    exact ⟨of_decide_eq_true hpos, (hang r hr).2.2.1⟩
  have hall := LsfRoundtripL.angles_perm_roots (rP ++ rQ) _ h2 h1 hconj (hnd.filter _) hrange
    (fun θ hθ => (List.mem_filter.mp hθ).1)
    (fun r hr hpos => List.mem_filter.mpr ⟨List.mem_map.mpr ⟨r, hr, rfl⟩, decide_eq_true hpos⟩)
  have hfl := hall.length_eq
  simp only [List.length_append, List.length_map] at hfl
  refine ⟨by rw [hperm.length_eq]; exact Nat.eq_of_mul_eq_mul_left two_pos (by rw [two_mul, hfl, h5]),
    ?_, fun θ hθ => hrange θ (hperm.mem_iff.mp hθ)⟩
  have hnd' : lsf.Nodup := hperm.nodup_iff.mpr (hnd.filter _)
  exact (hsorted.and hnd').imp (fun h => lt_of_le_of_ne h.1 h.2)

end LsfCircle

/-! ### interlacing: the zeros of `P1` and `Q1` alternate round the unit circle -/

section LsfInterlace
open SpecVerif.LpcL SpecVerif.SchurL SpecVerif.LsfCircleL SpecVerif.LsfInterlaceL
  SpecVerif.LsfRoundtripL

/-- **interlacing theorem of the line spectral pairs**: for a real minimum-phase prediction polynomial
`[1, c_1..c_p]`, between any two zeros `e^{it1}`, `e^{it2}` (`t1 < t2`, any real angles, in particular
`0 ≤ t1 < t2 ≤ π` with the fixed zeros `z = ±1` included) of the difference polynomial `P1` there is a
zero `e^{is}`, `t1 < s < t2`, of the sum polynomial `Q1` — and between any two zeros of `Q1` there is a
zero of `P1`. -/
theorem lsf_zeros_interlace (c : List ℂ) (hreal : ∀ j, star (nth c j) = nth c j)
    (hk : ∀ k ∈ poly2rc c, ‖k‖ < 1) (t1 t2 : ℝ) (h12 : t1 < t2) :
    (polyEval (lsfSplit ((1 : ℂ) :: c)).1 (Complex.exp (t1 * Complex.I)) = 0 →
      polyEval (lsfSplit ((1 : ℂ) :: c)).1 (Complex.exp (t2 * Complex.I)) = 0 →
      ∃ s : ℝ, t1 < s ∧ s < t2 ∧ polyEval (lsfSplit ((1 : ℂ) :: c)).2 (Complex.exp (s * Complex.I)) = 0)
    ∧ (polyEval (lsfSplit ((1 : ℂ) :: c)).2 (Complex.exp (t1 * Complex.I)) = 0 →
      polyEval (lsfSplit ((1 : ℂ) :: c)).2 (Complex.exp (t2 * Complex.I)) = 0 →
      ∃ s : ℝ, t1 < s ∧ s < t2
        ∧ polyEval (lsfSplit ((1 : ℂ) :: c)).1 (Complex.exp (s * Complex.I)) = 0) := by
  have ha := minPhase_of_poly2rc hk
  simp only [← eit_def, (polyEval_lsfSplit_comb hreal _).1, (polyEval_lsfSplit_comb hreal _).2]
  refine ⟨fun h1 h2 => ?_, lsfComb_interlace ha 1 norm_one t1 t2 h12⟩
  have h := lsfComb_interlace ha (-1) (by rw [norm_neg, norm_one]) t1 t2 h12 h1 h2
  rwa [neg_neg] at h

/-- non-vacuity of `lsf_zeros_interlace`: for `a = [1, -3/5, 2/5]` (real, reflection coefficients
`[-3/7, 2/5]`, see the example above) `P1 = (z² + 1)(z − 1)` vanishes at `e^{i·0} = 1` and at
`e^{iπ/2} = i`; the zero of `Q1` in between is `(3 + 4i)/5` -/
example : (0 : ℝ) < Real.pi / 2
    ∧ polyEval (lsfSplit ([1, -3 / 5, 2 / 5] : List ℂ)).1 (Complex.exp (((0 : ℝ) : ℂ) * Complex.I)) = 0
    ∧ polyEval (lsfSplit ([1, -3 / 5, 2 / 5] : List ℂ)).1
        (Complex.exp (((Real.pi / 2 : ℝ) : ℂ) * Complex.I)) = 0
    ∧ polyEval (lsfSplit ([1, -3 / 5, 2 / 5] : List ℂ)).2 ((3 + 4 * Complex.I) / 5) = 0 := by
  have hP : (lsfSplit ([1, -3 / 5, 2 / 5] : List ℂ)).1 = [1, -1, 1, -1] := by
    simp only [lsfSplit, spec_eval, spec_eval_proc]
    norm_num only
  have hQ : (lsfSplit ([1, -3 / 5, 2 / 5] : List ℂ)).2 = [1, -1 / 5, -1 / 5, 1] := by
    simp only [lsfSplit, spec_eval, spec_eval_proc]
    norm_num only
  refine ⟨by positivity, ?_, ?_, ?_⟩
  · rw [hP, Complex.ofReal_zero, zero_mul, Complex.exp_zero]
    simp only [polyEval, spec_eval, spec_eval_proc]
    norm_num only
  -- the next two are polynomials in `i` that are multiples of `i² + 1`
  · rw [hP, Complex.ofReal_div, Complex.ofReal_ofNat, Complex.exp_pi_div_two_mul_I]
    simp only [polyEval, spec_eval, spec_eval_proc]
    linear_combination (-1 + Complex.I) * Complex.I_sq
  · rw [hQ]
    simp only [polyEval, spec_eval, spec_eval_proc]
    linear_combination (128 / 125 + 64 / 125 * Complex.I) * Complex.I_sq

/-- **the computed roots interlace**, relative to the contract of `numpy.roots` (as in
`lsf_computed_roots_unit_distinct`): between the positive angles of two roots of the deflated `P` lies the
angle of a root of the deflated `Q`, and vice versa; below the positive angle of any root of `P` lies a
positive angle of a root of `Q` (fixed zero `z = 1` of `P1`), so the smallest line spectral frequency
belongs to `Q`; above the positive angle of any root of `Q` (even order, fixed zero `z = −1` of `Q1`) resp.
of `P` (odd order, fixed zero `z = −1` of `P1`) lies the angle of a root of the other polynomial, so the
largest line spectral frequency belongs to `P` for even and to `Q` for odd order -/
theorem lsf_computed_roots_interlace (c : List ℂ) (hreal : ∀ j, star (nth c j) = nth c j)
    (hk : ∀ k ∈ poly2rc c, ‖k‖ < 1) (p : ℕ) (hp : c.length = p) (P Q rP rQ : List ℂ)
    (hP : polyMul P (if p % 2 = 1 then [1, 0, -1] else [1, -1]) = (lsfSplit ((1 : ℂ) :: c)).1)
    (hQ : polyMul Q (if p % 2 = 1 then [1] else [1, 1]) = (lsfSplit ((1 : ℂ) :: c)).2)
    (hrP : polyFromRoots rP = P) (hrQ : polyFromRoots rQ = Q) :
    (∀ r1 ∈ rP, ∀ r2 ∈ rP, 0 < r1.arg → r1.arg < r2.arg →
        ∃ q ∈ rQ, r1.arg < q.arg ∧ q.arg < r2.arg)
    ∧ (∀ q1 ∈ rQ, ∀ q2 ∈ rQ, 0 < q1.arg → q1.arg < q2.arg →
        ∃ r ∈ rP, q1.arg < r.arg ∧ r.arg < q2.arg)
    ∧ (∀ r ∈ rP, 0 < r.arg → ∃ q ∈ rQ, 0 < q.arg ∧ q.arg < r.arg)
    ∧ (p % 2 = 0 → ∀ q ∈ rQ, 0 < q.arg → ∃ r ∈ rP, q.arg < r.arg ∧ r.arg < Real.pi)
    ∧ (p % 2 = 1 → ∀ r ∈ rP, 0 < r.arg → ∃ q ∈ rQ, r.arg < q.arg ∧ q.arg < Real.pi) := by
  have ha := minPhase_of_poly2rc hk
  have hfac := fun z => lsf_full_factor p P Q rP rQ _ _ hP hQ hrP hrQ z
  obtain ⟨hunit, _, _, _, _⟩ :=
    lsf_computed_roots_unit_distinct c hreal hk p hp P Q rP rQ hP hQ hrP hrQ
  have hcomb := polyEval_lsfSplit_comb hreal
  -- between two zeros of `P1` lies the angle of a root in `rQ`, between two zeros of `Q1` one of a root in `rP`
  have hbP := lsfComb_root_between ha (-1) (by rw [norm_neg, norm_one]) rQ (fixedQ p)
    (fun z => by rw [neg_neg, ← (hcomb z).2, (hfac z).2])
    (fun r hr => (mem_fixed p r).mp (List.mem_append.mpr (Or.inr hr)))
  have hbQ := lsfComb_root_between ha 1 norm_one rP (fixedP p)
    (fun z => by rw [← (hcomb z).1, (hfac z).1])
    (fun r hr => (mem_fixed p r).mp (List.mem_append.mpr (Or.inl hr)))
  have hzP : ∀ r ∈ rP, lsfComb c (-1) (eit r.arg) = 0 := by
    intro r hr
    rw [eit_arg r (hunit r (List.mem_append.mpr (Or.inl hr))).1, ← (hcomb r).1, (hfac r).1,
      (prod_roots_eq_zero_iff _ r).mpr (List.mem_append.mpr (Or.inl hr))]
  have hzQ : ∀ r ∈ rQ, lsfComb c 1 (eit r.arg) = 0 := by
    intro r hr
    rw [eit_arg r (hunit r (List.mem_append.mpr (Or.inr hr))).1, ← (hcomb r).2, (hfac r).2,
      (prod_roots_eq_zero_iff _ r).mpr (List.mem_append.mpr (Or.inl hr))]
  have hlt_pi : ∀ r ∈ rP ++ rQ, r.arg < Real.pi := fun r hr =>
    (unit_arg r (hunit r hr).1 (hunit r hr).2.1 (hunit r hr).2.2).2.2.1
  have hlen : ((1 : ℂ) :: c).length = p + 1 := by rw [List.length_cons, hp]
  -- the fixed zeros: `P1(1) = 0`; `Q1(−1) = 0` for even, `P1(−1) = 0` for odd order
  have hone : lsfComb c (-1) (eit 0) = 0 := by
    rw [eit_zero, ← (hcomb 1).1]
    exact lsfSplit_fst_root_one _
  refine ⟨?_, ?_, ?_, ?_, ?_⟩
  · intro r1 h1 r2 h2 h0 h12
    exact hbP r1.arg r2.arg h0.le h12 (Complex.arg_le_pi r2) (hzP r1 h1) (hzP r2 h2)
  · intro q1 h1 q2 h2 h0 h12
    exact hbQ q1.arg q2.arg h0.le h12 (Complex.arg_le_pi q2) (hzQ q1 h1) (hzQ q2 h2)
  · intro r hr h0
    exact hbP 0 r.arg le_rfl h0 (Complex.arg_le_pi r) hone (hzP r hr)
  · intro hev q hq h0
    have hm1 : lsfComb c 1 (eit Real.pi) = 0 := by
      rw [eit_pi, ← (hcomb (-1)).2]
      exact lsfSplit_snd_root_neg_one _ (by rw [hlen, Nat.succ_mod_two_eq_one_iff]; exact hev)
    exact hbQ q.arg Real.pi h0.le (hlt_pi q (List.mem_append.mpr (Or.inr hq))) le_rfl (hzQ q hq) hm1
  · intro hodd r hr h0
    have hm1 : lsfComb c (-1) (eit Real.pi) = 0 := by
      rw [eit_pi, ← (hcomb (-1)).1]
      exact lsfSplit_fst_root_neg_one _ (by rw [hlen, Nat.succ_mod_two_eq_zero_iff]; exact hodd)
    exact hbP r.arg Real.pi h0.le (hlt_pi r (List.mem_append.mpr (Or.inl hr))) le_rfl (hzP r hr) hm1

/-- **the sorted line spectral frequencies alternate between `Q` and `P`, starting with `Q`**: under the
hypotheses of `lsf_angles`, in any sorted rearrangement `lsf` of the positive angles of the computed roots
the entries at even positions `0, 2, 4, …` are angles of roots of the deflated sum polynomial `Q` and the
entries at odd positions `1, 3, 5, …` are angles of roots of the deflated difference polynomial `P` (the two
kinds are disjoint: the angles of `rP ++ rQ` are pairwise distinct by `lsf_angles`).  This is the
assignment `rQ = z[0::2]`, `rP = z[1::2]` that `lsf2poly` makes. -/
theorem lsf_sorted_alternate (c : List ℂ) (hreal : ∀ j, star (nth c j) = nth c j)
    (hk : ∀ k ∈ poly2rc c, ‖k‖ < 1) (p : ℕ) (hp : c.length = p) (P Q rP rQ : List ℂ)
    (hP : polyMul P (if p % 2 = 1 then [1, 0, -1] else [1, -1]) = (lsfSplit ((1 : ℂ) :: c)).1)
    (hQ : polyMul Q (if p % 2 = 1 then [1] else [1, 1]) = (lsfSplit ((1 : ℂ) :: c)).2)
    (hrP : polyFromRoots rP = P) (hrQ : polyFromRoots rQ = Q) (lsf : List ℝ)
    (hperm : lsf.Perm (((rP ++ rQ).map Complex.arg).filter (fun θ => decide (0 < θ))))
    (hsorted : lsf.Pairwise (· ≤ ·)) :
    ∀ (i : ℕ) (hi : i < lsf.length),
      (i % 2 = 0 → lsf[i] ∈ rQ.map Complex.arg) ∧ (i % 2 = 1 → lsf[i] ∈ rP.map Complex.arg) := by
  obtain ⟨_, _, hsort⟩ := lsf_angles c hreal hk p hp P Q rP rQ hP hQ hrP hrQ
  obtain ⟨_, hstrict, _⟩ := hsort lsf hperm hsorted
  obtain ⟨h1, h2, h3, _, _⟩ :=
    lsf_computed_roots_interlace c hreal hk p hp P Q rP rQ hP hQ hrP hrQ
  have hmem : ∀ x, x ∈ lsf ↔ (∃ r ∈ rP ++ rQ, r.arg = x) ∧ 0 < x := by
    intro x
    rw [hperm.mem_iff, List.mem_filter, List.mem_map, decide_eq_true_eq]
  have hinP : ∀ r ∈ rP, 0 < r.arg → r.arg ∈ lsf := fun r hr h0 =>
    (hmem _).mpr ⟨⟨r, List.mem_append.mpr (Or.inl hr), rfl⟩, h0⟩
  have hinQ : ∀ r ∈ rQ, 0 < r.arg → r.arg ∈ lsf := fun r hr h0 =>
    (hmem _).mpr ⟨⟨r, List.mem_append.mpr (Or.inr hr), rfl⟩, h0⟩
  refine alternate_of_sorted lsf hstrict (fun x => x ∈ rP.map Complex.arg)
    (fun x => x ∈ rQ.map Complex.arg) ?_ ?_ ?_ ?_
  · intro x hx
    obtain ⟨⟨r, hr, rfl⟩, _⟩ := (hmem x).mp hx
    rcases List.mem_append.mp hr with h | h
    · exact Or.inl (List.mem_map.mpr ⟨r, h, rfl⟩)
    · exact Or.inr (List.mem_map.mpr ⟨r, h, rfl⟩)
  · intro x hx hxP
    obtain ⟨r, hr, rfl⟩ := List.mem_map.mp hxP
    obtain ⟨q, hq, hq0, hqr⟩ := h3 r hr ((hmem _).mp hx).2
    exact ⟨q.arg, hinQ q hq hq0, hqr⟩
  · intro x hx y hy hxP hyP hxy
    obtain ⟨r1, hr1, rfl⟩ := List.mem_map.mp hxP
    obtain ⟨r2, hr2, rfl⟩ := List.mem_map.mp hyP
    have h0 := ((hmem _).mp hx).2
    obtain ⟨q, hq, hq1, hq2⟩ := h1 r1 hr1 r2 hr2 h0 hxy
    exact ⟨q.arg, hinQ q hq (h0.trans hq1), hq1, hq2⟩
  · intro x hx y hy hxQ hyQ hxy
    obtain ⟨q1, hq1, rfl⟩ := List.mem_map.mp hxQ
    obtain ⟨q2, hq2, rfl⟩ := List.mem_map.mp hyQ
    have h0 := ((hmem _).mp hx).2
    obtain ⟨r, hr, hr1, hr2⟩ := h2 q1 hq1 q2 hq2 h0 hxy
    exact ⟨r.arg, hinP r hr (h0.trans hr1), hr1, hr2⟩

/-- non-vacuity of the hypotheses of `lsf_sorted_alternate` / `lsf2poly_poly2lsf`: the polynomial and
root-contract hypotheses are those of `lsf_angles` (order-2 instance above); a sorted rearrangement `lsf`
of the positive angles always exists -/
example (L : List ℝ) : ∃ lsf : List ℝ, lsf.Perm L ∧ lsf.Pairwise (· ≤ ·) :=
  ⟨L.insertionSort (· ≤ ·), List.perm_insertionSort _ L, List.pairwise_insertionSort _ L⟩

/-- the slices of `lsf2poly`: `evens l = l[0::2]`, `odds l = l[1::2]` -/
example : evens [10, 11, 12, 13, 14] = [10, 12, 14] ∧ odds [10, 11, 12, 13, 14] = [11, 13] :=
  ⟨rfl, rfl⟩

/-- **`lsf2poly ∘ poly2lsf = id` through the sorted frequencies** (relative to the contract of
`numpy.roots` only): let `lsf` be the sorted list of the positive angles of the roots that `poly2lsf`
computes for the real minimum-phase polynomial `a = [1, c_1..c_p]` (hypotheses of `lsf_angles`).  Then
`lsf2poly lsf` — which forms `z = exp(i·lsf)`, assigns `rQ = z[0::2]`, `rP = z[1::2]`, appends the
conjugates, multiplies the linear factors (`numpy.poly`), re-inserts the fixed zeros `±1` and averages —
returns `a`.  The assignment by position is correct because of the alternation `lsf_sorted_alternate`;
`numpy.poly` does not depend on the order of the roots (`LpcL.polyFromRoots_perm`). -/
theorem lsf2poly_poly2lsf (c : List ℂ) (hreal : ∀ j, star (nth c j) = nth c j)
    (hk : ∀ k ∈ poly2rc c, ‖k‖ < 1) (p : ℕ) (hp : c.length = p) (P Q rP rQ : List ℂ)
    (hP : polyMul P (if p % 2 = 1 then [1, 0, -1] else [1, -1]) = (lsfSplit ((1 : ℂ) :: c)).1)
    (hQ : polyMul Q (if p % 2 = 1 then [1] else [1, 1]) = (lsfSplit ((1 : ℂ) :: c)).2)
    (hrP : polyFromRoots rP = P) (hrQ : polyFromRoots rQ = Q) (lsf : List ℝ)
    (hperm : lsf.Perm (((rP ++ rQ).map Complex.arg).filter (fun θ => decide (0 < θ))))
    (hsorted : lsf.Pairwise (· ≤ ·)) :
    lsfRecombine
      ((evens lsf).map (fun θ : ℝ => Complex.exp (θ * Complex.I))
        ++ ((evens lsf).map (fun θ : ℝ => Complex.exp (θ * Complex.I))).map star)
      ((odds lsf).map (fun θ : ℝ => Complex.exp (θ * Complex.I))
        ++ ((odds lsf).map (fun θ : ℝ => Complex.exp (θ * Complex.I))).map star) p
      = (1 : ℂ) :: c := by
  rw [← show eit = (fun θ : ℝ => Complex.exp (θ * Complex.I)) from funext eit_def]
  obtain ⟨_, hndarg, hsort⟩ := lsf_angles c hreal hk p hp P Q rP rQ hP hQ hrP hrQ
  obtain ⟨_, hstrict, hrange⟩ := hsort lsf hperm hsorted
  obtain ⟨hunit, _, hcP, hcQ, _⟩ :=
    lsf_computed_roots_unit_distinct c hreal hk p hp P Q rP rQ hP hQ hrP hrQ
  have halt := lsf_sorted_alternate c hreal hk p hp P Q rP rQ hP hQ hrP hrQ lsf hperm hsorted
  have hsup : ∀ r ∈ rP ++ rQ, 0 < r.arg → r.arg ∈ lsf := by
    intro r hr h0
    rw [hperm.mem_iff, List.mem_filter, decide_eq_true_eq]
    exact ⟨List.mem_map.mpr ⟨r, hr, rfl⟩, h0⟩
  obtain ⟨hpQ, hpP⟩ :=
    slices_perm_roots rP rQ lsf hndarg hunit hcP hcQ hstrict hrange hsup halt
  exact (lsf_roundtrip_algebra (two_ne_zero : (2 : ℂ) ≠ 0) ((1 : ℂ) :: c) p
    (by rw [List.length_cons, hp]) P Q _ _ hP hQ
    ((polyFromRoots_perm _ _ hpP).trans hrP) ((polyFromRoots_perm _ _ hpQ).trans hrQ)).1

end LsfInterlace

end SpecVerif.C11
