import SpecVerif.Model.Minvar
import SpecVerif.Proofs.Lemmas.Scale
import SpecVerif.Proofs.Lemmas.AdaptLoop
import SpecVerif.Proofs.Lemmas.ShiftLS
import SpecVerif.Proofs.C08
import Mathlib.Algebra.Star.Rat
import Mathlib.Tactic.NormNum
import SpecVerif.Proofs.Lemmas.CRatField
import SpecVerif.Proofs.Lemmas.Daniell
import SpecVerif.Proofs.Lemmas.EigenCrit
import SpecVerif.Proofs.Lemmas.Eval
/-
  C03 — amplitude equivariance.

  "Multiplying the data by any non-zero scalar `c` (complex `c` for complex data) multiplies every PSD
  estimate and every estimated noise variance by `|c|²` and leaves model coefficients (AR, MA,
  reflection coefficients), multitaper weights and subspace / order decisions unchanged; the MUSIC
  pseudo-spectrum is unchanged and the EV pseudo-spectrum scales by `|c|`.  This holds for the
  functional estimators and for every PSD class."

  Notation: `K` is any field with an involution (`ℂ` with `star = conj`, `ℝ`/`ℚ` with the trivial one),
  `c • x` is `x.map (c * ·)`, and `|c|²` is written `c * star c` (self-adjoint, non-zero when `c ≠ 0`).
  Scaling is the case `μ = 1` of the similarity `x_n ↦ c·μⁿ·x_n` shared with C04 (`Lemmas/Similarity.lean`).

  Multitaper, per pass: `C19.mt_scale`, `C19.mt_scale_weight`.  Whole loop: `mt_adapt_scale` — the tolerance
  `0.0005·σ²/NFFT` of `pmtm(method='adapt')` scales with the data power, so both runs stop at the same pass
  (`Lemmas/AdaptLoop.lean`).
-/
namespace SpecVerif.C03
open Finset SpecVerif SpecVerif.ScaleL SpecVerif.LSL SpecVerif.ShiftLSL
open SpecVerif.ShiftL (mul_star_self_ne_zero energy_sim unimod_one sim_smul)

variable {K : Type} [Field K] [StarRing K]

omit [StarRing K] in
/-- the DFT is homogeneous in the data, for any twiddle table (the FFT is a parameter of the model) -/
theorem dft_scale (tw : List K) (n : ℕ) (c : K) (x : List K) (k : ℕ) :
    dftBin tw n (x.map (c * ·)) k = c * dftBin tw n x k :=
  dftBin_map_mul tw n c x k

/-- every returned periodogram value of `c • x` is `|c|²` times the one of `x` (any window, any `NFFT`,
real or complex data, no condition on `c`) -/
theorem periodogram_scale (tw x w : List K) (nfft : ℕ) (isReal : Bool) (c : K) :
    speriodogram tw (x.map (c * ·)) w nfft isReal
      = (speriodogram tw x w nfft isReal).map ((c * star c) * ·) := by
  unfold speriodogram
  simp only [List.length_map]
  refine vec_eq_map _ (fun k _ => ?_)
  have h : (vec x.length fun j => nth (x.map (fun v => c * v)) j * nth w j)
      = vec x.length (fun j => c * (nth x j * nth w j)) := by
    apply vec_ext
    intro j _
    rw [nth_map_mul_left]
    ring
  rw [h, dftBin_smul, abs2_eq, abs2_eq, star_mul']
  ring

theorem periodogram_scale_entry (tw x w : List K) (nfft : ℕ) (isReal : Bool) (c : K) (k : ℕ) :
    nth (speriodogram tw (x.map (c * ·)) w nfft isReal) k
      = (c * star c) * nth (speriodogram tw x w nfft isReal) k := by
  rw [periodogram_scale, nth_map_mul_left]

/-- column-wise (2-D) periodogram: every column scales by `|c|²` -/
theorem periodogram2_scale (tw : List K) (cols : List (List K)) (w : List K) (nfft : ℕ)
    (isReal : Bool) (c : K) :
    speriodogram2 tw (cols.map (fun col => col.map (c * ·))) w nfft isReal
      = (speriodogram2 tw cols w nfft isReal).map (fun col => col.map ((c * star c) * ·)) := by
  unfold speriodogram2
  rw [List.map_map, List.map_map]
  apply List.map_congr_left
  intro col _
  exact periodogram_scale tw col w nfft isReal c

theorem corr_scale (c : K) (x y : List K) (n k : ℕ) :
    corrRaw (x.map (c * ·)) (y.map (c * ·)) n k = (c * star c) * corrRaw x y n k :=
  corrRaw_smul c x y n k

/-- the mean power (`rms²`, the variance estimate of order 0) scales by `|c|²` -/
theorem meanPow_scale (c : K) (x : List K) (n : ℕ) :
    meanPow (x.map (c * ·)) n = (c * star c) * meanPow x n := by
  rw [meanPow_eq, meanPow_eq, mul_div_assoc']
  congr 1
  exact energy_sim (μ := 1) unimod_one (sim_smul c x) _

/-- `CORRELATION` with `norm ∈ {biased, unbiased, None}`: every lag scales by `|c|²` -/
theorem correlation_scale (c : K) (x y : List K) (L : ℕ) (norm : Norm) (hn : norm ≠ .coeff)
    (rms2 : K) :
    correlation (x.map (c * ·)) (y.map (c * ·)) L norm rms2
      = (correlation x y L norm rms2).map ((c * star c) * ·) :=
  correlation_smul c x y L norm hn rms2

/-- `xcorr` (lags `-L..L`) with `norm ∈ {biased, unbiased, None}`: every lag scales by `|c|²` -/
theorem xcorr_scale (c : K) (x y : List K) (L : ℕ) (norm : Norm) (hn : norm ≠ .coeff) (rms2 : K) :
    xcorr (x.map (c * ·)) (y.map (c * ·)) L norm rms2
      = (xcorr x y L norm rms2).map ((c * star c) * ·) := by
  unfold xcorr
  rw [List.length_map]
  refine vec_eq_map _ (fun i _ => ?_)
  -- the lag sum, read from either side, picks up `c·conj c`; every normalisation divides it
  have hs : (if L ≤ i then corrRaw (x.map (c * ·)) (y.map (c * ·)) x.length (if L ≤ i then i - L else L - i)
        else conj (corrRaw (y.map (c * ·)) (x.map (c * ·)) x.length (if L ≤ i then i - L else L - i)))
      = c * star c * (if L ≤ i then corrRaw x y x.length (if L ≤ i then i - L else L - i)
        else conj (corrRaw y x x.length (if L ≤ i then i - L else L - i))) := by
    by_cases hi : L ≤ i
    · rw [if_pos hi, if_pos hi, if_pos hi, corrRaw_smul]
    · rw [if_neg hi, if_neg hi, if_neg hi, corrRaw_smul, conj_eq_star, conj_eq_star, star_mul', star_mul', star_star,
        mul_comm (star c) c]
  cases norm with
  | biased => exact (congrArg (· / (x.length : K)) hs).trans (mul_div_assoc _ _ _)
  | unbiased => exact (congrArg (· / _) hs).trans (mul_div_assoc _ _ _)
  | none => exact hs
  | coeff => exact absurd rfl hn

/-- `CORRELATION(norm='coeff')`: when the normalising power is scaled with the data (`rms2 ↦ |c|² rms2`,
which is what `rms(cx)·rms(cy)` does) the lags are unchanged.  Needs `c ≠ 0` (cancellation of `|c|²`); the
identity also holds at `rms2 = 0` (both sides the totalised `·/0`), so the hypothesis on `rms2` is not used. -/
theorem correlation_scale_coeff {c : K} (hc : c ≠ 0) (x y : List K) (L : ℕ) {rms2 : K}
    (_hr : rms2 ≠ 0) :
    correlation (x.map (c * ·)) (y.map (c * ·)) L .coeff ((c * star c) * rms2)
      = correlation x y L .coeff rms2 :=
  correlation_smul_coeff hc x y L rms2

/-- coefficient-normalised autocorrelation with the model's `rms2 = meanPow`: invariant under `c ≠ 0`
(the hypothesis on the power is not used) -/
theorem autocorrelation_coeff_scale {c : K} (hc : c ≠ 0) (x : List K) (L : ℕ)
    (_hx : meanPow x x.length ≠ 0) :
    correlation (x.map (c * ·)) (x.map (c * ·)) L .coeff
        (meanPow (x.map (c * ·)) (x.map (c * ·)).length)
      = correlation x x L .coeff (meanPow x x.length) := by
  rw [List.length_map, meanPow_scale]
  exact correlation_smul_coeff hc x x L _

/-- the power of `c • x` is non-zero iff the one of `x` is (`c ≠ 0`) -/
theorem meanPow_ne_zero_scale {c : K} (hc : c ≠ 0) (x : List K) (n : ℕ) :
    meanPow (x.map (c * ·)) n ≠ 0 ↔ meanPow x n ≠ 0 := by
  rw [meanPow_scale, mul_ne_zero_iff]
  exact ⟨fun h => h.2, fun h => ⟨mul_star_self_ne_zero hc, h⟩⟩

/-- `CORRELOGRAMPSD` (cross or auto, any lag window, any table) with `norm ∈ {biased, unbiased, None}`
scales by `|c|²` -/
theorem correlogram_scale (tw : List K) (c : K) (x y w : List K) (lag nfft : ℕ) (norm : Norm)
    (hn : norm ≠ .coeff) (rms2 : K) :
    correlogram tw (x.map (c * ·)) (y.map (c * ·)) w lag nfft norm rms2
      = (correlogram tw x y w lag nfft norm rms2).map ((c * star c) * ·) := by
  unfold correlogram
  simp only []
  rw [correlation_smul c x y lag norm hn, correlation_smul c y x lag norm hn]
  exact correlogramPsd_smul (star_mul_star_self c) tw _ _ w lag nfft

/-- the Levinson recursion on `t·r` (`t ≠ 0`): same polynomial, same reflection coefficients, error
multiplied by `t`, at every stage -/
theorem levinson_scale {t : K} (ht : t ≠ 0) (r0 : K) (T : List K) (k : ℕ) :
    (levRun (t * r0) (T.map (t * ·)) k).A = (levRun r0 T k).A ∧
    (levRun (t * r0) (T.map (t * ·)) k).ref = (levRun r0 T k).ref ∧
    (levRun (t * r0) (T.map (t * ·)) k).P = t * (levRun r0 T k).P := by
  rw [levRun_smul ht]
  exact ⟨rfl, rfl, rfl⟩

/-- the `LEVINSON` wrapper raises / succeeds identically on `r` and `t·r` when the sign test of the
code does not see `t` (`reLe0 (t·z) = reLe0 z`: true for a positive real `t`, see `guard_scale`) -/
theorem levinson_scale_status [ReOrd K] {t : K} (ht : t ≠ 0)
    (hre : ∀ z : K, reLe0 (t * z) = reLe0 z) (r0 : K) (T : List K) (order : ℕ) (allow : Bool) :
    levinson (t * r0) (T.map (t * ·)) order allow
      = (levinson r0 T order allow).map (fun st => { A := st.A, P := t * st.P, ref := st.ref }) := by
  unfold levinson
  simp only [List.length_map, levRun_smul ht]
  have hP : ∀ j, reLe0 (scaleLev t (levRun r0 T (j + 1))).P = reLe0 (levRun r0 T (j + 1)).P :=
    fun j => hre _
  simp only [hP]
  split_ifs <;> rfl

/-- `aryule(c·x, p, norm)` for `norm ∈ {biased, unbiased, None}`: the AR coefficients and reflection
coefficients are those of `x`, the noise variance is multiplied by `|c|²` -/
theorem aryule_scale {c : K} (hc : c ≠ 0) (x : List K) (p : ℕ) (norm : Norm) (hn : norm ≠ .coeff) :
    (aryule (x.map (c * ·)) p norm).A = (aryule x p norm).A ∧
    (aryule (x.map (c * ·)) p norm).ref = (aryule x p norm).ref ∧
    (aryule (x.map (c * ·)) p norm).P = (c * star c) * (aryule x p norm).P := by
  rw [aryule_smul hc x p norm hn]
  exact ⟨rfl, rfl, rfl⟩

/-- `ma(c·x, Q, M)`: same status, same MA coefficients, variance multiplied by `|c|²` -/
theorem ma_scale {c : K} (hc : c ≠ 0) (x : List K) (Q M : ℕ) :
    maEstimate (x.map (c * ·)) Q M
      = (maEstimate x Q M).map (fun bv => (bv.1, (c * star c) * bv.2)) := by
  unfold maEstimate
  simp only [aryule_smul hc x M .biased (by decide)]
  split_ifs <;> rfl

/-- every stage of the Burg recursion on `c • x` (`c ≠ 0`): coefficients, reflection coefficients and
`temp` are those of `x`; the error sequences are multiplied by `c`; `rho` and `den` by `|c|²`.
(`(N : K)` may be anything, even `0`: no hypothesis on the characteristic.) -/
theorem burg_scale {c : K} (hc : c ≠ 0) (x : List K) (k : ℕ) :
    (burgRun (x.map (c * ·)) k).a = (burgRun x k).a ∧
    (burgRun (x.map (c * ·)) k).ref = (burgRun x k).ref ∧
    (burgRun (x.map (c * ·)) k).temp = (burgRun x k).temp ∧
    (burgRun (x.map (c * ·)) k).ef = (burgRun x k).ef.map (c * ·) ∧
    (burgRun (x.map (c * ·)) k).eb = (burgRun x k).eb.map (c * ·) ∧
    (burgRun (x.map (c * ·)) k).rho = (c * star c) * (burgRun x k).rho ∧
    (burgRun (x.map (c * ·)) k).den = (c * star c) * (burgRun x k).den := by
  rw [burgRun_smul hc]
  exact ⟨rfl, rfl, rfl, rfl, rfl, rfl, rfl⟩

/-- `arburg(c·x, order, criteria)` against `arburg(x, order, criteria)`: when the stopping rule and the
sign test do not see `|c|²` (`stop' k (|c|²ρ) = stop k ρ`, `reLe0 (|c|² z) = reLe0 z`) the two calls
raise / succeed identically, keep the same order, and the returned state is the scaled one -/
theorem arburg_scale [ReOrd K] {c : K} (hc : c ≠ 0) (stop stop' : ℕ → K → Bool)
    (hstop : ∀ k ρ, stop' k ((c * star c) * ρ) = stop k ρ)
    (hre : ∀ z : K, reLe0 ((c * star c) * z) = reLe0 z) (x : List K) (order : ℕ) (useCrit : Bool) :
    arburg (x.map (c * ·)) order useCrit stop'
      = (arburg x order useCrit stop).map (fun st =>
          { a := st.a, rho := (c * star c) * st.rho, ref := st.ref, ef := st.ef.map (c * ·),
            eb := st.eb.map (c * ·), den := (c * star c) * st.den, temp := st.temp }) :=
  arburg_map _ order useCrit (List.length_map _)
    (burgOrder_congr (fun k _ => by rw [burgRun_smul hc]; exact hstop _ _)) (burgRun_smul hc x)
    (fun _ => hre _)

/-- the hypothesis `reLe0 (|c|² z) = reLe0 z` of `levinson_scale_status` / `arburg_scale` holds for
every `c ≠ 0` over `ℝ`, `ℂ` (any `RCLike` scalar type) when `reLe0` is the test `Re z ≤ 0` -/
theorem guard_scale {F : Type} [RCLike F] [ReOrd F]
    (hspec : ∀ z : F, reLe0 z = true ↔ RCLike.re z ≤ 0) {c : F} (hc : c ≠ 0) (z : F) :
    reLe0 ((c * star c) * z) = reLe0 z := by
  rw [Bool.eq_iff_iff, hspec, hspec, mul_star_eq_ofReal, RCLike.re_ofReal_mul]
  have hpos : 0 < ‖c‖ ^ 2 := by positivity
  rw [← mul_le_mul_iff_right₀ hpos (b := RCLike.re z) (c := 0), mul_zero]

/-- how the log-based criteria move when the variance is multiplied by `t > 0`: AIC and MDL by
`N·log t`, AICc, KIC and AKICc by `log t` — independently of the order `k` -/
theorem criteria_shift (N : ℕ) {t ρ : ℝ} (ht : 0 < t) (hρ : 0 < ρ) (k : ℕ) :
    critValue .AIC N (t * ρ) k = critValue .AIC N ρ k + N * Real.log t ∧
    critValue .MDL N (t * ρ) k = critValue .MDL N ρ k + N * Real.log t ∧
    critValue .AICc N (t * ρ) k = critValue .AICc N ρ k + Real.log t ∧
    critValue .KIC N (t * ρ) k = critValue .KIC N ρ k + Real.log t ∧
    critValue .AKICc N (t * ρ) k = critValue .AKICc N ρ k + Real.log t :=
  ⟨critValue_log_smul .AIC (by decide) N ht hρ k, critValue_log_smul .MDL (by decide) N ht hρ k,
   critValue_log_smul .AICc (by decide) N ht hρ k, critValue_log_smul .KIC (by decide) N ht hρ k,
   critValue_log_smul .AKICc (by decide) N ht hρ k⟩

/-- FPE is proportional to the variance (the factor `(N+k+1)/(N-k-1)` does not involve it; nothing is
cancelled, so no condition on `N-k-1` is needed for this identity) -/
theorem criteria_fpe_linear (N : ℕ) (t ρ : ℝ) (k : ℕ) :
    critValue .FPE N (t * ρ) k = t * critValue .FPE N ρ k :=
  critValue_FPE_smul N t ρ k

/-- **the stopping test of `arburg` is amplitude-blind**, for each of the six criteria and every `t > 0`.  The
log-based criteria move by the same shift on both sides (`criteria_shift`); FPE is multiplied by `t` on both
sides (`criteria_fpe_linear`) — the factors `(N+k+1)/(N-k-1)`, `(N+k)/(N-k)` may have any sign (or be the
totalised `·/0`): they are never cancelled. -/
theorem criteria_scale (cr : Crit) (N : ℕ) {t ρ₁ ρ₂ : ℝ} (ht : 0 < t) (h₁ : 0 < ρ₁) (h₂ : 0 < ρ₂)
    (k : ℕ) : critStops cr N (t * ρ₁) (t * ρ₂) k = critStops cr N ρ₁ ρ₂ k :=
  critStops_smul cr N ht h₁ h₂ k

/-- **the Burg order selected by a criterion does not depend on the amplitude** (real data).  `burgCritStop cr x`
compares the criterion at order `k` with the one at order `k-1` of the *same* data; the variances
`ρ_0..ρ_order` of `x` must be positive (where their logarithms exist). -/
theorem burg_order_scale {c : ℝ} (hc : c ≠ 0) (cr : Crit) (x : List ℝ) (order : ℕ)
    (hpos : ∀ j, j ≤ order → 0 < (burgRun x j).rho) :
    burgOrder (burgCritStop cr (x.map (c * ·))) (x.map (c * ·)) order
      = burgOrder (burgCritStop cr x) x order := by
  have ht : 0 < c * star c := by
    rw [star_trivial]; exact mul_self_pos.mpr hc
  apply burgOrder_congr
  intro k hk
  unfold burgCritStop
  rw [burgRun_smul hc, burgRun_smul hc, List.length_map, Nat.add_sub_cancel]
  exact critStops_smul cr x.length ht (hpos k (by omega)) (hpos (k + 1) (by omega)) (k + 1)

/-- **`arburg` with a criterion, end to end** (real data, `reLe0` = the test `z ≤ 0`): `arburg(c·x, order,
criteria=cr)` raises / succeeds exactly like `arburg(x, order, criteria=cr)`, keeps the same order, and returns
the same AR and reflection coefficients with the variance multiplied by `c²` -/
theorem arburg_criteria_scale [ReOrd ℝ] (hspec : ∀ z : ℝ, reLe0 z = true ↔ z ≤ 0) {c : ℝ}
    (hc : c ≠ 0) (cr : Crit) (x : List ℝ) (order : ℕ) (useCrit : Bool)
    (hpos : ∀ j, j ≤ order → 0 < (burgRun x j).rho) :
    arburg (x.map (c * ·)) order useCrit (burgCritStop cr (x.map (c * ·)))
      = (arburg x order useCrit (burgCritStop cr x)).map (fun st =>
          { a := st.a, rho := (c * star c) * st.rho, ref := st.ref, ef := st.ef.map (c * ·),
            eb := st.eb.map (c * ·), den := (c * star c) * st.den, temp := st.temp }) :=
  arburg_map _ order useCrit (List.length_map _) (burg_order_scale hc cr x order hpos)
    (burgRun_smul hc x) (fun _ => guard_scale (F := ℝ) hspec hc _)

/-- AR / MA / ARMA classes (pburg, pyule, pcovar, pmodcovar, pma, parma): when the variance is
multiplied by `s` and the coefficients are unchanged, the class PSD (folded for real data, scaled by
frequency or not) is multiplied by `s` -/
theorem psd_scale_ar_family (tw : List K) (A B : Option (List K)) (s rho T : K) (nfft : ℕ)
    (isReal : Bool) (sbf : Bool) (twoPi fs : K) :
    classPsd (arma2psd tw A B (s * rho) T nfft) isReal nfft sbf twoPi fs
      = (classPsd (arma2psd tw A B rho T nfft) isReal nfft sbf twoPi fs).map (s * ·) := by
  rw [C08.arma2psd_linear_rho]
  exact classPsd_map_mul s _ isReal nfft sbf twoPi fs

omit [StarRing K] in
/-- **every PSD class**: the `__call__` glue of all twelve estimator classes (`fold2`: pburg … pminvar,
pcorrelogram, MultiTapering; `take`: Periodogram; `eigen`: pmusic, pev) is entry-wise linear in the raw
estimate, whatever `sides` folding and `scale_by_freq` -/
theorem class_scale (t : K) (kind : GlueKind) (raw : List K) (isReal : Bool) (nfft : ℕ) (sbf : Bool)
    (twoPi fs : K) :
    classCall kind (raw.map (t * ·)) isReal nfft sbf twoPi fs
      = (classCall kind raw isReal nfft sbf twoPi fs).map (t * ·) :=
  classCall_map_mul t kind raw isReal nfft sbf twoPi fs

/-- the Burg spectrum of `c • x` (`arma2psd` of the order-`p` Burg model) is `|c|²` times the one of `x` -/
theorem pburg_scale {c : K} (hc : c ≠ 0) (tw x : List K) (p : ℕ) (T : K) (nfft : ℕ) :
    arma2psd tw (some (burgRun (x.map (c * ·)) p).a) none (burgRun (x.map (c * ·)) p).rho T nfft
      = (arma2psd tw (some (burgRun x p).a) none (burgRun x p).rho T nfft).map ((c * star c) * ·) := by
  rw [burgRun_smul hc]
  exact C08.arma2psd_linear_rho tw _ none _ _ T nfft

/-- the Yule–Walker spectrum of `c • x` is `|c|²` times the one of `x` -/
theorem pyule_scale {c : K} (hc : c ≠ 0) (tw x : List K) (p : ℕ) (norm : Norm) (hn : norm ≠ .coeff)
    (T : K) (nfft : ℕ) :
    arma2psd tw (some (aryule (x.map (c * ·)) p norm).A) none (aryule (x.map (c * ·)) p norm).P T nfft
      = (arma2psd tw (some (aryule x p norm).A) none (aryule x p norm).P T nfft).map
          ((c * star c) * ·) := by
  rw [aryule_smul hc x p norm hn]
  exact C08.arma2psd_linear_rho tw _ none _ _ T nfft

/-- Musicus' ψ sequence is divided by `s` when the error power is multiplied by a self-adjoint `s`
(`s ≠ 0` is not used: at `s = 0` both sides are the totalised `·/0`) -/
theorem minvar_psi_scale {s : K} (hs : star s = s) (_hs0 : s ≠ 0) (a : List K) (P : K) (nfft : ℕ) :
    minvarPsi a (s * P) nfft = (minvarPsi a P nfft).map (· / s) := by
  -- every lag of Musicus' sequence is a sum divided by the error power
  have hlag : ∀ k, ArmaL.minvarLag a (s * P) k = ArmaL.minvarLag a P k / s := fun k => by
    unfold ArmaL.minvarLag
    rw [mul_comm s P, div_mul_eq_div_div]
  apply list_ext_nth (by rw [minvarPsi_length, List.length_map, minvarPsi_length])
  intro j hj
  rw [minvarPsi_length] at hj
  rw [nth_map_div, nth_minvarPsi _ _ hj, nth_minvarPsi _ _ hj]
  by_cases h1 : j < a.length
  · rw [if_pos h1, if_pos h1, hlag]
  · rw [if_neg h1, if_neg h1]
    by_cases h2 : 0 < nfft - j ∧ nfft - j < a.length
    · rw [if_pos h2, if_pos h2, hlag, star_div₀, hs]
    · rw [if_neg h2, if_neg h2, zero_div]

/-- hence the minimum-variance PSD `sampling / Re(FFT ψ)` is multiplied by `s` (any table; uses
`rePart (z / s) = rePart z / s` for self-adjoint `s`) -/
theorem minvar_scale {s : K} (hs : star s = s) (_hs0 : s ≠ 0) (tw a : List K) (P fs : K) (nfft : ℕ) :
    minvarPsd tw a (s * P) fs nfft = (minvarPsd tw a P fs nfft).map (s * ·) := by
  unfold minvarPsd
  simp only []
  refine vec_eq_map _ (fun k _ => ?_)
  rw [minvar_psi_scale hs _hs0, dftBin_map_div, rePart_div_selfadjoint hs, div_div_eq_mul_div]
  ring

/-- `minvar(c·x, m, sampling, NFFT)`: PSD multiplied by `|c|²`, AR vector and reflection coefficients
unchanged -/
theorem minvar_function_scale {c : K} (hc : c ≠ 0) (tw x : List K) (m : ℕ) (fs : K) (nfft : ℕ) :
    (minvar tw (x.map (c * ·)) m fs nfft).psd = (minvar tw x m fs nfft).psd.map ((c * star c) * ·) ∧
    (minvar tw (x.map (c * ·)) m fs nfft).ar = (minvar tw x m fs nfft).ar ∧
    (minvar tw (x.map (c * ·)) m fs nfft).ref = (minvar tw x m fs nfft).ref := by
  unfold minvar
  simp only [burgRun_smul hc]
  unfold scaleBurg
  simp only [minvar_scale (star_mul_star_self c) (mul_star_self_ne_zero hc), and_self]

/-! ### least squares (covariance and modified covariance methods) -/

/-- the normal equations of `min ‖X₁ + X_c a‖²` are invariant when row `i` of the data matrix is multiplied by
`d i`, the `d i` of common squared modulus `s ≠ 0`, and the residual energy at any `a` is multiplied by `s` -/
theorem ls_scale_rows {s : K} (hs : s ≠ 0) (d : ℕ → K) (X1 : ℕ → K) (Xc : ℕ → ℕ → K) (r p : ℕ)
    (hd : ∀ i, i < r → d i * star (d i) = s) (a : ℕ → K) :
    (NormalEq (fun i => d i * X1 i) (fun i j => d i * Xc i j) r p a ↔ NormalEq X1 Xc r p a) ∧
    lsEnergy (fun i => d i * X1 i) (fun i j => d i * Xc i j) r p a = s * lsEnergy X1 Xc r p a := by
  have hres : ∀ i, lsRes (fun i => d i * X1 i) (fun i j => d i * Xc i j) p a i = d i * lsRes X1 Xc p a i := by
    intro i
    unfold lsRes
    rw [mul_add, Finset.mul_sum]
    exact congrArg (d i * X1 i + ·) (Finset.sum_congr rfl (fun j _ => mul_assoc _ _ _))
  constructor
  · unfold NormalEq
    apply forall_congr'
    intro b
    apply imp_congr_right
    intro _
    have : ∑ i ∈ range r, star (d i * Xc i b)
          * lsRes (fun i => d i * X1 i) (fun i j => d i * Xc i j) p a i
        = s * ∑ i ∈ range r, star (Xc i b) * lsRes X1 Xc p a i := by
      rw [Finset.mul_sum]
      apply Finset.sum_congr rfl
      intro i hi
      rw [hres, star_mul', ← hd i (mem_range.mp hi)]
      ring
    rw [this, mul_eq_zero]
    exact ⟨fun h => h.resolve_left hs, Or.inr⟩
  · unfold lsEnergy
    rw [Finset.mul_sum]
    apply Finset.sum_congr rfl
    intro i hi
    rw [hres, star_mul', ← hd i (mem_range.mp hi)]
    ring

/-- the case of one factor `c ≠ 0` for all rows: scaling the data matrix by `c` -/
theorem ls_scale {c : K} (hc : c ≠ 0) (X1 : ℕ → K) (Xc : ℕ → ℕ → K) (r p : ℕ) (a : ℕ → K) :
    (NormalEq (fun i => c * X1 i) (fun i j => c * Xc i j) r p a ↔ NormalEq X1 Xc r p a) ∧
    lsEnergy (fun i => c * X1 i) (fun i j => c * Xc i j) r p a
      = (c * star c) * lsEnergy X1 Xc r p a :=
  ls_scale_rows (mul_star_self_ne_zero hc) (fun _ => c) X1 Xc r p (fun _ _ => rfl) a

/-- **covariance method on the data**: `a` satisfies the normal equations of the 'covariance' data
matrix of `c • x` iff it does for `x` (so the solver contract pins the same `arcovar` coefficients), and
the forward prediction-error energy (the returned `e`, see `C14.arcovar_error`) scales by `|c|²` -/
theorem arcovar_scale {c : K} (hc : c ≠ 0) (x : List K) (p : ℕ) (a : ℕ → K) :
    (NormalEq (col0 (corrmtx (x.map (c * ·)) p .covariance))
        (colR (corrmtx (x.map (c * ·)) p .covariance)) ((x.map (c * ·)).length - p) p a
      ↔ NormalEq (col0 (corrmtx x p .covariance)) (colR (corrmtx x p .covariance))
          (x.length - p) p a) ∧
    fwdEnergy (x.map (c * ·)) p a = (c * star c) * fwdEnergy x p a := by
  have h := predSim_smul c x p a
  refine ⟨covariance_normalEq_sim h hc, ?_⟩
  rw [fwdEnergy_sim h, RingHom.id_apply]

/-- **modified covariance method on the data**: same statement for the forward-backward problem -/
theorem modcovar_scale {c : K} (hc : c ≠ 0) (x : List K) (p : ℕ) (a : ℕ → K) :
    (NormalEq (col0 (corrmtx (x.map (c * ·)) p .modified))
        (colR (corrmtx (x.map (c * ·)) p .modified)) (2 * ((x.map (c * ·)).length - p)) p a
      ↔ NormalEq (col0 (corrmtx x p .modified)) (colR (corrmtx x p .modified))
          (2 * (x.length - p)) p a) ∧
    fwdEnergy (x.map (c * ·)) p a + bwdEnergy (x.map (c * ·)) p a
      = (c * star c) * (fwdEnergy x p a + bwdEnergy x p a) := by
  have h := predSim_smul c x p a
  refine ⟨modified_normalEq_sim h hc, ?_⟩
  rw [fwdEnergy_sim h, bwdEnergy_sim h, RingHom.id_apply, RingHom.id_apply, mul_add]

/-- **`arcovar` on scaled data, with the model's verified solver** (lawful pivot test, `Lemmas/GaussJordan.lean`):
if `arcovar` returns `(a, e)` on `x` and `(a', e')` on `c • x`, `c ≠ 0`, then the coefficients are the same
and the error is multiplied by `|c|²` — no solver-contract hypothesis. -/
theorem arcovar_scale_solver [IsZero K] [GJL.LawfulIsZero K] {c : K} (hc : c ≠ 0) (x : List K) (p : ℕ)
    (a a' : List K) (e e' : K)
    (h : arcovar x p = some (a, e)) (h' : arcovar (x.map (c * ·)) p = some (a', e')) :
    a' = a ∧ e' = (c * star c) * e := by
  obtain ⟨hag, hE⟩ := arcovar_sim_unique (τ' := id) (fun f => predSim_smul c x p f) hc h h'
    (GJL.lsFit_sound h).1 (GJL.lsFit_sound h').1 (GJL.lsFit_solution_unique h)
  exact ⟨list_eq_of_nth_eq (GJL.lsFit_length h) (GJL.lsFit_length h') hag, hE⟩

/-- **`modcovar` on scaled data, with the model's verified solver**: same coefficients, error `× |c|²` -/
theorem modcovar_scale_solver [IsZero K] [GJL.LawfulIsZero K] {c : K} (hc : c ≠ 0) (x : List K) (p : ℕ)
    (a a' : List K) (e e' : K)
    (h : modcovar x p = some (a, e)) (h' : modcovar (x.map (c * ·)) p = some (a', e')) :
    a' = a ∧ e' = (c * star c) * e := by
  obtain ⟨hag, hE⟩ := modcovar_sim_unique (τ' := id) (fun f => predSim_smul c x p f) hc h h'
    (GJL.lsFit_sound h).1 (GJL.lsFit_sound h').1 (GJL.lsFit_solution_unique h)
  exact ⟨list_eq_of_nth_eq (GJL.lsFit_length h) (GJL.lsFit_length h') hag, hE⟩

/-! ### MUSIC / EV (relative to the SVD contract) and the subspace decision

Scaling the data by `c` multiplies the forward-backward matrix by `c` / `conj c` row-wise, hence its
singular values by `t = |c|` and leaves the right singular subspaces unchanged: the SVD parameter of the
model becomes `(S.map (t * ·), cols)`. -/

/-- the forward rows are multiplied by `c`, the conjugated backward rows by `conj c` -/
theorem fb_matrix_scale (c : K) (x : List K) (P : ℕ) :
    fbMatrix (x.map (c * ·)) P
      = vec (2 * fbNP x.length P) (fun i =>
          if i < fbNP x.length P then vec P (fun k => c * nth x (i + P - 1 - k))
          else vec P (fun k => star c * star (nth x (i - fbNP x.length P + k + 1)))) := by
  unfold fbMatrix
  simp only [List.length_map]
  apply vec_ext
  intro i _
  split_ifs
  · apply vec_ext
    intro k _
    rw [nth_map_mul_left]
  · apply vec_ext
    intro k _
    rw [nth_map_mul_left, conj_eq_star, star_mul']

/-- MUSIC: the denominator (hence the pseudo-spectrum) does not read the singular values at all -/
theorem eigen_scale_music (tw : List K) (cols : List (List K)) (S : List K) (t : K)
    (nsig P nfft k : ℕ) :
    eigenDenom tw cols (S.map (t * ·)) nsig P nfft false k
      = eigenDenom tw cols S nsig P nfft false k := by
  unfold eigenDenom
  simp only [Bool.false_eq_true, if_false]

/-- EV: the denominator is divided by `t` -/
theorem eigen_scale_ev {t : K} (_ht : t ≠ 0) (tw : List K) (cols : List (List K)) (S : List K)
    (nsig P nfft k : ℕ) :
    eigenDenom tw cols (S.map (t * ·)) nsig P nfft true k
      = eigenDenom tw cols S nsig P nfft true k / t := by
  unfold eigenDenom
  simp only [if_true, sumR_eq_sum, nth_map_mul_left]
  rw [Finset.sum_div]
  apply Finset.sum_congr rfl
  intro j _
  rw [mul_comm t, div_mul_eq_div_div]

/-- the returned pseudo-spectra (`1/denominator`, centre-DC ordered): MUSIC unchanged, EV multiplied
by `t` -/
theorem eigen_psd_scale {t : K} (_ht : t ≠ 0) (tw : List K) (cols : List (List K)) (S : List K)
    (nsig P nfft : ℕ) :
    eigenPsd tw cols (S.map (t * ·)) nsig P nfft false = eigenPsd tw cols S nsig P nfft false ∧
    eigenPsd tw cols (S.map (t * ·)) nsig P nfft true
      = (eigenPsd tw cols S nsig P nfft true).map (t * ·) := by
  unfold eigenPsd
  constructor
  · simp only [eigen_scale_music]
  · rw [← eigenReorder_map_mul, map_vec]
    congr 1
    apply vec_ext
    intro k _
    rw [eigen_scale_ev _ht, one_div_div, mul_one_div]

omit [StarRing K] in
/-- the signal-subspace dimension chosen by `_get_signal_space` (explicit NSIG, or the threshold rule
"singular values above `threshold · min S`") does not see a factor `t` that the comparison does not see (any
positive real `t`).  The AIC/MDL argmin is a parameter of the model and is passed through unchanged. -/
theorem signal_space_scale [ReOrd K] {t : K} (hgt : ∀ a b : K, reGt (t * a) (t * b) = reGt a b)
    (S : List K) (nsig : Option ℕ) (threshold : Option K) (critArgmin : ℕ) :
    signalSpace (S.map (t * ·)) nsig threshold critArgmin
      = signalSpace S nsig threshold critArgmin := by
  unfold signalSpace
  cases nsig with
  | some n => rfl
  | none =>
    cases threshold with
    | none => rfl
    | some thr =>
      simp only [nth_map_mul_left, foldl_min_smul hgt, List.filter_map, List.length_map]
      have : ((fun s => reGt s (thr * (t * S.foldl (fun m s => if reGt m s then s else m) (nth S 0))))
            ∘ fun v => t * v)
          = fun s => reGt s (thr * S.foldl (fun m s => if reGt m s then s else m) (nth S 0)) := by
        funext s
        simp only [Function.comp]
        rw [mul_left_comm, hgt]
      rw [this]

/-- the hypothesis of `signal_space_scale` holds for positive real `t` over any `RCLike` scalar type
when `reGt` is the test `Re a > Re b` -/
theorem guard_scale_gt {F : Type} [RCLike F] [ReOrd F]
    (hspec : ∀ a b : F, reGt a b = true ↔ RCLike.re a > RCLike.re b) {t : ℝ} (ht : 0 < t) (a b : F) :
    reGt ((t : F) * a) ((t : F) * b) = reGt a b :=
  reGt_abs_mul hspec ht a b

/-! ### the adaptive multitaper weighting: the whole iteration -/

section Adapt
open SpecVerif.AdaptL SpecVerif.ShiftL

/-- **adaptive multitaper weights, the whole loop**: `t = c·conj c` is non-zero and invisible to the two
comparisons of the model (any positive real `t`, see `mt_adapt_scale_data`).  With the data multiplied by `c`
and every `|eigenspectrum|²` by `t`, `pmtm(method='adapt')` — start estimate, data power `σ²`, tolerance
`tolc·σ²/NFFT`, and all (at least one, at most 100) passes with the stopping test `Σ_f|S[f]-S1[f]|/NFFT > tol` —
returns the SAME table of weights, and the adaptive mean `Σ_t W[f][t]·SkA[t][f]/nwin` is multiplied by `t`.
Nothing is cancelled except the common factor `t` in Thomson's weight, so there is no hypothesis on `NFFT`,
`N`, `nwin`, the eigenvalues or `tolc`. -/
theorem mt_adapt_scale [ReOrd K] {t : K} (ht : t ≠ 0)
    (hgt : ∀ a b : K, reGt (t * a) (t * b) = reGt a b) (hre : ∀ z : K, reLe0 (t * z) = reLe0 z)
    {c : K} (hct : c * star c = t) (x lams : List K) (SkA : List (List K)) (nfft : ℕ) (tolc : K) :
    pmtmWeights .adapt (x.map (c * ·)) lams (SkA.map (·.map (t * ·))) nfft tolc
        = pmtmWeights .adapt x lams SkA nfft tolc ∧
    mtMean .adapt (SkA.map (·.map (t * ·)))
        (pmtmWeights .adapt (x.map (c * ·)) lams (SkA.map (·.map (t * ·))) nfft tolc) nfft lams.length
      = (mtMean .adapt SkA (pmtmWeights .adapt x lams SkA nfft tolc) nfft lams.length).map
          (t * ·) := by
  have hSk : ∀ τ f, f < nfft →
      nth ((SkA.map (·.map (t * ·))).getD τ []) f = t * nth (SkA.getD τ []) f :=
    fun τ f _ => nth_getD_map_scale t SkA τ f
  have hW := pmtmWeights_adapt_scale ht hgt hre hct x lams _ SkA nfft tolc hSk
  refine ⟨hW, ?_⟩
  rw [hW]
  exact mtMean_adapt_scale t _ SkA _ nfft lams.length hSk

/-- the table of squared eigenspectra that `pmtm` / `MultiTapering` build from the data and the tapers
(`mtSkAbs2`, the table of `C04.multitaper_shift`; `= GridL.mtSkA` of C05 by `AdaptL.mtSkA_eq_mtSkAbs2`):
for `c • x` every entry is multiplied by `|c|²` (from `MtmL.eigenspectrum_smul` and `|c z|² = |c|²|z|²`) -/
theorem mt_table_scale (tw x : List K) (tapers : List (List K)) (nfft : ℕ) (c : K) :
    mtSkAbs2 tw (x.map (c * ·)) tapers nfft
      = (mtSkAbs2 tw x tapers nfft).map (·.map ((c * star c) * ·)) := by
  unfold mtSkAbs2
  rw [List.map_map]
  apply List.map_congr_left
  intro tp _
  simp only [Function.comp]
  rw [MtmL.eigenspectrum_smul, List.map_map, List.map_map]
  apply List.map_congr_left
  intro v _
  simp only [Function.comp, abs2_eq, star_mul']
  ring

/-- **adaptive multitaper, end to end** (`F = ℝ`, `ℂ`, any `RCLike` scalar type; `reLe0`, `reGt` the tests
`Re z ≤ 0`, `Re a > Re b`): with the eigenspectra computed by the model from the data and the tapers (any
twiddle table), `c ≠ 0` leaves the weights of `pmtm(method='adapt')` unchanged and multiplies the adaptive
multitaper mean by `|c|²`. -/
theorem mt_adapt_scale_data {F : Type} [RCLike F] [ReOrd F]
    (hspec : ∀ z : F, reLe0 z = true ↔ RCLike.re z ≤ 0)
    (hgt : ∀ a b : F, reGt a b = true ↔ RCLike.re a > RCLike.re b) {c : F} (hc : c ≠ 0)
    (tw x lams : List F) (tapers : List (List F)) (nfft : ℕ) (tolc : F) :
    pmtmWeights .adapt (x.map (c * ·)) lams (mtSkAbs2 tw (x.map (c * ·)) tapers nfft) nfft tolc
        = pmtmWeights .adapt x lams (mtSkAbs2 tw x tapers nfft) nfft tolc ∧
    mtMean .adapt (mtSkAbs2 tw (x.map (c * ·)) tapers nfft)
        (pmtmWeights .adapt (x.map (c * ·)) lams (mtSkAbs2 tw (x.map (c * ·)) tapers nfft) nfft tolc)
        nfft lams.length
      = (mtMean .adapt (mtSkAbs2 tw x tapers nfft)
          (pmtmWeights .adapt x lams (mtSkAbs2 tw x tapers nfft) nfft tolc) nfft lams.length).map
          ((c * star c) * ·) := by
  rw [mt_table_scale]
  exact mt_adapt_scale (mul_star_self_ne_zero hc) (reGt_abs2_mul hgt hc)
    (guard_scale hspec hc) rfl x lams _ nfft tolc

/-- non-vacuity of `mt_adapt_scale`: `K = ℚ` (trivial involution, tests `≤`, `>` on `ℚ`), `c = -3`,
`t = 9`; the order hypotheses hold, and on data `[1, 1]`, eigenvalues `[1/2, 1/4]`, `SkA = [[1, 2], [3, 4]]`,
`NFFT = 2`, `tolc = 4` the loop makes exactly one pass (not zero, not 100) for both amplitudes and returns
the same non-trivial weights -/
example :
    letI : ReOrd ℚ := ⟨fun a => a ≤ 0, fun a b => a > b⟩
    ((∀ a b : ℚ, reGt ((9 : ℚ) * a) (9 * b) = reGt a b) ∧ (∀ z : ℚ, reLe0 ((9 : ℚ) * z) = reLe0 z) ∧
      (-3 : ℚ) * star (-3 : ℚ) = 9) ∧
    pmtmWeights .adapt (([1, 1] : List ℚ).map ((-3) * ·)) [1 / 2, 1 / 4]
        (([[1, 2], [3, 4]] : List (List ℚ)).map (·.map (9 * ·))) 2 4 = [[8 / 9, 16 / 25], [9 / 8, 1]] ∧
    pmtmWeights .adapt ([1, 1] : List ℚ) [1 / 2, 1 / 4] [[1, 2], [3, 4]] 2 4
        = [[8 / 9, 16 / 25], [9 / 8, 1]] := by
  refine ⟨⟨?_, ?_, by norm_num⟩, by decide +kernel, by decide +kernel⟩
  · intro a b
    show decide (9 * a > 9 * b) = decide (a > b)
    rw [decide_eq_decide]
    constructor <;> intro h <;> linarith
  · intro z
    show decide (9 * z ≤ 0) = decide (z ≤ 0)
    rw [decide_eq_decide]
    constructor <;> intro h <;> linarith

end Adapt

/-- `K = ℚ` (trivial involution), `x = [1, 2, 4]`, `c = -3`: `aryule` of order 2 has variance `9` times
the one of `x` (`= 9 · 5525/1023`), same coefficients -/
example : (aryule (([1, 2, 4] : List ℚ).map ((-3) * ·)) 2 .biased).P = 9 * (5525 / 1023)
    ∧ (aryule ([1, 2, 4] : List ℚ) 2 .biased).P = 5525 / 1023
    ∧ (aryule (([1, 2, 4] : List ℚ).map ((-3) * ·)) 2 .biased).A
        = (aryule ([1, 2, 4] : List ℚ) 2 .biased).A := by
  decide +kernel

/-- the guard hypothesis of `levinson_scale_status` is satisfiable: `K = ℚ`, `t = 4`, the test `z ≤ 0` -/
example : letI : ReOrd ℚ := ⟨fun a => a ≤ 0, fun a b => a > b⟩
    ∀ z : ℚ, reLe0 ((4 : ℚ) * z) = reLe0 z := by
  intro z
  show decide (4 * z ≤ 0) = decide (z ≤ 0)
  rw [decide_eq_decide]
  constructor <;> intro h <;> linarith

/-- `c ≠ 0` cannot be dropped from `burg_scale`: with `c = 0` the first reflection coefficient is the
totalised `0/0 = 0` instead of `-4/5` (`x = [1, 2]` over `ℚ`) -/
example : (burgRun (([1, 2] : List ℚ).map ((0 : ℚ) * ·)) 1).ref ≠ (burgRun ([1, 2] : List ℚ) 1).ref := by
  decide +kernel

/-! ### Daniell periodogram (`DaniellPeriodogram`, `pdaniell`): smoothing is linear

The smoothing stage averages the periodogram over clipped windows of `2P+1` bins; the window positions and the divisors
depend only on the number of bins and on `P`, never on the values — so the estimate scales with the periodogram. -/

omit [StarRing K] in
/-- the number of Daniell outputs depends only on the number of periodogram bins and on `P` -/
theorem daniell_length (psd : List K) (P : ℕ) : (daniell psd P).length = daniellLen psd.length P :=
  vec_length _ _

omit [StarRing K] in
/-- smoothing commutes with scaling by ANY factor `s` (no hypothesis: also at the `count = 0` corner) -/
theorem daniell_scale (s : K) (psd : List K) (P : ℕ) :
    daniell (psd.map (s * ·)) P = (daniell psd P).map (s * ·) := by
  unfold daniell
  rw [List.length_map, map_vec]
  exact vec_ext (fun i _ => DaniellL.daniellBin_smul s psd P i)

/-- **Daniell periodogram of `c • x` = `|c|²` × Daniell periodogram of `x`**, any window, any `NFFT`, any `P`,
real or complex data, any `c` -/
theorem daniell_periodogram_scale (tw x w : List K) (nfft P : ℕ) (isReal : Bool) (c : K) :
    daniellPeriodogram tw (x.map (c * ·)) w nfft P isReal
      = (daniellPeriodogram tw x w nfft P isReal).map ((c * star c) * ·) := by
  unfold daniellPeriodogram
  rw [periodogram_scale, daniell_scale]

omit [StarRing K] in
/-- every Daniell output is the arithmetic mean of the `count` bins it covers (and `1 ≤ count ≤ 2P+1` whenever `P ≥ 1` and
the periodogram has at least two bins — `DaniellL.daniellCount_pos`, `daniellCount_le`) -/
theorem daniell_bin_mean [CharZero K] (psd : List K) (P i : ℕ) (hP : 1 ≤ P) (hL : 2 ≤ psd.length)
    (hi : i < daniellLen psd.length P) :
    (daniellCount psd.length P i : K) * nth (daniell psd P) i
      = ∑ j ∈ range (daniellCount psd.length P i), nth psd (daniellLo P i + j) ∧
    0 < daniellCount psd.length P i ∧ daniellCount psd.length P i ≤ 2 * P + 1 := by
  have hc := DaniellL.daniellCount_pos psd.length P i hP hL hi
  refine ⟨?_, hc, DaniellL.daniellCount_le _ _ _⟩
  rw [daniell, nth_vec, if_pos hi]
  exact DaniellL.daniellBin_mean psd P i hc

/-- non-vacuity / shape: 9 one-sided bins, `P = 1`: three outputs, the first one skips bin 0 -/
example : daniell ([9, 1, 2, 3, 4, 5, 6, 7, 8] : List ℚ) 1 = [1, 3, 6] := by
  decide +kernel

/-! ### the AIC / MDL order selection of the subspace methods (`aic_eigen`, `mdl_eigen`, `NSIG = argmin + 1`)

Scaling the data by `c` multiplies every singular value of the data matrix by `t = |c| > 0`.  Every criterion value then
moves by the SAME constant (`2N·ln t` for AIC, `N·ln t` for MDL — not zero, because the code divides the `m − 1` tail values
by `m`), so the position of the minimum, hence the signal-subspace dimension, is unchanged. -/

/-- AIC values of the scaled singular values = AIC values + `2N ln t`, entry by entry -/
theorem aic_eigen_scale {t : ℝ} (ht : 0 < t) (s : List ℝ) (hs : ∀ i, i < s.length → 0 < s.getD i 0) (N : ℕ) :
    aicEigen (s.map (t * ·)) N = (aicEigen s N).map (· + 2 * N * Real.log t) := by
  unfold aicEigen vec
  rw [List.length_map, List.map_map]
  apply List.map_congr_left
  intro k hk
  have h := EigenCritL.eig_term_scale ht s hs N k (by have := List.mem_range.mp hk; omega)
  simp only [Function.comp, Nat.cast_ofNat]
  linear_combination (-2 : ℝ) * h

/-- MDL values of the scaled singular values = MDL values + `N ln t` -/
theorem mdl_eigen_scale {t : ℝ} (ht : 0 < t) (s : List ℝ) (hs : ∀ i, i < s.length → 0 < s.getD i 0) (N : ℕ) :
    mdlEigen (s.map (t * ·)) N = (mdlEigen s N).map (· + N * Real.log t) := by
  unfold mdlEigen vec
  rw [List.length_map, List.map_map]
  apply List.map_congr_left
  intro k hk
  have h := EigenCritL.eig_term_scale ht s hs N k (by have := List.mem_range.mp hk; omega)
  simp only [Function.comp]
  linear_combination (-1 : ℝ) * h

/-- **the subspace order decision does not depend on the amplitude**: with positive singular values, `NSIG` chosen by AIC
or MDL is the same for `t·S` and `S` (any `t > 0`, any number of singular values, any sample size) -/
theorem signal_space_crit_scale {t : ℝ} (ht : 0 < t) (s : List ℝ) (hs : ∀ i, i < s.length → 0 < s.getD i 0)
    (NP : ℕ) (mdl : Bool) :
    signalSpaceCrit (s.map (t * ·)) NP mdl = signalSpaceCrit s NP mdl := by
  unfold signalSpaceCrit
  cases mdl
  · simp only [Bool.false_eq_true, if_false]
    rw [aic_eigen_scale ht s hs, EigenCritL.argminFirst_shift]
  · simp only [if_true]
    rw [mdl_eigen_scale ht s hs, EigenCritL.argminFirst_shift]

/-- non-vacuity: three positive singular values, two criterion values each -/
example : (aicEigen ([4, 2, 1] : List ℝ) 10).length = 2 ∧ (∀ i, i < 3 → 0 < ([4, 2, 1] : List ℝ).getD i 0) := by
  refine ⟨by simp only [aicEigen, spec_eval, spec_eval_proc], ?_⟩
  intro i hi
  obtain rfl | rfl | rfl : i = 0 ∨ i = 1 ∨ i = 2 := by omega
  all_goals norm_num only [spec_eval]

/-! ### the executed scalar type: generic theorems applied at `K := CRat` (`Lemmas/CRatField.lean`); the
`example … := rfl` lines check that the elaborated function is the model's -/
section CRatInstantiation

open SpecVerif.CRatL in
/-- **`levinson_scale_status` for the executed model**, `t = |c|²`: the hypothesis `hre` on the sign test
is discharged for the model's `instReOrdCRat` (`CRatL.reLe0_abs2_mul_CRat`) -/
theorem levinson_scale_status_CRat {c : CRat} (hc : c ≠ 0) (r0 : CRat) (T : List CRat) (order : ℕ)
    (allow : Bool) :
    levinson ((c * conj c) * r0) (T.map ((c * conj c) * ·)) order allow
      = (levinson r0 T order allow).map
          (fun st => { A := st.A, P := (c * conj c) * st.P, ref := st.ref }) :=
  levinson_scale_status (mul_star_self_ne_zero hc) (reLe0_abs2_mul_CRat hc) r0 T order allow

open SpecVerif.CRatL in
/-- **`arburg_scale` for the executed model**: `hre` discharged -/
theorem arburg_scale_CRat {c : CRat} (hc : c ≠ 0) (stop stop' : ℕ → CRat → Bool)
    (hstop : ∀ k ρ, stop' k ((c * conj c) * ρ) = stop k ρ) (x : List CRat) (order : ℕ)
    (useCrit : Bool) :
    arburg (x.map (c * ·)) order useCrit stop'
      = (arburg x order useCrit stop).map (fun st =>
          { a := st.a, rho := (c * conj c) * st.rho, ref := st.ref, ef := st.ef.map (c * ·),
            eb := st.eb.map (c * ·), den := (c * conj c) * st.den, temp := st.temp }) :=
  arburg_scale hc stop stop' hstop (reLe0_abs2_mul_CRat hc) x order useCrit

/-- **`arcovar_scale_solver` for the executed model**: the lawfulness of the pivot test is the instance
`CRat.instLawfulIsZero` -/
theorem arcovar_scale_solver_CRat {c : CRat} (hc : c ≠ 0) (x : List CRat) (p : ℕ)
    (a a' : List CRat) (e e' : CRat)
    (h : arcovar x p = some (a, e)) (h' : arcovar (x.map (c * ·)) p = some (a', e')) :
    a' = a ∧ e' = (c * conj c) * e :=
  arcovar_scale_solver hc x p a a' e e' h h'

open SpecVerif.CRatL in
/-- **`signal_space_scale` for the executed model**, `t = |c|²`: `hgt` discharged -/
theorem signal_space_scale_CRat {c : CRat} (hc : c ≠ 0)
    (S : List CRat) (nsig : Option ℕ) (threshold : Option CRat) (critArgmin : ℕ) :
    signalSpace (S.map ((c * conj c) * ·)) nsig threshold critArgmin
      = signalSpace S nsig threshold critArgmin :=
  signal_space_scale (reGt_abs2_mul_CRat hc) S nsig threshold critArgmin

open SpecVerif.CRatL in
/-- **`mt_adapt_scale` for the executed model**: both comparison hypotheses discharged -/
theorem mt_adapt_scale_CRat {c : CRat} (hc : c ≠ 0) (x lams : List CRat) (SkA : List (List CRat))
    (nfft : ℕ) (tolc : CRat) :
    pmtmWeights .adapt (x.map (c * ·)) lams (SkA.map (·.map ((c * conj c) * ·))) nfft tolc
        = pmtmWeights .adapt x lams SkA nfft tolc ∧
    mtMean .adapt (SkA.map (·.map ((c * conj c) * ·)))
        (pmtmWeights .adapt (x.map (c * ·)) lams (SkA.map (·.map ((c * conj c) * ·))) nfft tolc)
        nfft lams.length
      = (mtMean .adapt SkA (pmtmWeights .adapt x lams SkA nfft tolc) nfft lams.length).map
          ((c * conj c) * ·) :=
  mt_adapt_scale (mul_star_self_ne_zero hc) (reGt_abs2_mul_CRat hc) (reLe0_abs2_mul_CRat hc) rfl
    x lams SkA nfft tolc

example : (fun (K : Type) [Field K] [StarRing K] [ReOrd K] => (levinson : K → _)) CRat
    = @levinson CRat CRat.instAdd CRat.instSub CRat.instMul CRat.instDiv CRat.instNeg
        CRat.instOfNatOfNatNat CRat.instOfNatOfNatNat_1 CRat.instConj instReOrdCRat := rfl
example : (fun (K : Type) [Field K] [StarRing K] [ReOrd K] => (arburg : List K → _)) CRat
    = @arburg CRat CRat.instAdd CRat.instSub CRat.instMul CRat.instDiv CRat.instNeg
        CRat.instOfNatOfNatNat CRat.instOfNatOfNatNat_1 CRat.instNatCast CRat.instConj
        instReOrdCRat := rfl
example : (fun (K : Type) [Field K] [StarRing K] [ReOrd K] => (pmtmWeights : _ → List K → _)) CRat
    = @pmtmWeights CRat CRat.instAdd CRat.instSub CRat.instMul CRat.instDiv CRat.instNeg
        CRat.instOfNatOfNatNat CRat.instOfNatOfNatNat_1 CRat.instNatCast CRat.instConj
        instReOrdCRat := rfl

/-- **`daniell_periodogram_scale` for the executed model** (mode `Q` of the driver, commands `daniell` / `daniellpg`) -/
theorem daniell_periodogram_scale_CRat (tw x w : List CRat) (nfft P : ℕ) (isReal : Bool) (c : CRat) :
    daniellPeriodogram tw (x.map (c * ·)) w nfft P isReal
      = (daniellPeriodogram tw x w nfft P isReal).map ((c * conj c) * ·) :=
  daniell_periodogram_scale tw x w nfft P isReal c

end CRatInstantiation

end SpecVerif.C03
