import SpecVerif.Proofs.Lemmas.Placement
import SpecVerif.Proofs.C01
import SpecVerif.Proofs.C08
import SpecVerif.Proofs.C15
import SpecVerif.Proofs.C17
import SpecVerif.Proofs.Lemmas.Mtm
import SpecVerif.Proofs.Lemmas.Norm
/-
  C02 — every estimator class puts its spectral values on the frequency axis it reports.

  Model reading.  The `__call__` of a PSD class is
  `classCall kind raw isReal nfft scaleByFreq twoPi sampling`, where `raw` is the two-sided, unscaled
  estimate of `NFFT` values computed by the class's functional estimator (centre-DC ordered for kind
  `.eigen`), and `kind` is the glue: `.fold2` (pburg, pyule, pcovar, pmodcovar, parma, pma, pminvar,
  pcorrelogram, MultiTapering), `.take` (Periodogram), `.eigen` (pmusic, pev).  `frequencies()` for the
  default side is `rangeBins (defaultSide (!isReal)) nfft` (integer bin numbers) times `df = fs/NFFT`.
  `K` is any field (with an involution where a conjugate occurs), `ω` an `NFFT`-th root of unity
  (numpy's `e^{-2πi/NFFT}`).

  NOT proved (perturbation statements, outside the targets): "a dominant tone in noise peaks within one
  bin" for Burg, Yule–Walker, ARMA, minimum variance, "within the taper bandwidth" for multitaper, the
  exact-peak claim for the covariance / modified-covariance estimates, and "a real sinusoid away from
  0 and fs/2 peaks within the main-lobe half-width of |f|".  "Real and finite" is covered per estimator
  by C15 (`psd_pos_of_no_unit_zeros`), C16 (`minvar_psd_real_pos`), C17 (`pseudo_pos`), C19
  (`class_psd_nonneg_rclike`) and, for the periodogram, by `periodogram_tone_peak_class` /
  `periodogram_real_nonneg` below.
-/
namespace SpecVerif.C02
open Finset SpecVerif SpecVerif.ArmaL SpecVerif.PlaceL SpecVerif.GlueL

section Generic
variable {K : Type} [Field K]

/-! ### as many values as frequencies -/

/-- **length clause**: for every glue, real or complex data, scaled or not, and a raw estimate of `NFFT`
values, the stored PSD has exactly as many entries as the default frequency axis
(`frequencies()` = `rangeBins (defaultSide (!isReal)) nfft`); this is `psdLen` of C07 and equals
`NFFT/2+1` (even) or `(NFFT+1)/2` (odd) for real data, `NFFT` for complex data. -/
theorem len_psd_eq_len_freqs (kind : GlueKind) (raw : List K) (isReal s : Bool) {nfft : ℕ}
    (twoPi fs : K) (hraw : raw.length = nfft) :
    (classCall kind raw isReal nfft s twoPi fs).length
        = (rangeBins (defaultSide (!isReal)) nfft).length
    ∧ (rangeBins (defaultSide (!isReal)) nfft).length = psdLen (defaultSide (!isReal)) nfft
    ∧ psdLen (defaultSide (!isReal)) nfft
        = if isReal then (if nfft % 2 = 0 then nfft / 2 + 1 else (nfft + 1) / 2) else nfft := by
  refine ⟨?_, rfl, defaultAxis_length isReal nfft⟩
  rw [classCall_length kind raw isReal nfft s twoPi fs hraw, defaultAxis_length]

/-- **Periodogram, real data**: the `rfft` glue keeps `NFFT/2+1` values for BOTH parities (whatever
`raw` is); for an odd `NFFT` this is `(NFFT+1)/2`, so it agrees with the one-sided axis in both
cases. -/
theorem len_periodogram_real (raw : List K) (s : Bool) (nfft : ℕ) (twoPi fs : K) :
    (classCall .take raw true nfft s twoPi fs).length = nfft / 2 + 1
    ∧ (nfft % 2 = 1 → nfft / 2 + 1 = (nfft + 1) / 2)
    ∧ nfft / 2 + 1 = (rangeBins .one nfft).length := by
  refine ⟨?_, fun h => by omega, ?_⟩
  · rw [classCall_take, scalePsd_length]
    exact takeReal_length raw nfft
  · rw [rangeBins_length]

example : (classCall .take ([1, 2, 3, 4, 5] : List ℚ) true 5 false 7 2).length = 3
    ∧ (classCall .fold2 ([1, 2, 3, 4, 5] : List ℚ) true 5 true 7 2).length = 3
    ∧ (classCall .eigen ([1, 2, 3, 4, 5] : List ℚ) true 5 false 7 2).length = 3
    ∧ (rangeBins (defaultSide (!true)) 5).length = 3 := by
  refine ⟨?_, ?_, ?_, ?_⟩
  · rw [(len_psd_eq_len_freqs (K := ℚ) (nfft := 5) .take [1, 2, 3, 4, 5] true false 7 2 rfl).1]; rfl
  · rw [(len_psd_eq_len_freqs (K := ℚ) (nfft := 5) .fold2 [1, 2, 3, 4, 5] true true 7 2 rfl).1]; rfl
  · rw [(len_psd_eq_len_freqs (K := ℚ) (nfft := 5) .eigen [1, 2, 3, 4, 5] true false 7 2 rfl).1]; rfl
  · rfl

/-! ### the reported frequencies -/

/-- **axis clause**: entry `j` of the one-sided and of the two-sided axis is bin `j` (C06) -/
theorem freqs_eq (n j : ℕ) :
    (∀ h : j < (rangeBins .one n).length, (rangeBins .one n)[j] = (j : Int))
    ∧ (∀ h : j < (rangeBins .two n).length, (rangeBins .two n)[j] = (j : Int)) :=
  ⟨rangeBins_one_getElem n j, rangeBins_two_getElem n j⟩

/-- entry `j` of the default axis (one-sided for real, two-sided for complex data) is bin `j` -/
theorem default_freqs_eq (isReal : Bool) (n j : ℕ)
    (h : j < (rangeBins (defaultSide (!isReal)) n).length) :
    (rangeBins (defaultSide (!isReal)) n)[j] = (j : Int) := by
  cases isReal
  · exact (freqs_eq n j).2 h
  · exact (freqs_eq n j).1 h

/-- `C08.freqAxis` is written as a `map` over `rangeBins`, but elaborates to a `map` over the list coerced from
`List Int` to `List K` by `flatMap`; this puts it back into the form of one `map` over `Int` -/
theorem freqAxis_eq_map (sd : Side) (nfft : ℕ) (fs : K) :
    C08.freqAxis sd nfft fs
      = (rangeBins sd nfft).map (fun b : Int => (b : K) * (fs / (nfft : K))) := by
  unfold C08.freqAxis
  have : ∀ l : List Int, (List.flatMap (fun a : ℤ => [(Int.cast a : K)]) l : List K)
      = l.map (fun b : Int => (Int.cast b : K)) := by
    intro l
    induction l with
    | nil => rfl
    | cons a l ih => rw [List.flatMap_cons, ih]; rfl
  refine Eq.trans (congrArg _ (this _)) ?_
  rw [List.map_map]
  rfl

/-- … hence the frequency reported at index `j` is `j·fs/NFFT` (`freqAxis` of C08: bins times `df`) -/
theorem default_freq_value (isReal : Bool) (nfft : ℕ) (fs : K) (j : ℕ)
    (h : j < (C08.freqAxis (defaultSide (!isReal)) nfft fs).length) :
    (C08.freqAxis (defaultSide (!isReal)) nfft fs)[j] = (j : K) * (fs / (nfft : K)) := by
  have h' : j < (rangeBins (defaultSide (!isReal)) nfft).length := by
    rw [freqAxis_eq_map, List.length_map] at h; exact h
  simp only [freqAxis_eq_map, List.getElem_map, default_freqs_eq isReal nfft j h', Int.cast_natCast]

/-! ### placement: the three glues -/

/-- **scaling does not move anything**: with `scale_by_freq` every entry is the unscaled entry at the
same index times `2π/df` (for the `.fold2` glue this is `C08.scale_once`) -/
theorem placement_scaled (kind : GlueKind) (raw : List K) (isReal : Bool) (nfft : ℕ) (twoPi fs : K)
    (j : ℕ) :
    nth (classCall kind raw isReal nfft true twoPi fs) j
      = nth (classCall kind raw isReal nfft false twoPi fs) j * (twoPi / (fs / (nfft : K))) := by
  unfold classCall
  rw [nth_scalePsd, nth_scalePsd, if_pos rfl, if_neg Bool.false_ne_true, mul_one]

/-- **`.fold2` glue**: for real data entry `j` of the stored PSD (`j ≤ NFFT/2`, a valid index of `raw`)
is `2·raw[j]`; for complex data entry `j` is `raw[j]`: the value at index `j` is the two-sided estimate at
bin `j`, the bin the axis reports at index `j`. -/
theorem placement_fold2 (raw : List K) {nfft : ℕ} (hn : 0 < nfft) (hraw : raw.length = nfft)
    (twoPi fs : K) (j : ℕ) :
    (j < nfft / 2 + 1 →
      j < raw.length ∧ nth (classCall .fold2 raw true nfft false twoPi fs) j = 2 * nth raw j)
    ∧ (j < nfft → nth (classCall .fold2 raw false nfft false twoPi fs) j = nth raw j) := by
  refine ⟨fun hj => ⟨hraw ▸ kept_lt (isReal := true) hn hj, ?_⟩, fun hj => ?_⟩
  · exact (nth_classCall_fold2 raw true nfft twoPi fs hj).trans (congrArg (· * nth raw j) (if_pos rfl))
  · exact (nth_classCall_fold2 raw false nfft twoPi fs hj).trans (one_mul _)

/-- **`.take` glue** (Periodogram): entry `j` is `raw[j]` for real (`j ≤ NFFT/2`, not doubled) and for
complex data -/
theorem placement_take (raw : List K) {nfft : ℕ} (hn : 0 < nfft) (hraw : raw.length = nfft)
    (twoPi fs : K) (j : ℕ) :
    (j < nfft / 2 + 1 →
      j < raw.length ∧ nth (classCall .take raw true nfft false twoPi fs) j = nth raw j)
    ∧ (j < nfft → nth (classCall .take raw false nfft false twoPi fs) j = nth raw j) := by
  exact ⟨fun hj => ⟨hraw ▸ kept_lt (isReal := true) hn hj, nth_classCall_take raw true nfft twoPi fs hj⟩,
    fun hj => nth_classCall_take raw false nfft twoPi fs hj⟩

/-- **`.eigen` glue** on a centre-DC ordered function output `psd` of `NFFT` values.
Complex data: entry `j` is `psd[(j + NFFT/2) mod NFFT]`, and that centre-DC index is the one whose
reported frequency bin is `j` (mod `NFFT`).  Real data: entry `j ≤ NFFT/2` is
`2·psd[NFFT/2 - j]`, twice the value at the centre-DC index whose reported bin is `-j`. -/
theorem placement_eigen (psd : List K) {nfft : ℕ} (hn : 0 < nfft) (hlen : psd.length = nfft)
    (twoPi fs : K) (j : ℕ) :
    (j < nfft →
      nth (classCall .eigen psd false nfft false twoPi fs) j = nth psd ((j + nfft / 2) % nfft)
      ∧ ∃ h : (j + nfft / 2) % nfft < (rangeBins .center nfft).length,
          binIdx nfft ((rangeBins .center nfft)[(j + nfft / 2) % nfft]) = j)
    ∧ (j ≤ nfft / 2 →
      nth (classCall .eigen psd true nfft false twoPi fs) j = 2 * nth psd (nfft / 2 - j)
      ∧ ∃ h : nfft / 2 - j < (rangeBins .center nfft).length,
          (rangeBins .center nfft)[nfft / 2 - j] = -(j : Int)) := by
  constructor
  · intro hj
    refine ⟨?_, center_index_bin hj⟩
    rw [classCall_eigen_false]
    exact (C17.eigenClassFold_complex psd nfft).2 hlen j hj
  · intro hj
    refine ⟨?_, center_index_neg hn hj⟩
    rw [classCall_eigen_false]
    exact (C17.eigenClassFold_real psd nfft j hj).2

/-- `.eigen` glue on top of the output reordering of `eigen` (`fft` is the un-reordered table of `NFFT`
values indexed by FFT bin).  Complex data: the entry at index `b mod NFFT` (reported frequency: that of
the signed bin `b`) is the value at FFT bin `(NFFT - b) mod NFFT`, the bin `k` with `ω^k = ω^{-b}`.
Real data: entry `j ≤ NFFT/2` is twice the value at FFT bin `j` = the FFT bin of signed bin `-j`. -/
theorem placement_eigen_function (fft : List K) {nfft : ℕ} (hn : 0 < nfft) (twoPi fs : K) :
    (∀ b : Int, binIdx nfft b < nfft ∧
      nth (classCall .eigen (eigenReorder fft nfft) false nfft false twoPi fs) (binIdx nfft b)
        = nth fft (C17.fftBinOf nfft b))
    ∧ (∀ j, j ≤ nfft / 2 →
      nth (classCall .eigen (eigenReorder fft nfft) true nfft false twoPi fs) j = 2 * nth fft j
      ∧ C17.fftBinOf nfft (-(j : Int)) = j) := by
  constructor
  · intro b
    rw [classCall_eigen_false]
    exact C17.tone_index_class_complex fft nfft hn b
  · intro j hj
    rw [classCall_eigen_false]
    exact C17.tone_index_class_real fft nfft j hj hn

example : classCall .eigen ([10, 20, 30, 40] : List ℚ) false 4 false 7 2 = [30, 40, 10, 20]
    ∧ classCall .eigen ([10, 20, 30, 40] : List ℚ) true 4 false 7 2 = [60, 40, 20]
    ∧ classCall .fold2 ([10, 20, 30, 40] : List ℚ) true 4 false 7 2 = [20, 40, 60]
    ∧ classCall .take ([10, 20, 30, 40] : List ℚ) true 4 false 7 2 = [10, 20, 30] := by
  decide +kernel

end Generic

/-! ### placement: the spectrum functions -/

section Star
variable {K : Type} [Field K] [StarRing K]

/-- **Periodogram**: with `raw` the two-sided `speriodogram` (`N ≤ NFFT`), entry `j` of the class
(`j ≤ NFFT/2` for real, `j < NFFT` for complex data) is `|Σ_n x_n w_n ω^{nj}|²/N`, the windowed DFT at
the frequency `j·fs/NFFT` reported at index `j`; for real data the class output is exactly the model's
real-data `speriodogram`. -/
theorem periodogram_placement {ω : K} {nfft : ℕ} (hn : 0 < nfft) (hω : ω ^ nfft = 1) (x w : List K)
    (hN : x.length ≤ nfft) (isReal : Bool) (twoPi fs : K) (j : ℕ)
    (hj : j < if isReal then nfft / 2 + 1 else nfft) :
    nth (classCall .take (speriodogram (twiddles ω nfft) x w nfft false) isReal nfft false twoPi fs) j
        = C01.wdft ω x w j * star (C01.wdft ω x w j) / (x.length : K)
    ∧ nth (classCall .take (speriodogram (twiddles ω nfft) x w nfft false) isReal nfft false twoPi fs) j
        = nth (speriodogram (twiddles ω nfft) x w nfft isReal) j := by
  rw [nth_classCall_take _ isReal nfft twoPi fs hj, C01.periodogram_eq_def hn hω x w hN false j (kept_lt hn hj),
    C01.periodogram_eq_def hn hω x w hN isReal j hj]
  exact ⟨rfl, rfl⟩

/-- non-vacuity: `K = ℚ`, `ω = -1`, `NFFT = 2`, real data `[3, 2]`, rectangular window, one-sided entry `1`
(frequency `fs/2`): `|3 - 2|²/2`, not doubled. -/
example : nth (classCall .take (speriodogram (twiddles (-1 : ℚ) 2) [3, 2] [1, 1] 2 false) true 2
    false 7 2) 1 = 1 / 2 := by
  rw [(periodogram_placement (ω := -1) (by norm_num) (by norm_num) [3, 2] [1, 1] (by decide) true 7 2 1
    (by decide)).1]
  decide +kernel

/-- **correlogram** (`pcorrelogram`, autocorrelation, biased lags `0..N-1`, rectangular lag window,
`NFFT ≥ 2N-1`): entry `j` is `c·|Σ_n x_n ω^{nj}|²/N`, `c = 2` for real data (one-sided), `1` otherwise. -/
theorem correlogram_placement [CharZero K] {ω : K} {nfft : ℕ} (x w ones : List K) (rms2 : K)
    (hN : 1 ≤ x.length) (hnfft : 2 * x.length - 1 ≤ nfft) (hω : ω ^ nfft = 1)
    (hstar : star ω = ω⁻¹) (hw : ∀ i, i < x.length - 1 → nth w i = 1)
    (hones : ∀ n, n < x.length → nth ones n = 1) (isReal : Bool) (twoPi fs : K) (j : ℕ)
    (hj : j < if isReal then nfft / 2 + 1 else nfft) :
    nth (classCall .fold2 (correlogram (twiddles ω nfft) x x w (x.length - 1) nfft .biased rms2)
        isReal nfft false twoPi fs) j
      = (if isReal then 2 else 1)
        * (C01.wdft ω x ones j * star (C01.wdft ω x ones j) / (x.length : K)) := by
  have hn : 0 < nfft := by omega
  have hjn : j < nfft := kept_lt hn hj
  rw [nth_classCall_fold2 _ isReal nfft twoPi fs hj,
    C01.correlogram_eq_periodogram x w ones rms2 hN hnfft hω hstar hw hones j hjn,
    C01.periodogram_eq_def hn hω x ones (by omega) false j hjn]

/-- **AR / MA / ARMA classes** (pburg, pyule, pcovar, pmodcovar, parma, pma — re-export of
`C15.class_psd_eq` for `classCall`): entry `j` is `c·(rho/fs)·|B(ω^j)|²/|A(ω^j)|²`, the model spectrum
at the frequency reported at index `j`, times `2π/df` when `scale_by_freq`. -/
theorem ar_family_placement {ω : K} {nfft : ℕ} (hn : 0 < nfft) (hω : ω ^ nfft = 1)
    (A B : Option (List K)) (hA : ∀ a, A = some a → a.length < nfft)
    (hB : ∀ b, B = some b → b.length < nfft) (rho fs twoPi : K) (isReal s : Bool) (j : ℕ)
    (hj : j < if isReal then (if nfft % 2 = 0 then nfft / 2 + 1 else (nfft + 1) / 2) else nfft) :
    nth (classCall .fold2 (arma2psd (twiddles ω nfft) A B rho fs nfft) isReal nfft s twoPi fs) j
      = (if isReal then 2 else 1)
        * (rho / fs * (ArmaEstL.optPolyAt ω B j * star (ArmaEstL.optPolyAt ω B j))
            / (ArmaEstL.optPolyAt ω A j * star (ArmaEstL.optPolyAt ω A j)))
        * (if s then twoPi / (fs / (nfft : K)) else 1) := by
  rw [classCall_fold2]
  exact (C15.class_psd_eq hn hω A B hA hB rho fs twoPi isReal s j hj).2

/-- **minimum variance** (`pminvar`): entry `j` is `c·fs / Σ_t ψ_t ω^{tj}`, ψ the Musicus sequence of
the Burg model (`a` with its leading 1, real error `P`, `2·len a ≤ NFFT+1`). -/
theorem minvar_placement {ω : K} {nfft : ℕ} (h2 : (2 : K) ≠ 0) (hω : ω ^ nfft = 1)
    (hstar : star ω = ω⁻¹) (a : List K) {P : K} (hP : star P = P) (ha : 0 < a.length)
    (hno : 2 * a.length ≤ nfft + 1) (fs twoPi : K) (isReal : Bool) (j : ℕ)
    (hj : j < if isReal then nfft / 2 + 1 else nfft) :
    nth (classCall .fold2 (minvarPsd (twiddles ω nfft) a P fs nfft) isReal nfft false twoPi fs) j
      = (if isReal then 2 else 1)
        * (fs / ∑ t ∈ range nfft, nth (minvarPsi a P nfft) t * ω ^ (t * j)) := by
  have hn : 0 < nfft := by omega
  rw [nth_classCall_fold2 _ isReal nfft twoPi fs hj,
    C08.minvarPsd_entry h2 hω hstar a hP ha hno fs j (kept_lt hn hj)]

omit [StarRing K] in
/-- **multitaper** (`MultiTapering`): entry `j` is `c·(Σ_t w_t·SkA_t[j])/nwin`, the mean over the tapers
of weight times squared eigenspectrum at bin `j` (`w_t = W[t][0]` for unity/eigen, `W[j][t]` for adapt). -/
theorem mt_placement (m : MtMethod) (SkA W : List (List K)) {nfft : ℕ} (hn : 0 < nfft) (nwin : ℕ)
    (isReal : Bool) (twoPi fs : K) (j : ℕ) (hj : j < if isReal then nfft / 2 + 1 else nfft) :
    nth (classCall .fold2 (mtMean m SkA W nfft nwin) isReal nfft false twoPi fs) j
      = (if isReal then 2 else 1)
        * ((∑ t ∈ range nwin,
              (if m = .adapt then nth (W.getD j []) t else nth (W.getD t []) 0)
                * nth (SkA.getD t []) j) / (nwin : K)) := by
  rw [nth_classCall_fold2 _ isReal nfft twoPi fs hj, MtmL.nth_mtMean m SkA W nwin (kept_lt hn hj)]
  cases m <;> rfl

/-- … with the squared eigenspectra written out: if row `t` of `SkA` is `|Sk_t|²` at bin `j`, entry `j`
is `c·mean_t w_t·|Σ_n taper_{t,n} x_n ω^{nj}|²` (`N ≤ NFFT`). -/
theorem mt_placement_eigenspectra {ω : K} {nfft : ℕ} (hn : 0 < nfft) (hω : ω ^ nfft = 1)
    (x : List K) (tapers : List (List K)) (hN : x.length ≤ nfft)
    (m : MtMethod) (SkA W : List (List K)) (nwin : ℕ) (isReal : Bool) (twoPi fs : K) (j : ℕ)
    (hj : j < if isReal then nfft / 2 + 1 else nfft)
    (hSk : ∀ t, t < nwin → nth (SkA.getD t []) j
      = abs2 (nth (eigenspectrum (twiddles ω nfft) x (tapers.getD t []) nfft) j)) :
    nth (classCall .fold2 (mtMean m SkA W nfft nwin) isReal nfft false twoPi fs) j
      = (if isReal then 2 else 1)
        * ((∑ t ∈ range nwin,
              (if m = .adapt then nth (W.getD j []) t else nth (W.getD t []) 0)
                * ((∑ n ∈ range x.length, (nth (tapers.getD t []) n * nth x n) * ω ^ (n * j))
                  * star (∑ n ∈ range x.length, (nth (tapers.getD t []) n * nth x n) * ω ^ (n * j))))
            / (nwin : K)) := by
  rw [mt_placement m SkA W hn nwin isReal twoPi fs j hj]
  refine congrArg (fun s => (if isReal then 2 else 1) * (s / (nwin : K))) (Finset.sum_congr rfl ?_)
  intro t ht
  rw [hSk t (mem_range.mp ht), abs2_eq,
    MtmL.nth_eigenspectrum hn hω x (tapers.getD t []) hN (kept_lt hn hj)]

/-- **MUSIC / EV** (`pmusic`, `pev`, given the SVD).  Complex data: entry `j < NFFT` of the class is
`1 / denominator` at the FFT bin `fftBinOf NFFT j = (NFFT - j) mod NFFT`, the bin `k` with
`ω^k = ω^{-j}` where a tone of frequency bin `j` annihilates the noise subspace.  Real data: entry
`j ≤ NFFT/2` is `2 / denominator` at FFT bin `j` (the FFT bin of the signed bin `-j`). -/
theorem music_placement (tw : List K) (cols : List (List K)) (S : List K) (nsig P : ℕ) {nfft : ℕ}
    (hn : 0 < nfft) (ev : Bool) (twoPi fs : K) (j : ℕ) :
    (j < nfft →
      nth (classCall .eigen (eigenPsd tw cols S nsig P nfft ev) false nfft false twoPi fs) j
        = 1 / eigenDenom tw cols S nsig P nfft ev (C17.fftBinOf nfft j)
      ∧ C17.fftBinOf nfft j = (nfft - j) % nfft)
    ∧ (j ≤ nfft / 2 →
      nth (classCall .eigen (eigenPsd tw cols S nsig P nfft ev) true nfft false twoPi fs) j
        = 2 * (1 / eigenDenom tw cols S nsig P nfft ev j)
      ∧ C17.fftBinOf nfft (-(j : Int)) = j) := by
  constructor
  · intro hj
    have hbin : C17.fftBinOf nfft j = (nfft - j) % nfft := by
      unfold C17.fftBinOf
      rw [EigenL.sub_emod_toNat hn, binIdx_natCast hj]
    refine ⟨?_, hbin⟩
    rw [classCall_eigen_false, EigenL.nth_classFold_eigenPsd_complex tw cols S nsig P ev hj, hbin]
  · intro hj
    refine ⟨?_, (C17.tone_index_class_real ([] : List K) nfft j hj hn).2⟩
    rw [classCall_eigen_false, EigenL.nth_classFold_eigenPsd_real tw cols S nsig P hn ev hj]

/-! ### MUSIC / EV: a pole at the entry whose reported frequency is the tone's -/

/-
  Full informal claim (NOT proved at full strength): "a dominant on-grid complex exponential at bin `k`
  produces the MAXIMUM of the MUSIC / EV estimate at the entry whose reported frequency is that of bin
  `k`".  Proved: for noiseless tones and the SVD contract, the class output (complex data) at index
  `b mod NFFT` — the entry whose reported two-sided frequency is that of the signed bin `b` of the tone
  `z = ω^{-b} = e^{2πi b/NFFT}` — is `1 / d` with `d = 0`: a pole of the pseudo-spectrum (numerically
  `1/ε`).  For the function output C17 (`pole_iff_tone`, `peaks_exactly_at_true_frequencies`) also proves the
  converse: under the spanning hypothesis the denominator vanishes at no other grid point and is a positive real
  there.  Not done here: carrying that converse through the `.eigen` glue to the class output; not provable in this
  setting: the perturbation by noise, tones between grid points.
-/
/-- poles of the class output (complex data) at the on-grid true frequencies -/
theorem music_tone_peak_partial {ω : K} {nfft P : ℕ} (hn : 0 < nfft)
    (hω : ω ^ nfft = 1) (hstar : star ω = ω⁻¹) (hP : P ≤ nfft) (N T : ℕ) (c z : ℕ → K)
    (hz0 : ∀ m, m < T → z m ≠ 0) (hc : ∀ m, m < T → c m ≠ 0)
    (hzinj : ∀ m m', m < T → m' < T → z m = z m' → m = m') (hNP : T ≤ fbNP N P)
    (cols : List (List K)) (S : List K) (nsig : ℕ) (ev : Bool) (v : ℕ → ℕ → K)
    (hcols : ∀ i, nsig ≤ i → i < P → cols.getD i [] = vec P (fun k => -star (v i k)))
    (hsvd : ∀ i, nsig ≤ i → i < P → ∀ I, I < T →
      ∑ k ∈ range P, mentryM (fbMatrix (EigenL.tones N T c z) P) I k * v i k = 0)
    (m : ℕ) (hm : m < T) (b : Int) (hb : z m = ω ^ (-b)) (twoPi fs : K) :
    ∃ d : K, d = 0
      ∧ d = eigenDenom (twiddles ω nfft) cols S nsig P nfft ev (C17.fftBinOf nfft b)
      ∧ binIdx nfft b < nfft
      ∧ (∃ h : binIdx nfft b < (rangeBins .two nfft).length,
          (rangeBins .two nfft)[binIdx nfft b] % (nfft : Int) = b % (nfft : Int))
      ∧ nth (classCall .eigen (eigenPsd (twiddles ω nfft) cols S nsig P nfft ev) false nfft false
            twoPi fs) (binIdx nfft b) = 1 / d := by
  have hidx : binIdx nfft b < nfft := binIdx_lt hn b
  have hbin := C17.fftBinOf_spec hn hω b
  refine ⟨_, ?_, rfl, hidx, ?_, ?_⟩
  · exact C17.denominator_vanishes_at_tones hn hω hstar hP N T c z hz0 hc hzinj hNP cols S nsig ev v
      hcols hsvd m hm _ (by rw [hbin.2, hb])
  · have hlen : (rangeBins .two nfft).length = nfft := by simp [rangeBins]
    refine ⟨by rw [hlen]; exact hidx, ?_⟩
    rw [(freqs_eq nfft (binIdx nfft b)).2]
    unfold binIdx
    rw [Int.toNat_of_nonneg (Int.emod_nonneg _ (by omega)), Int.emod_emod_of_dvd _ (dvd_refl _)]
  · rw [classCall_eigen_false, EigenL.nth_classFold_eigenPsd_complex _ cols S nsig P ev hidx,
      ← EigenL.sub_emod_toNat hn b]
    rfl

/-- non-vacuity (the example of C17): one tone `x_n = (-1)^n = ω^{-1·n}` (signed bin `b = 1`), `N = 5`,
`P = 2`, `NFFT = 2`, `ω = -1`, `NSIG = 1`, noise singular vector `(1,1)`: the class output has its pole at
index `1 mod 2`. -/
example : ∃ d : ℂ, d = 0 ∧
    nth (classCall .eigen (eigenPsd (twiddles (-1 : ℂ) 2) [[], [-1, -1]] [2, 0] 1 2 2 false) false 2
      false 7 2) (binIdx 2 1) = 1 / d := by
  obtain ⟨d, h0, _, _, _, h⟩ := music_tone_peak_partial (ω := (-1 : ℂ)) (nfft := 2) (P := 2)
    (by norm_num) (by norm_num) (by simp) (le_refl _) 5 1 (fun _ => 1) (fun _ => -1)
    (by intro m _; norm_num) (by intro m _; norm_num) (by intro m m' h h' _; omega) (by decide)
    [[], [-1, -1]] [2, 0] 1 false (fun _ _ => 1) EigenOnlyL.tone_example_cols (fun _ _ _ => EigenOnlyL.tone_example_svd)
    0 (by norm_num) 1 (by norm_num) 7 2
  exact ⟨d, h0, h⟩

/-- real data: a real sinusoid of frequency bin `j ≤ NFFT/2` contains the tone `ω^{j} = ω^{-(-j)}`; the
one-sided class output has its pole at index `j`, the entry whose reported frequency is bin `j`. -/
theorem music_tone_peak_real_partial {ω : K} {nfft P : ℕ} (hn : 0 < nfft)
    (hω : ω ^ nfft = 1) (hstar : star ω = ω⁻¹) (hP : P ≤ nfft) (N T : ℕ) (c z : ℕ → K)
    (hz0 : ∀ m, m < T → z m ≠ 0) (hc : ∀ m, m < T → c m ≠ 0)
    (hzinj : ∀ m m', m < T → m' < T → z m = z m' → m = m') (hNP : T ≤ fbNP N P)
    (cols : List (List K)) (S : List K) (nsig : ℕ) (ev : Bool) (v : ℕ → ℕ → K)
    (hcols : ∀ i, nsig ≤ i → i < P → cols.getD i [] = vec P (fun k => -star (v i k)))
    (hsvd : ∀ i, nsig ≤ i → i < P → ∀ I, I < T →
      ∑ k ∈ range P, mentryM (fbMatrix (EigenL.tones N T c z) P) I k * v i k = 0)
    (m : ℕ) (hm : m < T) (j : ℕ) (hj : j ≤ nfft / 2) (hb : z m = ω ^ j) (twoPi fs : K) :
    ∃ d : K, d = 0
      ∧ d = eigenDenom (twiddles ω nfft) cols S nsig P nfft ev j
      ∧ (∃ h : j < (rangeBins .one nfft).length, (rangeBins .one nfft)[j] = (j : Int))
      ∧ nth (classCall .eigen (eigenPsd (twiddles ω nfft) cols S nsig P nfft ev) true nfft false
            twoPi fs) j = 2 * (1 / d) := by
  refine ⟨_, ?_, rfl, ?_, ((music_placement _ cols S nsig P hn ev twoPi fs j).2 hj).1⟩
  · exact C17.denominator_vanishes_at_tones hn hω hstar hP N T c z hz0 hc hzinj hNP cols S nsig ev v
      hcols hsvd m hm j hb.symm
  · have hlen : (rangeBins .one nfft).length = nfft / 2 + 1 := by rw [rangeBins_length]
    have h : j < (rangeBins .one nfft).length := by rw [hlen]; omega
    exact ⟨h, (freqs_eq nfft j).1 h⟩

end Star

/-! ### the periodogram of an on-grid complex exponential peaks at its own bin -/

section Tone
variable {F : Type} [RCLike F]

/-- **tone clause, windowed DFT**: noise-free complex exponential `x_n = A·ω^{-k0 n}`
(`= A e^{2πi k0 n/NFFT}`, frequency bin `k0`), window with real samples `w_n ≥ 0`: for every bin `k`
`|Σ_n x_n w_n ω^{nk}| ≤ |A|·Σ_n w_n = |Σ_n x_n w_n ω^{n k0}|`. -/
theorem periodogram_tone_peak {ω : F} {nfft : ℕ} (hn : 0 < nfft) (hω : ω ^ nfft = 1)
    (x w : List F) (A : F) (k0 : ℕ) (hx : ∀ n, n < x.length → nth x n = A * ω⁻¹ ^ (k0 * n))
    (wr : ℕ → ℝ) (hw : ∀ n, n < x.length → nth w n = (wr n : F))
    (hw0 : ∀ n, n < x.length → 0 ≤ wr n) (k : ℕ) :
    ‖C01.wdft ω x w k‖ ≤ ‖A‖ * ∑ n ∈ range x.length, wr n
    ∧ ‖C01.wdft ω x w k0‖ = ‖A‖ * ∑ n ∈ range x.length, wr n := by
  have h1 : ‖ω‖ = 1 := norm_root_eq_one hn hω
  have h0 : ω ≠ 0 := ne_zero_of_pow_eq_one hn hω
  constructor
  · -- triangle inequality: the term of index `n` has modulus `|A|·w_n`
    unfold C01.wdft
    refine le_trans (norm_sum_le _ _) ?_
    rw [Finset.mul_sum]
    apply Finset.sum_le_sum
    intro n hn'
    have hn'' := mem_range.mp hn'
    rw [hx n hn'', hw n hn'', norm_mul, norm_mul, norm_mul, norm_pow, norm_pow, norm_inv, h1, inv_one,
      one_pow, one_pow, mul_one, mul_one, RCLike.norm_ofReal, abs_of_nonneg (hw0 n hn'')]
  · -- at the tone's own bin the term of index `n` is `A·w_n`
    have hterm : ∀ n ∈ range x.length, (nth x n * nth w n) * ω ^ (n * k0) = A * (wr n : F) := by
      intro n hn'
      have hn'' := mem_range.mp hn'
      have : ω⁻¹ ^ (k0 * n) * ω ^ (n * k0) = 1 := by
        rw [mul_comm n k0, ← mul_pow, inv_mul_cancel₀ h0, one_pow]
      rw [hx n hn'', hw n hn'', mul_right_comm A, mul_assoc, this, mul_one]
    unfold C01.wdft
    rw [Finset.sum_congr rfl hterm, ← Finset.mul_sum, norm_mul, ← RCLike.ofReal_sum, RCLike.norm_ofReal,
      abs_of_nonneg (Finset.sum_nonneg (fun n hn' => hw0 n (mem_range.mp hn')))]

/-- the periodogram values are non-negative reals: entry `j` of the class is `|wdft_j|²/N` -/
theorem periodogram_real_nonneg {ω : F} {nfft : ℕ} (hn : 0 < nfft) (hω : ω ^ nfft = 1)
    (x w : List F) (hN : x.length ≤ nfft) (isReal : Bool) (twoPi fs : F) (j : ℕ)
    (hj : j < if isReal then nfft / 2 + 1 else nfft) :
    nth (classCall .take (speriodogram (twiddles ω nfft) x w nfft false) isReal nfft false twoPi fs) j
        = ((‖C01.wdft ω x w j‖ ^ 2 / (x.length : ℝ) : ℝ) : F)
    ∧ 0 ≤ ‖C01.wdft ω x w j‖ ^ 2 / (x.length : ℝ) := by
  refine ⟨?_, div_nonneg (sq_nonneg _) (Nat.cast_nonneg _)⟩
  rw [(periodogram_placement hn hω x w hN isReal twoPi fs j hj).1, mul_star_eq_ofReal,
    RCLike.ofReal_div, RCLike.ofReal_natCast]

/-- **tone clause, class output** (complex data, `1 ≤ N ≤ NFFT`, `k, k0 < NFFT`): the `Periodogram`
entries are the real numbers `p_k = |wdft_k|²/N`, and `p_k ≤ p_{k0} = (|A|·Σ w_n)²/N`: the maximum of the
estimate is at index `k0`, the entry whose reported frequency `k0·fs/NFFT` is the tone's. -/
theorem periodogram_tone_peak_class {ω : F} {nfft : ℕ} (hn : 0 < nfft) (hω : ω ^ nfft = 1)
    (x w : List F) (_hN0 : 0 < x.length) (hN : x.length ≤ nfft) (A : F) (k0 : ℕ)
    (hx : ∀ n, n < x.length → nth x n = A * ω⁻¹ ^ (k0 * n))
    (wr : ℕ → ℝ) (hw : ∀ n, n < x.length → nth w n = (wr n : F))
    (hw0 : ∀ n, n < x.length → 0 ≤ wr n) (twoPi fs : F) (k : ℕ) (hk : k < nfft) (hk0 : k0 < nfft) :
    ∃ pk pk0 : ℝ,
      nth (classCall .take (speriodogram (twiddles ω nfft) x w nfft false) false nfft false twoPi fs) k
        = (pk : F)
      ∧ nth (classCall .take (speriodogram (twiddles ω nfft) x w nfft false) false nfft false twoPi fs) k0
        = (pk0 : F)
      ∧ 0 ≤ pk ∧ pk ≤ pk0
      ∧ pk0 = (‖A‖ * ∑ n ∈ range x.length, wr n) ^ 2 / (x.length : ℝ) := by
  obtain ⟨hle, heq⟩ := periodogram_tone_peak hn hω x w A k0 hx wr hw hw0 k
  have e1 := periodogram_real_nonneg hn hω x w hN false twoPi fs k hk
  have e2 := periodogram_real_nonneg hn hω x w hN false twoPi fs k0 hk0
  refine ⟨_, _, e1.1, e2.1, e1.2, ?_, by rw [heq]⟩
  have hsq : ‖C01.wdft ω x w k‖ ^ 2 ≤ ‖C01.wdft ω x w k0‖ ^ 2 := by
    rw [heq]
    exact pow_le_pow_left₀ (norm_nonneg _) hle 2
  exact div_le_div_of_nonneg_right hsq (Nat.cast_nonneg x.length)

/-- non-vacuity over `ℂ`: `NFFT = 2`, `ω = -1`, tone at bin `k0 = 1` (`x = [3, -3]`, `A = 3`),
rectangular window: `|wdft_0| = 0 ≤ 6 = |wdft_1|`. -/
example : ‖C01.wdft (-1 : ℂ) [3, -3] [1, 1] 0‖ ≤ ‖(3 : ℂ)‖ * ∑ n ∈ range 2, (fun _ => (1 : ℝ)) n
    ∧ ‖C01.wdft (-1 : ℂ) [3, -3] [1, 1] 1‖ = ‖(3 : ℂ)‖ * ∑ n ∈ range 2, (fun _ => (1 : ℝ)) n := by
  refine periodogram_tone_peak (ω := (-1 : ℂ)) (nfft := 2) (by norm_num) (by norm_num)
    [3, -3] [1, 1] 3 1 ?_ (fun _ => 1) ?_ (fun _ _ => zero_le_one) 0
  · intro n hn
    have : n < 2 := by simpa using hn
    interval_cases n <;> simp [nth]
  · intro n hn
    have : n < 2 := by simpa using hn
    interval_cases n <;> simp [nth]

end Tone

end SpecVerif.C02
