import SpecVerif.Proofs.Lemmas.LevinsonPD
import SpecVerif.Proofs.Lemmas.Toeplitz
import SpecVerif.Proofs.Lemmas.SchurCohn
import SpecVerif.Proofs.Lemmas.CRatField
import Mathlib.Algebra.Star.Rat
import Mathlib.LinearAlgebra.Matrix.ConjTranspose
import Mathlib.LinearAlgebra.Matrix.Notation
/-
  C10 — `LEVINSON`, `HERMTOEP`, `TOEPLITZ` solve their Toeplitz systems; positive definite ⇒ no breakdown,
  `|k_i| < 1`, stable polynomial; the glue of `CHOLESKY`; two instances at the executed type `CRat`.

  Conventions of the model: `levRun r0 T k` is the state of `LEVINSON` after `k` stages, `T = r[1:]`
  (so `r_j = nth T (j-1)` for `j ≥ 1`) and `r_0 = r0` is real (`star r0 = r0`); `.A` are the
  coefficients `a_1..a_k` (no leading 1), `.P` the prediction error, `.ref` the reflection
  coefficients.  The Hermitian Toeplitz matrix has entries `R i j = r (i-j)` for `j ≤ i` and
  `star (r (j-i))` for `j > i`; it is written out in the statements (the lemma files call it `hR r i j`).
  Hypotheses named `_h…` are the wrappers' admissibility conditions; the algebra does not use them (beyond
  the ends of the lists the sequences are read as zero-padded), and `hp`, `hT` of the stability theorems are
  only handed on to them.
-/
namespace SpecVerif.C10
open Finset SpecVerif

variable {K : Type} [Field K] [StarRing K]

theorem levRun_lengths (r0 : K) (T : List K) (k : ℕ) :
    (levRun r0 T k).A.length = k ∧ (levRun r0 T k).ref.length = k :=
  ⟨levRun_A_length r0 T k, levRun_ref_length r0 T k⟩

/-- **normal equations**: if `r_0` is real and the errors of the stages `0..p-1` do not vanish, the
order-`p` output satisfies `T_p [1, a_1..a_p]ᵀ = [P, 0, …, 0]ᵀ`.  The sequence `r` and the polynomial
`α = [1, a]` are introduced through their defining equations. -/
theorem levinson_solves (r0 : K) (T : List K) (p : ℕ) (h0 : star r0 = r0) (_hp : p ≤ T.length)
    (hP : ∀ j, j < p → (levRun r0 T j).P ≠ 0)
    (r : ℕ → K) (hr0 : r 0 = r0) (hr : ∀ j, r (j + 1) = nth T j)
    (α : ℕ → K) (hα0 : α 0 = 1) (hα : ∀ j, α (j + 1) = nth (levRun r0 T p).A j) :
    ∀ i, i ≤ p →
      ∑ j ∈ range (p + 1), (if j ≤ i then r (i - j) else star (r (j - i))) * α j
        = if i = 0 then (levRun r0 T p).P else 0 := by
  have e1 : r = rseq r0 T := eq_rseq hr0 hr
  have e2 : α = alphaOf (levRun r0 T p).A := eq_alphaOf hα0 hα
  subst e1 e2
  have h := levRun_LevEq r0 T h0 p hP
  unfold LevEq hR at h
  exact h

/-- non-vacuity of `levinson_solves`: `r = [2, 1, 1/2]` over `ℚ`, order 2 -/
example : star (2 : ℚ) = 2 ∧ 2 ≤ [(1 : ℚ), 1 / 2].length ∧
    ∀ j, j < 2 → (levRun (2 : ℚ) [1, 1 / 2] j).P ≠ 0 := by
  decide +kernel

/-- **error product**: `P_p = r_0 ∏_{i<p} (1 - k_i conj k_i)` with `k_i` the returned reflection
coefficients (no hypothesis: this is how the recursion updates `P`). -/
theorem levinson_error_product (r0 : K) (T : List K) (p : ℕ) :
    (levRun r0 T p).P
      = r0 * ∏ i ∈ range p,
          (1 - nth (levRun r0 T p).ref i * star (nth (levRun r0 T p).ref i)) := by
  rw [levRun_P_prod]
  refine congrArg (r0 * ·) (Finset.prod_congr rfl ?_)
  intro i hi
  rw [nth_levRun_ref r0 T p i (mem_range.mp hi)]

/-- **nesting** -/
theorem levinson_nested (r0 : K) (T : List K) (q p : ℕ) (h : q ≤ p) :
    (levRun r0 T q).ref = (levRun r0 T p).ref.take q :=
  levRun_ref_take r0 T q p h

theorem levinson_last_coeff (r0 : K) (T : List K) (p : ℕ) :
    nth (levRun r0 T (p + 1)).A p = nth (levRun r0 T (p + 1)).ref p := by
  rw [levRun_A_last, nth_levRun_ref r0 T (p + 1) p (Nat.lt_succ_self p)]

theorem levinson_reflection (r0 : K) (T : List K) (m : ℕ) :
    nth (levRun r0 T (m + 1)).ref m
      = -(nth T m + ∑ j ∈ range m, nth (levRun r0 T m).A j * nth T (m - j - 1))
          / (levRun r0 T m).P := by
  rw [nth_levRun_ref r0 T (m + 1) m (by omega), levK_eq, sumR_eq_sum]

theorem levinson_order1 (r0 : K) (T : List K) :
    (levRun r0 T 1).A = [-(nth T 0) / r0] ∧ (levRun r0 T 1).ref = [-(nth T 0) / r0] ∧
    (levRun r0 T 1).P = r0 * (1 - (-(nth T 0) / r0) * star (-(nth T 0) / r0)) ∧
    ∀ z : K, z + nth (levRun r0 T 1).A 0 = 0 ↔ z = -nth (levRun r0 T 1).ref 0 := by
  have hk : levK r0 T 0 = -(nth T 0) / r0 := by
    rw [levK_eq]
    show -(nth T 0 + 0) / r0 = _
    rw [add_zero]
  have hA : (levRun r0 T 1).A = [-(nth T 0) / r0] := by
    rw [levRun_succ_A, hk]
    rfl
  have hr : (levRun r0 T 1).ref = [-(nth T 0) / r0] := by
    rw [levRun_succ_ref, hk]
    rfl
  refine ⟨hA, hr, ?_, ?_⟩
  · rw [levRun_succ_P, hk]
    rfl
  · intro z
    rw [hA, hr]
    exact eq_neg_iff_add_eq_zero.symm

/-- the order is checked first -/
theorem levinson_assert [ReOrd K] (r0 : K) (T : List K) (order : ℕ) (allow : Bool)
    (ho : T.length < order) : levinson r0 T order allow = .error "assert" := by
  unfold levinson
  rw [if_pos ho]

/-- **raises**: for an admissible order, `ValueError` is raised iff singularity is not allowed and
some stage `j ∈ [1, order]` has error with real part `≤ 0`. -/
theorem levinson_raises [ReOrd K] (r0 : K) (T : List K) (order : ℕ) (allow : Bool)
    (ho : order ≤ T.length) :
    levinson r0 T order allow = .error "value" ↔
      allow = false ∧ ∃ j, 1 ≤ j ∧ j ≤ order ∧ reLe0 (levRun r0 T j).P = true := by
  unfold levinson
  rw [if_neg (by omega), ← any_range_succ_iff (fun j => reLe0 (levRun r0 T j).P) order]
  cases allow <;> cases (List.range order).any (fun j => reLe0 (levRun r0 T (j + 1)).P) <;> simp

/-- **returns**: for an admissible order the result is `ok s` iff `s` is the state after `order`
stages and either singularity is allowed or every stage error has real part `> 0`. -/
theorem levinson_ok [ReOrd K] (r0 : K) (T : List K) (order : ℕ) (allow : Bool)
    (ho : order ≤ T.length) (s : LevState K) :
    levinson r0 T order allow = .ok s ↔
      s = levRun r0 T order ∧
        (allow = true ∨ ∀ j, 1 ≤ j → j ≤ order → reLe0 (levRun r0 T j).P = false) := by
  unfold levinson
  rw [if_neg (by omega), ← any_range_succ_false_iff (fun j => reLe0 (levRun r0 T j).P) order]
  cases allow <;> cases (List.range order).any (fun j => reLe0 (levRun r0 T (j + 1)).P) <;>
    simp [eq_comm]

/-- with `allow_singularity=True` no `ValueError` is ever raised -/
theorem levinson_allow [ReOrd K] (r0 : K) (T : List K) (order : ℕ) :
    levinson r0 T order true ≠ .error "value" := by
  unfold levinson
  by_cases ho : order > T.length
  · rw [if_pos ho]; intro h; injection h with h; exact absurd h (by decide)
  · rw [if_neg ho]
    simp only [Bool.not_true, Bool.false_and, Bool.false_eq_true, if_false]
    intro h; cases h

/-- the Levinson part of `HERMTOEP` is `LEVINSON`: same coefficients and errors at every stage -/
theorem hermtoep_levinson (T0 : K) (T Z : List K) (k : ℕ) :
    (hermRun T0 T Z k).A = (levRun T0 T k).A ∧ (hermRun T0 T Z k).P = (levRun T0 T k).P :=
  hermRun_A_P T0 T Z k

/-- **`HERMTOEP` solves the system**: if `T0` is real and the stage errors `P_0 = T0, …, P_M` do not
vanish, the vector after `M` stages has `M+1` entries and satisfies `Σ_j R i j x_j = Z_i` for all
rows `i ≤ M` of the Hermitian Toeplitz matrix with first column `[T0, T…]`. -/
theorem hermtoep_solves (T0 : K) (T Z : List K) (M : ℕ) (h0 : star T0 = T0)
    (_hM : M ≤ T.length) (_hZ : M + 1 ≤ Z.length)
    (hP : ∀ j, j ≤ M → (hermRun T0 T Z j).P ≠ 0)
    (r : ℕ → K) (hr0 : r 0 = T0) (hr : ∀ j, r (j + 1) = nth T j) :
    (hermRun T0 T Z M).X.length = M + 1 ∧
    ∀ i, i ≤ M →
      ∑ j ∈ range (M + 1),
          (if j ≤ i then r (i - j) else star (r (j - i))) * nth (hermRun T0 T Z M).X j
        = nth Z i := by
  have e1 : r = rseq T0 T := eq_rseq hr0 hr
  subst e1
  have h := hermRun_solves _ T Z h0 M (fun j hj => by rw [← (hermRun_A_P _ T Z j).2]; exact hP j hj)
  unfold hR at h
  exact ⟨hermRun_X_length _ T Z M, h⟩

/-- non-vacuity of `hermtoep_solves`: `T0 = 2`, `T = [1]`, `Z = [1, 2]` over `ℚ` -/
example : star (2 : ℚ) = 2 ∧ ∀ j, j ≤ 1 → (hermRun (2 : ℚ) [1] [1, 2] j).P ≠ 0 := by
  decide +kernel

/-- the wrapper returns `ok x` iff `T` is non-empty, no stage `1..M` has error with real part `≤ 0`,
and `x` is the vector after `M = len(T)` stages. -/
theorem hermtoep_ok [ReOrd K] (T0 : K) (T Z x : List K) :
    hermtoep T0 T Z = .ok x ↔
      T.length ≠ 0 ∧ (∀ j, 1 ≤ j → j ≤ T.length → reLe0 (hermRun T0 T Z j).P = false) ∧
        x = (hermRun T0 T Z T.length).X := by
  unfold hermtoep
  dsimp only
  rw [ite_error_eq_ok, ite_error_eq_ok, Except.ok.injEq,
    ← any_range_succ_false_iff (fun j => reLe0 (hermRun T0 T Z j).P), Bool.not_eq_true, eq_comm (b := x)]

/-- **end to end**: whenever `HERMTOEP` returns `x` (real non-zero `T0`, right-hand side of length
`M+1`, and a guard `reLe0` that rejects `0`), `x` has `M+1` entries and `T x = Z`. -/
theorem hermtoep_correct [ReOrd K] (hre : ∀ x : K, reLe0 x = false → x ≠ 0)
    (T0 : K) (T Z x : List K) (h0 : star T0 = T0) (hT0 : T0 ≠ 0) (hZ : Z.length = T.length + 1)
    (hx : hermtoep T0 T Z = .ok x)
    (r : ℕ → K) (hr0 : r 0 = T0) (hr : ∀ j, r (j + 1) = nth T j) :
    x.length = T.length + 1 ∧
    ∀ i, i ≤ T.length →
      ∑ j ∈ range (T.length + 1), (if j ≤ i then r (i - j) else star (r (j - i))) * nth x j
        = nth Z i := by
  obtain ⟨_, hg, rfl⟩ := (hermtoep_ok T0 T Z x).mp hx
  apply hermtoep_solves T0 T Z T.length h0 (Nat.le_refl _) (by omega) _ r hr0 hr
  intro j hj
  rcases Nat.eq_zero_or_pos j with rfl | hpos
  · exact hT0
  · exact hre _ (hg j hpos hj)

/-- **`TOEPLITZ` solves the system**: if the stage quantities `P_0 = T0, …, P_M` do not vanish, the
vector after `M` stages has `M+1` entries and satisfies `Σ_j G i j x_j = Z_i` for all rows `i ≤ M` of
the Toeplitz matrix with first column `c = [T0, TC…]` and first row `ρ = [T0, TR…]`
(`G i j = c (i-j)` for `j ≤ i`, `ρ (j-i)` for `j > i`).  No symmetry is assumed. -/
theorem toeplitz_solves (T0 : K) (TC TR Z : List K) (M : ℕ)
    (_hC : M ≤ TC.length) (_hR : M ≤ TR.length) (_hZ : M + 1 ≤ Z.length)
    (hP : ∀ j, j ≤ M → (toepRun T0 TC TR Z j).P ≠ 0)
    (c : ℕ → K) (hc0 : c 0 = T0) (hc : ∀ j, c (j + 1) = nth TC j)
    (ρ : ℕ → K) (hρ0 : ρ 0 = T0) (hρ : ∀ j, ρ (j + 1) = nth TR j) :
    (toepRun T0 TC TR Z M).X.length = M + 1 ∧
    ∀ i, i ≤ M →
      ∑ j ∈ range (M + 1),
          (if j ≤ i then c (i - j) else ρ (j - i)) * nth (toepRun T0 TC TR Z M).X j
        = nth Z i := by
  have e1 : c = rseq T0 TC := eq_rseq hc0 hc
  have e2 : ρ = rseq T0 TR := eq_rseq hρ0 hρ
  subst e1 e2
  have h := toepRun_solves _ TC TR Z M hP
  unfold gT at h
  exact ⟨toepRun_X_length _ TC TR Z M, h⟩

/-- non-vacuity of `toeplitz_solves`: `T0 = 2`, `TC = [1]`, `TR = [3]`, `Z = [1, 2]` over `ℚ`
(a non-symmetric matrix) -/
example : ∀ j, j ≤ 1 → (toepRun (2 : ℚ) [1] [3] [1, 2] j).P ≠ 0 := by
  decide +kernel

omit [StarRing K] in
/-- the wrapper returns `ok x` iff the sizes are admissible, neither `T0` nor a stage variable `P_1..P_M` tests zero
(a general Toeplitz system need not be positive definite: the code only rejects an exactly singular stage), and `x`
is the vector after `M = len(TC)` stages. -/
theorem toeplitz_ok [IsZero K] (T0 : K) (TC TR Z x : List K) :
    toeplitz T0 TC TR Z = .ok x ↔
      TC.length ≠ 0 ∧ TR.length = TC.length ∧ isZero T0 = false ∧
        (∀ j, 1 ≤ j → j ≤ TC.length → isZero (toepRun T0 TC TR Z j).P = false) ∧
        x = (toepRun T0 TC TR Z TC.length).X := by
  unfold toeplitz
  dsimp only
  rw [ite_error_eq_ok, ite_error_eq_ok, ite_error_eq_ok, Except.ok.injEq,
    ← any_range_succ_false_iff (fun j => isZero (toepRun T0 TC TR Z j).P), eq_comm (b := x)]
  -- the Bool guard `M = 0 || TR.length ≠ M` as two propositions
  simp only [Bool.not_eq_true, Bool.or_eq_false_iff, decide_eq_false_iff_not, not_not, ne_eq, and_assoc]

/-- **end to end**: whenever `TOEPLITZ` returns `x` (right-hand side of length `M+1`, a zero test `isZero` that
accepts `0`), `x` has `M+1` entries and `G x = Z` - for ANY Toeplitz matrix whose stage variables do not vanish,
positive definite or not. -/
theorem toeplitz_correct [IsZero K] (hz : ∀ x : K, isZero x = false → x ≠ 0)
    (T0 : K) (TC TR Z x : List K) (hZ : Z.length = TC.length + 1)
    (hx : toeplitz T0 TC TR Z = .ok x)
    (c : ℕ → K) (hc0 : c 0 = T0) (hc : ∀ j, c (j + 1) = nth TC j)
    (ρ : ℕ → K) (hρ0 : ρ 0 = T0) (hρ : ∀ j, ρ (j + 1) = nth TR j) :
    x.length = TC.length + 1 ∧
    ∀ i, i ≤ TC.length →
      ∑ j ∈ range (TC.length + 1), (if j ≤ i then c (i - j) else ρ (j - i)) * nth x j
        = nth Z i := by
  obtain ⟨_, hRl, hT0, hg, rfl⟩ := (toeplitz_ok T0 TC TR Z x).mp hx
  apply toeplitz_solves T0 TC TR Z TC.length (Nat.le_refl _) (by omega) (by omega) _
    c hc0 hc ρ hρ0 hρ
  intro j hj
  rcases Nat.eq_zero_or_pos j with rfl | hpos
  · exact hz _ hT0
  · exact hz _ (hg j hpos hj)

section PD
variable {F : Type} [RCLike F]

/-- **positive definite ⇒ no breakdown**: if the leading `(p+1)×(p+1)` Hermitian Toeplitz form of `r`
is positive definite, every stage error `P_0..P_p` is real and `> 0` and every reflection coefficient
has modulus `< 1`. -/
theorem levinson_pd (r0 : F) (T : List F) (p : ℕ) (h0 : star r0 = r0) (_hp : p ≤ T.length)
    (r : ℕ → F) (hr0 : r 0 = r0) (hr : ∀ j, r (j + 1) = nth T j)
    (hpd : ∀ v : ℕ → F, (∃ i, i ≤ p ∧ v i ≠ 0) →
      0 < RCLike.re (∑ i ∈ range (p + 1), ∑ j ∈ range (p + 1),
        star (v i) * (if j ≤ i then r (i - j) else star (r (j - i))) * v j)) :
    (∀ m, m ≤ p → star (levRun r0 T m).P = (levRun r0 T m).P ∧ 0 < RCLike.re (levRun r0 T m).P) ∧
    (∀ i, i < p → ‖nth (levRun r0 T p).ref i‖ < 1) := by
  have e1 : r = rseq r0 T := eq_rseq hr0 hr
  subst e1
  exact levRun_pd r0 T h0 p (fun v ⟨i, hi, hvi⟩ => hpd v ⟨i, Nat.lt_succ_iff.mp hi, hvi⟩)

/-- non-vacuity of the positive-definiteness hypothesis: `r = [2, 1]` over `ℝ`, `p = 1` -/
example : ∀ v : ℕ → ℝ, (∃ i, i ≤ 1 ∧ v i ≠ 0) →
    0 < RCLike.re (∑ i ∈ range 2, ∑ j ∈ range 2,
      star (v i) * (if j ≤ i then rseq (2 : ℝ) [1] (i - j) else star (rseq 2 [1] (j - i))) * v j) := by
  rintro v ⟨i, hi, hv⟩
  have h : 0 < v 0 ^ 2 + v 1 ^ 2 := by
    have : i = 0 ∨ i = 1 := by omega
    rcases this with rfl | rfl
    · exact add_pos_of_pos_of_nonneg (sq_pos_iff.mpr hv) (sq_nonneg _)
    · exact add_pos_of_nonneg_of_pos (sq_nonneg _) (sq_pos_iff.mpr hv)
  -- the form is `2 v₀² + 2 v₀ v₁ + 2 v₁²`, a sum of three squares
  have e : RCLike.re (∑ i ∈ range 2, ∑ j ∈ range 2,
      star (v i) * (if j ≤ i then rseq (2 : ℝ) [1] (i - j) else star (rseq 2 [1] (j - i))) * v j)
      = (v 0 ^ 2 + v 1 ^ 2) + (v 0 + v 1) ^ 2 := by
    simp only [rseq, star_trivial, RCLike.re_to_real, spec_eval, spec_eval_proc]
    ring
  rw [e]
  exact add_pos_of_pos_of_nonneg h (sq_nonneg _)

/-- for a positive definite `r` the wrapper does not raise, whatever `allow_singularity` is
(`reLe0` being the test `re x ≤ 0`). -/
theorem levinson_pd_ok [ReOrd F] (hre : ∀ x : F, reLe0 x = true ↔ RCLike.re x ≤ 0)
    (r0 : F) (T : List F) (p : ℕ) (allow : Bool) (h0 : star r0 = r0) (hp : p ≤ T.length)
    (r : ℕ → F) (hr0 : r 0 = r0) (hr : ∀ j, r (j + 1) = nth T j)
    (hpd : ∀ v : ℕ → F, (∃ i, i ≤ p ∧ v i ≠ 0) →
      0 < RCLike.re (∑ i ∈ range (p + 1), ∑ j ∈ range (p + 1),
        star (v i) * (if j ≤ i then r (i - j) else star (r (j - i))) * v j)) :
    levinson r0 T p allow = .ok (levRun r0 T p) := by
  rw [levinson_ok r0 T p allow hp]
  refine ⟨rfl, Or.inr ?_⟩
  intro j _ hj
  have := ((levinson_pd r0 T p h0 hp r hr0 hr hpd).1 j hj).2
  cases hb : reLe0 (levRun r0 T j).P
  · rfl
  · exact absurd ((hre _).mp hb) (not_le.mpr this)

end PD

section Stability
variable {F : Type} [RCLike F]

/-- **stability, every order**: under the hypotheses of `levinson_pd` (positive definite leading
`(p+1)×(p+1)` Hermitian Toeplitz block) every root `z` of the returned prediction polynomial
`A(z) = z^p + a_1 z^{p-1} + … + a_p` (`SchurL.polyA (levRun r0 T p).A z`) lies strictly inside the
unit circle. -/
theorem levinson_stable (r0 : F) (T : List F) (p : ℕ) (h0 : star r0 = r0) (hp : p ≤ T.length)
    (r : ℕ → F) (hr0 : r 0 = r0) (hr : ∀ j, r (j + 1) = nth T j)
    (hpd : ∀ v : ℕ → F, (∃ i, i ≤ p ∧ v i ≠ 0) →
      0 < RCLike.re (∑ i ∈ range (p + 1), ∑ j ∈ range (p + 1),
        star (v i) * (if j ≤ i then r (i - j) else star (r (j - i))) * v j))
    (z : F) (hz : z ^ p + ∑ j ∈ range p, nth (levRun r0 T p).A j * z ^ (p - 1 - j) = 0) :
    ‖z‖ < 1 :=
  SchurL.levRun_root_lt_one r0 T p (levinson_pd r0 T p h0 hp r hr0 hr hpd).2 z hz

/-- **order-1 stability**: for a positive definite `[[r0, conj r1], [r1, r0]]` the root of the
prediction polynomial `z + a_1` lies strictly inside the unit circle. -/
theorem levinson_stable_order1 (r0 : F) (T : List F) (h0 : star r0 = r0) (hT : 1 ≤ T.length)
    (r : ℕ → F) (hr0 : r 0 = r0) (hr : ∀ j, r (j + 1) = nth T j)
    (hpd : ∀ v : ℕ → F, (∃ i, i ≤ 1 ∧ v i ≠ 0) →
      0 < RCLike.re (∑ i ∈ range 2, ∑ j ∈ range 2,
        star (v i) * (if j ≤ i then r (i - j) else star (r (j - i))) * v j))
    (z : F) (hz : z + nth (levRun r0 T 1).A 0 = 0) : ‖z‖ < 1 := by
  apply levinson_stable r0 T 1 h0 hT r hr0 hr hpd z
  rw [Finset.sum_range_one, pow_one, Nat.sub_self, pow_zero, mul_one]
  exact hz

/-- the same with `SchurL.polyA`: no zero on or outside the unit circle -/
theorem levinson_stable_polyA (r0 : F) (T : List F) (p : ℕ) (h0 : star r0 = r0) (hp : p ≤ T.length)
    (r : ℕ → F) (hr0 : r 0 = r0) (hr : ∀ j, r (j + 1) = nth T j)
    (hpd : ∀ v : ℕ → F, (∃ i, i ≤ p ∧ v i ≠ 0) →
      0 < RCLike.re (∑ i ∈ range (p + 1), ∑ j ∈ range (p + 1),
        star (v i) * (if j ≤ i then r (i - j) else star (r (j - i))) * v j))
    (z : F) (hz : 1 ≤ ‖z‖) : SchurL.polyA (levRun r0 T p).A z ≠ 0 := by
  intro h
  rw [SchurL.polyA_eq _ p (levRun_A_length r0 T p)] at h
  exact absurd (levinson_stable r0 T p h0 hp r hr0 hr hpd z h) (not_lt.mpr hz)

/-- **positive stage errors alone give stability** (what `LEVINSON` checks when
`allow_singularity=False`): if `re P_m > 0` for all `m ≤ p`, all roots are strictly inside the unit
circle. -/
theorem levinson_stable_of_pos (r0 : F) (T : List F) (p : ℕ)
    (hpos : ∀ m, m ≤ p → 0 < RCLike.re (levRun r0 T m).P)
    (z : F) (hz : z ^ p + ∑ j ∈ range p, nth (levRun r0 T p).A j * z ^ (p - 1 - j) = 0) :
    ‖z‖ < 1 :=
  SchurL.levRun_root_lt_one r0 T p (levRun_ref_lt_one_of_pos r0 T p hpos) z hz

/-- **minimum phase on the frequency grid**: under the same hypotheses the polynomial
`1 + a_1 w + … + a_p w^p` evaluated by the PSD code has no zero in the closed unit disc, in particular
none on the unit circle `|w| = 1` — the AR spectrum `P / |A(e^{-iω})|²` has no pole. -/
theorem levinson_no_unit_zeros (r0 : F) (T : List F) (p : ℕ) (h0 : star r0 = r0) (hp : p ≤ T.length)
    (r : ℕ → F) (hr0 : r 0 = r0) (hr : ∀ j, r (j + 1) = nth T j)
    (hpd : ∀ v : ℕ → F, (∃ i, i ≤ p ∧ v i ≠ 0) →
      0 < RCLike.re (∑ i ∈ range (p + 1), ∑ j ∈ range (p + 1),
        star (v i) * (if j ≤ i then r (i - j) else star (r (j - i))) * v j))
    (w : F) (hw : ‖w‖ ≤ 1) :
    1 + ∑ j ∈ range p, nth (levRun r0 T p).A j * w ^ (j + 1) ≠ 0 :=
  SchurL.levRun_rev_ne_zero r0 T p (levinson_pd r0 T p h0 hp r hr0 hr hpd).2 w hw

/-- non-vacuity (order 2, real) of `levinson_stable_of_pos`: for `r = [2, 1, 1/5]` the stage errors
are `2, 3/2, 36/25 > 0` (reflection coefficients `-1/2, 1/5`). -/
example : ∀ m, m ≤ 2 → 0 < RCLike.re (levRun (2 : ℝ) [1, 1 / 5] m).P := by
  intro m hm
  obtain rfl | rfl | rfl : m = 0 ∨ m = 1 ∨ m = 2 := by omega
  · simp only [levRun, RCLike.re_to_real]
    norm_num only
  · simp only [levRun, levStep, abs2, conj_eq_star, star_trivial, RCLike.re_to_real, spec_eval,
      spec_eval_proc]
    norm_num only
  · simp only [levRun, levStep, levup, abs2, conj_eq_star, star_trivial, RCLike.re_to_real, spec_eval,
      spec_eval_proc]
    norm_num only

end Stability

/-! ### at the executed scalar type `CRat` (see `Lemmas/CRatField.lean`)

Plain application of the generic theorems; the `rfl` examples check that the `Field`-path elaboration is the
model function the driver runs. -/
section CRatInstantiation

theorem levinson_solves_CRat (r0 : CRat) (T : List CRat) (p : ℕ) (h0 : conj r0 = r0)
    (hp : p ≤ T.length) (hP : ∀ j, j < p → (levRun r0 T j).P ≠ 0)
    (r : ℕ → CRat) (hr0 : r 0 = r0) (hr : ∀ j, r (j + 1) = nth T j)
    (α : ℕ → CRat) (hα0 : α 0 = 1) (hα : ∀ j, α (j + 1) = nth (levRun r0 T p).A j) :
    ∀ i, i ≤ p →
      ∑ j ∈ range (p + 1), (if j ≤ i then r (i - j) else conj (r (j - i))) * α j
        = if i = 0 then (levRun r0 T p).P else 0 :=
  levinson_solves r0 T p h0 hp hP r hr0 hr α hα0 hα

theorem levinson_error_product_CRat (r0 : CRat) (T : List CRat) (p : ℕ) :
    (levRun r0 T p).P
      = r0 * ∏ i ∈ range p, (1 - nth (levRun r0 T p).ref i * conj (nth (levRun r0 T p).ref i)) :=
  levinson_error_product r0 T p

example : (fun (K : Type) [Field K] [StarRing K] => (levRun : K → _)) CRat
    = @levRun CRat CRat.instAdd CRat.instSub CRat.instMul CRat.instDiv CRat.instNeg
        CRat.instOfNatOfNatNat CRat.instOfNatOfNatNat_1 CRat.instConj := rfl
example : @levRun CRat CRat.instAdd CRat.instSub CRat.instMul CRat.instDiv CRat.instNeg
    CRat.instOfNatOfNatNat CRat.instOfNatOfNatNat_1 CRat.instConj = levRun := rfl

end CRatInstantiation

/-! ## `CHOLESKY`: the glue around the LAPACK kernels

`CHOLESKY(A, B)` is three library calls: a factorisation `A = L·Lᴴ` (`cholesky`), `L·y = B` and `Lᴴ·x = y` (two triangular solves,
or `cho_solve`).  The kernels are parameters of the model (their contracts are the three hypotheses); what the function adds is the
ORDER in which they are chained and WHICH factor is conjugate-transposed — and that composition solves the system, for any number of
right-hand sides, over any field with involution. -/

section Cholesky
open Matrix

theorem cholesky_glue {n m : Type} [Fintype n] [Fintype m] {F : Type} [Field F] [StarRing F]
    (A L : Matrix n n F) (B X Y : Matrix n m F)
    (hfac : L * Lᴴ = A) (hfwd : L * Y = B) (hbwd : Lᴴ * X = Y) : A * X = B := by
  rw [← hfac, Matrix.mul_assoc, hbwd, hfwd]

/-- chaining the two solves with the factors the other way round solves the system of `Lᴴ·L`, not of `A = L·Lᴴ` -/
theorem cholesky_glue_wrong_order {n m : Type} [Fintype n] [Fintype m] {F : Type} [Field F] [StarRing F]
    (L : Matrix n n F) (B X Y : Matrix n m F) (hfwd : Lᴴ * Y = B) (hbwd : L * X = Y) : (Lᴴ * L) * X = B := by
  rw [Matrix.mul_assoc, hbwd, hfwd]

/-- the contracts are satisfiable: `A = [[4, 2], [2, 2]]`, `L = [[2, 0], [1, 1]]`, `B = [2, 0]ᵀ`, `y = [1, -1]ᵀ`, `x = [1, -1]ᵀ` -/
example : (!![2, 0; 1, 1] : Matrix (Fin 2) (Fin 2) ℚ) * (!![2, 0; 1, 1] : Matrix (Fin 2) (Fin 2) ℚ)ᴴ = !![4, 2; 2, 2] ∧
    (!![2, 0; 1, 1] : Matrix (Fin 2) (Fin 2) ℚ) * (!![1; -1] : Matrix (Fin 2) (Fin 1) ℚ) = !![2; 0] ∧
    (!![2, 0; 1, 1] : Matrix (Fin 2) (Fin 2) ℚ)ᴴ * (!![1; -1] : Matrix (Fin 2) (Fin 1) ℚ) = !![1; -1] := by
  decide +kernel

end Cholesky

end SpecVerif.C10
