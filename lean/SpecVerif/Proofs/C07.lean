import SpecVerif.Proofs.Lemmas.ObjectF
/-
  C07 — the `Spectrum` object is a correct cache: after any sequence of attribute assignments interleaved
  with explicit computations and reads, reading `psd` returns the estimate of the *final* attribute values
  (what a freshly constructed object with those values returns), `df = sampling / NFFT`, `frequencies()` has
  the length of `psd`, and re-assigning an unchanged value does not alter the result.

  Model reading (`Model/Object.lean`): `cache = some (snap, sd)` means "the stored PSD is the estimate
  computed from attribute snapshot `snap`, stored in representation `sd`"; the estimate is an uninterpreted
  function of the snapshot, so "the PSD read is the one a fresh object with the final attributes returns"
  is `cache = some (s.a, s.sides)` after the read.  `df = rangeSamp / rangeN`.
-/
namespace SpecVerif.C07
open SpecVerif SpecVerif.ObjL

theorem init_inv (a : Attrs) (par : Bool) : ObjInv (objInit a par) := ObjL.init_inv a par

/-- **every** operation preserves the invariant (including the raising branch of `setSides`) -/
theorem step_inv (s : ObjState) (op : ObjOp) (h : ObjInv s) : ObjInv (objStep s op).1 :=
  ObjL.step_inv s op h

theorem run_inv (s : ObjState) (ops : List ObjOp) (h : ObjInv s) : ObjInv (objRun s ops) :=
  ObjL.run_inv s ops h

theorem reachable_inv (a : Attrs) (par : Bool) (ops : List ObjOp) : ObjInv (objRun (objInit a par) ops) :=
  ObjL.run_inv _ ops (ObjL.init_inv a par)

/-- In a reachable state a read of `psd` leaves the object holding the estimate of its (unchanged)
attributes in its `sides` representation, clears `modified`, and does not raise. -/
theorem read_fresh (s : ObjState) (h : ObjInv s) :
    (objStep s .read).1.cache = some ((objStep s .read).1.a, (objStep s .read).1.sides) ∧
    (objStep s .read).1.a = s.a ∧ (objStep s .read).1.modified = false ∧ (objStep s .read).2 = false := by
  rw [read_state s h]
  exact ⟨rfl, rfl, rfl, rfl⟩

/-- After **any** list of operations on a fresh object, reading `psd` gives the estimate of the FINAL
attribute values, stored in the object's final `sides`; the read does not raise. -/
theorem read_after_run_fresh (a : Attrs) (par : Bool) (ops : List ObjOp) :
    let st := objRun (objInit a par) ops
    (objStep st .read).1.cache = some (st.a, (objStep st .read).1.sides) ∧
    (objStep st .read).1.a = st.a ∧ (objStep st .read).2 = false := by
  intro st
  have h := read_fresh st (reachable_inv a par ops)
  refine ⟨?_, h.2.1, h.2.2.2⟩
  rw [h.1, h.2.1]

/-- A freshly constructed object with attributes `a'`, read once and then assigned `sides := sd`
(admissible: not complex-and-one-sided), holds exactly `(a', sd)`; the assignment does not raise. -/
theorem fresh_read_setSides (a' : Attrs) (par : Bool) (sd : Side) (hadm : ¬(a'.cplx = true ∧ sd = .one)) :
    (objRun (objInit a' par) [.read, .setSides (sideArg sd)]).cache = some (a', sd) ∧
    (objRun (objInit a' par) [.read, .setSides (sideArg sd)]).a = a' ∧
    (objRun (objInit a' par) [.read, .setSides (sideArg sd)]).sides = sd ∧
    (objStep (objStep (objInit a' par) .read).1 (.setSides (sideArg sd))).2 = false := by
  -- the first read of a fresh object recomputes; the assignment then meets a current state
  have hread : (objStep (objInit a' par) .read).1 = recompute (objInit a' par) := rfl
  simp only [objRun, List.foldl_cons, List.foldl_nil, hread]
  rw [objStep_setSides, argSide_sideArg]
  simp only [recompute, objInit, Bool.false_eq_true, if_false]
  split
  · rename_i hraise
    exact absurd ⟨hraise.2.1, hraise.2.2⟩ hadm
  · exact ⟨rfl, rfl, rfl, rfl⟩

/-- **same result as a fresh object** (admissible case stated explicitly): reading after any reachable
state `s` exposes the same (snapshot, representation) pair as a fresh object constructed with the final
attributes, read once, and assigned the final side. -/
theorem fresh_eq (s : ObjState) (h : ObjInv s) (par' : Bool)
    (hadm : ¬((objStep s .read).1.a.cplx = true ∧ (objStep s .read).1.sides = .one)) :
    (objRun (objInit (objStep s .read).1.a par') [.read, .setSides (sideArg (objStep s .read).1.sides)]).cache
      = (objStep s .read).1.cache := by
  rw [(fresh_read_setSides _ par' _ hadm).1, (read_fresh s h).1]

/-- the admissibility hypothesis of `fresh_eq` always holds for states reachable from a constructor:
an up-to-date stored PSD of complex data is never one-sided -/
theorem read_side_admissible (a : Attrs) (par : Bool) (ops : List ObjOp) :
    let st := (objStep (objRun (objInit a par) ops) .read).1
    ¬(st.a.cplx = true ∧ st.sides = .one) := by
  intro st
  have hok : SideOk st := step_sideOk _ .read (run_sideOk _ ops (init_sideOk a par))
  have hr := read_fresh _ (reachable_inv a par ops)
  exact hok hr.2.2.1 (by rw [hr.1]; rfl)

/-- **C07, main statement**: for every list of operations, the object read at the end and a fresh object
built from the final attributes (read, then given the final side) hold the same (snapshot, representation)
— no admissibility hypothesis is needed for reachable states. -/
theorem fresh_eq_reachable (a : Attrs) (par par' : Bool) (ops : List ObjOp) :
    let st := (objStep (objRun (objInit a par) ops) .read).1
    (objRun (objInit st.a par') [.read, .setSides (sideArg st.sides)]).cache = st.cache ∧
    (objRun (objInit st.a par') [.read, .setSides (sideArg st.sides)]).a = st.a ∧
    (objRun (objInit st.a par') [.read, .setSides (sideArg st.sides)]).sides = st.sides ∧
    st.a = (objRun (objInit a par) ops).a := by
  intro st
  have hadm := read_side_admissible a par ops
  have hf := fresh_read_setSides st.a par' st.sides hadm
  have hr := read_fresh _ (reachable_inv a par ops)
  exact ⟨by rw [hf.1]; exact hr.1.symm, hf.2.1, hf.2.2.1, hr.2.1⟩

/-- In every reachable state the `Range` axis is built from the current `sampling` and `NFFT`
(`df = rangeSamp / rangeN = sampling / NFFT`). -/
theorem df_eq (a : Attrs) (par : Bool) (ops : List ObjOp) :
    (objRun (objInit a par) ops).rangeSamp = (objRun (objInit a par) ops).a.samp ∧
    (objRun (objInit a par) ops).rangeN = (objRun (objInit a par) ops).a.nfft :=
  have h := reachable_inv a par ops
  ⟨h.2.1, h.1⟩

/-- After a read in a reachable state a PSD is stored, and `frequencies()` has exactly as many entries as
a PSD stored in the cache's representation for `NFFT` points. -/
theorem len_freqs_eq_len_psd (s : ObjState) (h : ObjInv s) :
    (∃ snap sd, (objStep s .read).1.cache = some (snap, sd)) ∧
    ∀ snap sd, (objStep s .read).1.cache = some (snap, sd) →
      freqLen (objStep s .read).1 = psdLen sd (objStep s .read).1.a.nfft := by
  have hr := read_fresh s h
  have hi := ObjL.step_inv s .read h
  refine ⟨⟨_, _, hr.1⟩, ?_⟩
  intro snap sd hc
  have := hi.2.2 hr.2.2.1 snap sd hc
  rw [freqLen, psdLen, hi.1, this.2]

/-- the same, at the end of any run from a constructor -/
theorem len_freqs_eq_len_psd_run (a : Attrs) (par : Bool) (ops : List ObjOp) (snap : Attrs) (sd : Side)
    (hc : (objRun (objInit a par) (ops ++ [.read])).cache = some (snap, sd)) :
    freqLen (objRun (objInit a par) (ops ++ [.read])) =
      psdLen sd (objRun (objInit a par) (ops ++ [.read])).a.nfft := by
  rw [objRun_append] at *
  exact (len_freqs_eq_len_psd _ (reachable_inv a par ops)).2 snap sd hc

/-- the common length, explicitly: `NFFT/2 + 1` (even) or `(NFFT+1)/2` (odd) one-sided, `NFFT` otherwise -/
theorem psdLen_value (sd : Side) (n : Nat) :
    psdLen sd n = match sd with
      | .one => if n % 2 = 0 then n / 2 + 1 else (n + 1) / 2
      | .two => n
      | .center => n := by
  cases sd <;> simp [psdLen, rangeBins]

/-- In a reachable state with a stored PSD, `sides = arg` first brings the estimate up to date (`s1`) and raises iff that
state's side differs from the target, the data is complex and the target is one-sided.  Either way what is stored
afterwards is the estimate of the current attributes — NEVER a stale snapshot, even when `modified` was set before. -/
theorem setSides_effect (s : ObjState) (h : ObjInv s) (hc : s.cache.isSome = true) (arg : SideArg) :
    let tgt := argSide arg s.a.cplx
    let s1 := if s.modified then recompute s else s
    let r := objStep s (.setSides arg)
    (r.2 = true ↔ (s1.sides ≠ tgt ∧ s.a.cplx = true ∧ tgt = .one)) ∧
    (r.2 = false → r.1.sides = tgt ∧ r.1.modified = false ∧ r.1.cache = some (s.a, tgt) ∧ r.1.a = s.a) ∧
    (r.2 = true → r.1 = s1 ∧ r.1.cache = some (s.a, s1.sides) ∧ r.1.modified = false) := by
  intro tgt s1 r
  simp only [r, s1, tgt]
  rw [objStep_setSides]
  rcases s with ⟨a, sides, cache, modified, rn, rs, par⟩
  generalize argSide arg a.cplx = tgt
  rcases cache with _ | ⟨snap, sd⟩
  · cases hc
  · cases modified
    · -- a current state: the invariant pins the stored pair to `(a, sides)`
      obtain ⟨rfl, rfl⟩ := h.2.2 rfl snap sd rfl
      simp only [Bool.false_eq_true, if_false]
      split
      · rename_i hraise
        exact ⟨⟨fun _ => hraise, fun _ => rfl⟩, fun hf => absurd hf.symm Bool.false_ne_true, fun _ => ⟨rfl, rfl, rfl⟩⟩
      · rename_i hno
        exact ⟨⟨fun hf => absurd hf Bool.false_ne_true, fun hr => absurd hr hno⟩, fun _ => ⟨rfl, rfl, rfl, rfl⟩,
          fun hf => absurd hf Bool.false_ne_true⟩
    · -- not current: recomputed first, the stored pair is `(a, defaultSide a.cplx)` by definition of `recompute`
      simp only [if_true]
      split
      · rename_i hraise
        exact ⟨⟨fun _ => hraise, fun _ => rfl⟩, fun hf => absurd hf.symm Bool.false_ne_true, fun _ => ⟨rfl, rfl, rfl⟩⟩
      · rename_i hno
        exact ⟨⟨fun hf => absurd hf Bool.false_ne_true, fun hr => absurd hr hno⟩, fun _ => ⟨rfl, rfl, rfl, rfl⟩,
          fun hf => absurd hf Bool.false_ne_true⟩

/-- with no PSD stored yet the setter just records the side and clears `modified`; it never raises -/
theorem setSides_no_cache (s : ObjState) (hc : s.cache = none) (arg : SideArg) :
    objStep s (.setSides arg) = ({ s with sides := argSide arg s.a.cplx, modified := false }, false) := by
  rw [objStep_setSides, hc]

/-- GUARDED setters: assigning the value the attribute already has leaves the whole state unchanged
(`lag` is guarded only for Fourier-type objects). -/
theorem reassign_noop (s : ObjState) :
    (objStep s (.setNfft s.a.nfft)).1 = s ∧
    (objStep s (.setSamp s.a.samp)).1 = s ∧
    (objStep s (.setDetrend s.a.detrend)).1 = s ∧
    (objStep s (.setScale s.a.scale)).1 = s ∧
    (objStep s (.setWindow s.a.window)).1 = s ∧
    (s.parametric = false → (objStep s (.setLag s.a.lag)).1 = s) := by
  -- each guarded setter tests `current value = new value` first
  refine ⟨if_pos rfl, if_pos rfl, if_pos rfl, if_pos rfl, if_pos rfl, fun hp => ?_⟩
  show (if (!s.parametric && decide (s.a.lag = s.a.lag)) = true then s else _) = s
  rw [hp, decide_eq_true rfl]
  rfl

/-- `NFFT = None` / `'nextpow2'` when they resolve to the current value are no-ops as well -/
theorem reassign_noop_nfft_resolved (s : ObjState) :
    (s.a.nfft = s.a.N → (objStep s .setNfftNone).1 = s) ∧
    (s.a.nfft = nextPow2 s.a.N → (objStep s .setNfftPow2).1 = s) := by
  constructor <;> intro h <;> simp [objStep, applyNfft, h]

/-- UNGUARDED setters (`data` with the same identity/complexity/length, `ar_order`, `ma_order`, `lag` of a
parametric object): the attributes are unchanged but `modified` is set, so the next read recomputes: it
returns the estimate of the SAME snapshot `s.a`, with the representation reset to the default side. -/
theorem reassign_unguarded (s : ObjState) (op : ObjOp)
    (hop : op = .setData s.a.dataId s.a.cplx s.a.N ∨ op = .setArOrder s.a.arOrder ∨
           op = .setMaOrder s.a.maOrder ∨ (op = .setLag s.a.lag ∧ s.parametric = true)) :
    (objStep s op).1.a = s.a ∧ (objStep s op).2 = false ∧
    ((objStep (objStep s op).1 .read).1.cache).map Prod.fst = some s.a ∧
    (objStep (objStep s op).1 .read).1.cache = some (s.a, defaultSide s.a.cplx) ∧
    (objStep (objStep s op).1 .read).1.sides = defaultSide s.a.cplx := by
  have key : objStep s op = ({ s with modified := true }, false) := by
    rcases hop with rfl | rfl | rfl | ⟨rfl, hp⟩
    · rfl
    · rfl
    · rfl
    · simp only [objStep, hp]
      rfl
  rw [key, read_of_modified _ rfl]
  exact ⟨rfl, rfl, rfl, rfl, rfl⟩

/-- `sides` re-assigned (any state with the invariant, even `modified`, even if the setter raises): the
attributes are unchanged and the next read returns the estimate of the same snapshot `s.a` (the
representation may have been reset to the default side by the recomputation). -/
theorem reassign_sides_snapshot (s : ObjState) (h : ObjInv s) (arg : SideArg) :
    (objStep s (.setSides arg)).1.a = s.a ∧
    ((objStep (objStep s (.setSides arg)).1 .read).1.cache).map Prod.fst = some s.a := by
  have ha := setSides_attrs s arg
  have hr := read_fresh _ (ObjL.step_inv s (.setSides arg) h)
  refine ⟨ha, ?_⟩
  rw [hr.1, hr.2.1, ha]
  rfl

/-- `sides` re-assigned to the current side in a reachable state that is not `modified`: the state is
unchanged and nothing is raised (with or without a stored PSD). -/
theorem reassign_sides_noop (s : ObjState) (h : ObjInv s) (hm : s.modified = false) (arg : SideArg)
    (harg : argSide arg s.a.cplx = s.sides) :
    objStep s (.setSides arg) = (s, false) := by
  rw [objStep_setSides, harg]
  rcases s with ⟨a, sides, cache, modified, rn, rs, par⟩
  simp only at hm
  subst hm
  rcases cache with _ | ⟨snap, sd⟩
  · rfl
  · have := h.2.2 rfl snap sd rfl
    simp only at this
    simp [this.1, this.2]

/-- Assigning a different NFFT resets `sides` to the default side, marks the object modified and rebuilds
the `Range` axis; everything else (in particular the stale cache) is kept. -/
theorem nfft_resets_sides (s : ObjState) (n : Nat) (hne : s.a.nfft ≠ n) :
    (applyNfft s n).sides = defaultSide s.a.cplx ∧ (applyNfft s n).modified = true ∧
    (applyNfft s n).rangeN = n ∧ (applyNfft s n).a = { s.a with nfft := n } ∧
    (applyNfft s n).cache = s.cache ∧ (applyNfft s n).rangeSamp = s.rangeSamp := by
  simp [applyNfft, hne]

/-- `nextPow2 n` is a power of two, it is the least one `≥ n` (minimality holds for every `n`), and it is
`≥ n` whenever `n ≤ 2^64` (the fuel of the model). -/
theorem nextPow2_spec (n : Nat) :
    (∃ j, nextPow2 n = 2 ^ j ∧ ∀ i, n ≤ 2 ^ i → j ≤ i) ∧ (n ≤ 2 ^ 64 → n ≤ nextPow2 n) := by
  obtain ⟨j, hj, _, hmin, hge⟩ := nextPow2_go_spec n 64 0
  refine ⟨⟨j, hj, fun i hi => ?_⟩, fun h => Nat.le_trans (hge h) (Nat.le_of_eq hj.symm)⟩
  apply Nat.le_of_not_lt
  intro hlt
  exact absurd hi (Nat.not_le.mpr (hmin i (Nat.zero_le _) hlt))

/-! Estimators that can fail (`Model/ObjectF.lean`).  `ok a = false`: the estimator raises for the attribute snapshot
`a`.  The clause of C07 at stake: a read after a FAILED computation must not hand out the stored array of the previous
attributes — it has to behave like a fresh object with the same final attribute values, i.e. raise again. -/

/-- with an estimator that never fails `objStepF` is `objStep` -/
theorem objStepF_total (ok : Attrs → Bool) (hok : ∀ a, ok a = true) (s : ObjState) (op : ObjOp) :
    objStepF ok s op = objStep s op :=
  objStepF_of_ok ok s op fun _ => hok s.a

theorem reachableF_inv (ok : Attrs → Bool) (a : Attrs) (par : Bool) (ops : List ObjOp) :
    ObjInvF ok (objRunF ok (objInit a par) ops) :=
  runF_inv ok _ ops (initF_inv ok a par)

/-- In a reachable state a read of `psd` raises **iff** the estimator fails for the CURRENT attribute values —
never because of, and never in spite of, what is stored. -/
theorem readF_raises_iff (ok : Attrs → Bool) (s : ObjState) (h : ObjInvF ok s) :
    (objStepF ok s .read).2 = true ↔ ok s.a = false := by
  cases hk : ok s.a
  · rw [objStepF_of_fail ok s .read (read_recomputes_of_fail ok s h hk) hk]
    exact ⟨fun _ => rfl, fun _ => rfl⟩
  · rw [objStepF_of_ok ok s .read fun _ => hk]
    simp [objStep]

/-- a read that raises changes nothing at all: the object is still marked `modified` (or still has no PSD) -/
theorem readF_fail_unchanged (ok : Attrs → Bool) (s : ObjState) (hr : (objStepF ok s .read).2 = true) :
    (objStepF ok s .read).1 = s := by
  rw [objStepF_eq] at hr ⊢
  split
  · rfl
  · rw [if_neg ‹_›] at hr
    cases hr

/-- a read that returns leaves the estimate of the CURRENT attributes in the object's `sides` -/
theorem readF_ok_fresh (ok : Attrs → Bool) (s : ObjState) (h : ObjInvF ok s) (hok : ok s.a = true) :
    (objStepF ok s .read).2 = false ∧
    (objStepF ok s .read).1.cache = some (s.a, (objStepF ok s .read).1.sides) ∧
    (objStepF ok s .read).1.a = s.a ∧ (objStepF ok s .read).1.modified = false := by
  rw [objStepF_of_ok ok s .read fun _ => hok]
  have hr := read_fresh s h.1
  exact ⟨hr.2.2.2, by rw [hr.1, hr.2.1], hr.2.1, hr.2.2.1⟩

/-- **a failed read is not forgotten**: after a read that raised, every further read (any number of them, nothing assigned in
between) raises as well — the stored array of the previous attribute values is never returned. -/
theorem readF_fail_again (ok : Attrs → Bool) (s : ObjState) (hr : (objStepF ok s .read).2 = true) (n : Nat) :
    objRunF ok s (List.replicate n .read) = s ∧
    (objStepF ok (objRunF ok s (List.replicate n .read)) .read).2 = true := by
  induction n with
  | zero => exact ⟨rfl, hr⟩
  | succ n ih =>
    have : objRunF ok s (List.replicate (n + 1) .read) = s := by
      rw [List.replicate_succ, objRunF, List.foldl_cons, readF_fail_unchanged ok s hr]
      exact ih.1
    exact ⟨this, by rw [this]; exact hr⟩

/-- an explicit computation raises iff the estimator fails for the current attributes, and then changes nothing -/
theorem callF_effect (ok : Attrs → Bool) (s : ObjState) :
    ((objStepF ok s .call).2 = true ↔ ok s.a = false) ∧
    ((objStepF ok s .call).2 = true → (objStepF ok s .call).1 = s) ∧
    ((objStepF ok s .call).2 = false → (objStepF ok s .call).1 = recompute s) := by
  cases hk : ok s.a <;> simp [objStepF, recomputeF, hk]

/-- `sides = …` on an object whose stored PSD is not current and whose estimator fails: it raises and assigns nothing
(neither the side nor the `modified` flag), so the stale array is still recognisably stale. -/
theorem setSidesF_fail_unchanged (ok : Attrs → Bool) (s : ObjState) (arg : SideArg)
    (hc : s.cache.isSome = true) (hm : s.modified = true) (hk : ok s.a = false) :
    objStepF ok s (.setSides arg) = (s, true) :=
  objStepF_of_fail ok s _ (by rw [recomputes, hc, hm]; rfl) hk

/-- a fresh object raises on its first read iff the estimator fails for its attributes -/
theorem freshF_raises_iff (ok : Attrs → Bool) (a : Attrs) (par : Bool) :
    (objStepF ok (objInit a par) .read).2 = true ↔ ok a = false :=
  readF_raises_iff ok _ (initF_inv ok a par)

/-- **C07 with failing computations, main statement.**  After ANY list of operations (some of which may have raised),
reading `psd` behaves like a freshly constructed object with the same final attribute values: it raises iff the fresh
object raises, and when both return, both hold the estimate of those final attribute values. -/
theorem freshF_eq_reachable (ok : Attrs → Bool) (a : Attrs) (par par' : Bool) (ops : List ObjOp) :
    let st := objRunF ok (objInit a par) ops
    ((objStepF ok st .read).2 = (objStepF ok (objInit st.a par') .read).2) ∧
    ((objStepF ok st .read).2 = false →
       (objStepF ok st .read).1.cache = some (st.a, (objStepF ok st .read).1.sides) ∧
       (objStepF ok (objInit st.a par') .read).1.cache =
         some (st.a, (objStepF ok (objInit st.a par') .read).1.sides)) := by
  intro st
  have hinv := reachableF_inv ok a par ops
  have h1 := readF_raises_iff ok st hinv
  have h2 := freshF_raises_iff ok st.a par'
  refine ⟨Bool.eq_iff_iff.mpr (h1.trans h2.symm), fun hret => ?_⟩
  have hk : ok st.a = true := by
    rw [← Bool.not_eq_false, ← h1, hret]
    exact Bool.false_ne_true
  exact ⟨(readF_ok_fresh ok st hinv hk).2.1,
         (readF_ok_fresh ok (objInit st.a par') (initF_inv ok st.a par') hk).2.1⟩

/-- the history of the seeded change C07-m7: compute, enlarge NFFT, assign a record that is too short (here: the estimator
needs `N ≥ 8`), read (raises), read again: raises again, nothing is stored for the new attributes, the old PSD is still
marked stale -/
example :
    let ok : Attrs → Bool := fun a => decide (8 ≤ a.N)
    let a0 : Attrs := ⟨1, false, 64, 64, 1, 0, false, 0, 0, 4, 8⟩
    let st := objRunF ok (objInit a0 true) [.read, .setNfft 128, .setData 2 false 5, .read]
    (objStepF ok st .read).2 = true ∧ st.modified = true ∧ st.cache = some (a0, Side.one) ∧
      (objStepF ok st (.setSides .two)).2 = true ∧ (objStepF ok st (.setSides .two)).1.modified = true := by
  decide

/-- a concrete run: compute, change an attribute, then assign `sides`
without reading — the cache is the estimate of the NEW attributes in the requested representation -/
example :
    let a0 : Attrs := ⟨7, false, 100, 128, 2, 1, true, 3, 10, 4, 0⟩
    let st := objRun (objInit a0 false) [.call, .setSamp 5, .setNfftPow2, .setSides .center]
    st.cache = some ({ a0 with samp := 5 }, Side.center) ∧ st.modified = false ∧ st.rangeSamp = 5 ∧
      st.rangeN = 128 := by
  decide

/-- complex data: the one-sided request raises and leaves an up-to-date two-sided estimate -/
example :
    let a0 : Attrs := ⟨7, true, 100, 128, 2, 1, true, 3, 10, 4, 0⟩
    let st := objRun (objInit a0 true) [.read, .setArOrder 9]
    (objStep st (.setSides .one)).2 = true ∧
      (objStep st (.setSides .one)).1.cache = some ({ a0 with arOrder := 9 }, Side.two) := by
  decide

example : nextPow2 100 = 128 ∧ nextPow2 128 = 128 ∧ nextPow2 1 = 1 ∧ nextPow2 0 = 1 := by decide

end SpecVerif.C07
