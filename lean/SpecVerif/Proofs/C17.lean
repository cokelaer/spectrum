import SpecVerif.Proofs.Lemmas.EigenOnly
/-
  C17 — MUSIC / EV pseudo-spectra (`eigenfre.py`: `eigen`, `pmusic`, `pev`).

  `F` is a field with involution (`ℂ`), `ω` an `NFFT`-th root of unity with `star ω = ω⁻¹` (numpy's
  `e^{-2πi/NFFT}`).  `numpy.linalg.svd` is a parameter of the model: `cols` (column `i` = the code's
  `V[0:P, i]`, i.e. entry `K` is `-star (v_i K)` for the `i`-th right singular vector `v_i`) and the
  singular values `S` are inputs; the SVD contract "`FB · v_i = 0` for the noise vectors" is a hypothesis.
  The noiseless signal is `tones N T c z = [Σ_{m<T} c_m z_m^n | n < N]`.

  Full informal claim (NOT proved at full strength): "the K largest local maxima of the MUSIC / EV
  pseudo-spectra lie at the true frequencies to within one bin of the NFFT grid, and the pseudo-spectrum
  is finite wherever the noise-subspace projection does not vanish".
  Proved: for every tone lying ON the grid (`z_m = ω^{-b}`, signed frequency bin `b`), the entry of
  `eigen(...)[0]` at index `h + b` (the entry whose centre-DC frequency is `b`) is `1 / d` with `d = 0`,
  i.e. a pole of the pseudo-spectrum — numerically the value `1/ε`; and, when the noise vectors span the null
  space of `FB`, the denominator vanishes at NO other grid point and is a positive real there (`pole_iff_tone`,
  `peaks_exactly_at_true_frequencies`).  Not covered: tones between grid points (needs an analytic bound on
  the denominator near its zero) and a quantitative floating-point bound.
-/
namespace SpecVerif.C17
open Finset SpecVerif SpecVerif.EigenL

section Star
variable {F : Type} [Field F] [StarRing F]

theorem fb_shape (x : List F) (P : ℕ) :
    (fbMatrix x P).length = 2 * fbNP x.length P ∧ ∀ r ∈ fbMatrix x P, r.length = P := by
  refine ⟨vec_length _ _, ?_⟩
  intro r hr
  obtain ⟨i, _, rfl⟩ := List.mem_map.mp hr
  split_ifs
  · exact vec_length _ _
  · exact vec_length _ _

/-- no read of `FB` falls into `nth`'s zero padding -/
theorem fb_entry (x : List F) (P I K : ℕ) (hI : I < fbNP x.length P) (hK : K < P) :
    (I + P - 1 - K < x.length ∧ mentryM (fbMatrix x P) I K = nth x (I + P - 1 - K)) ∧
    (I + K + 1 < x.length ∧
      mentryM (fbMatrix x P) (fbNP x.length P + I) K = star (nth x (I + K + 1))) :=
  have hNP := fbNP_le x.length P
  ⟨⟨by omega, fb_entry_fwd x P I K hI hK⟩, ⟨by omega, fb_entry_bwd x P I K hI hK⟩⟩

example : mentryM (fbMatrix ([1, 2, 3, 4, 5] : List ℂ) 2) 1 1 = 2
    ∧ mentryM (fbMatrix ([1, 2, 3, 4, 5] : List ℂ) 2) 4 1 = star 4 := by
  have h : (1 : ℕ) < fbNP ([1, 2, 3, 4, 5] : List ℂ).length 2 := by decide
  obtain ⟨⟨_, h1⟩, ⟨_, h2⟩⟩ := fb_entry ([1, 2, 3, 4, 5] : List ℂ) 2 1 1 h (by decide)
  have e : fbNP ([1, 2, 3, 4, 5] : List ℂ).length 2 + 1 = 4 := by decide
  rw [e] at h2
  exact ⟨by rw [h1]; simp [nth], by rw [h2]; simp [nth]⟩

theorem fb_row_tone (N P T I K : ℕ) (c z : ℕ → F) (hz : ∀ m, m < T → z m ≠ 0)
    (hI : I < fbNP N P) (hK : K < P) :
    mentryM (fbMatrix (tones N T c z) P) I K
      = ∑ m ∈ range T, c m * z m ^ (I + P - 1) * (z m)⁻¹ ^ K :=
  fb_entry_tone_fwd N P T I K c z hz hI hK

/-- **Vandermonde step**: a vector annihilated by the first `T` forward rows of `FB` (`T ≤ NP`; `T`
    distinct non-zero nodes with non-zero amplitudes) satisfies `Σ_K v_K z_m^{-K} = 0` at every tone. -/
theorem null_vector_vanishes (N P T : ℕ) (c z v : ℕ → F)
    (hz0 : ∀ m, m < T → z m ≠ 0) (hc : ∀ m, m < T → c m ≠ 0)
    (hzinj : ∀ m m', m < T → m' < T → z m = z m' → m = m')
    (hNP : T ≤ fbNP N P)
    (hnull : ∀ I, I < T →
      ∑ K ∈ range P, mentryM (fbMatrix (tones N T c z) P) I K * v K = 0) :
    ∀ m, m < T → ∑ K ∈ range P, v K * (z m)⁻¹ ^ K = 0 := by
  intro m hm
  rcases Nat.eq_zero_or_pos P with hP | hP
  · subst hP; simp
  have key := amplitudes_zero_range z
    (fun m => c m * z m ^ (P - 1) * ∑ K ∈ range P, v K * (z m)⁻¹ ^ K) hzinj (by
      intro I hI
      rw [← hnull I hI, fb_fwd_dot N P T I c z v hz0 (by omega)]
      apply Finset.sum_congr rfl
      intro m _
      rw [show I + P - 1 = (P - 1) + I by omega, pow_add]
      ring) m hm
  rcases mul_eq_zero.mp key with h | h
  · exact absurd h (mul_ne_zero (hc m hm) (pow_ne_zero _ (hz0 m hm)))
  · exact h

/-- **converse (rank ≤ T)**: a vector with `Σ_K v_K z_m^{-K} = 0` at all `T` tones is annihilated by every
    forward row of `FB`, and by every backward row when the nodes have unit modulus. -/
theorem tone_null_space (N P T : ℕ) (c z v : ℕ → F) (hz0 : ∀ m, m < T → z m ≠ 0)
    (hv : ∀ m, m < T → ∑ K ∈ range P, v K * (z m)⁻¹ ^ K = 0) (I : ℕ) (hI : I < fbNP N P) :
    ∑ K ∈ range P, mentryM (fbMatrix (tones N T c z) P) I K * v K = 0 ∧
    ((∀ m, m < T → star (z m) = (z m)⁻¹) →
      ∑ K ∈ range P, mentryM (fbMatrix (tones N T c z) P) (fbNP N P + I) K * v K = 0) := by
  constructor
  · rw [fb_fwd_dot N P T I c z v hz0 hI]
    apply Finset.sum_eq_zero
    intro m hm
    rw [hv m (mem_range.mp hm), mul_zero]
  · intro hunit
    rw [fb_bwd_dot N P T I c z v hunit hI]
    apply Finset.sum_eq_zero
    intro m hm
    rw [hv m (mem_range.mp hm), mul_zero]

/-- **the null space of the forward rows of `FB` is exactly the orthogonal complement of the `T` tone
    vectors** `(z_m^{-K})_K` (for `T ≤ NP`; informally: rank `T`). -/
theorem fb_kernel_iff (N P T : ℕ) (c z v : ℕ → F)
    (hz0 : ∀ m, m < T → z m ≠ 0) (hc : ∀ m, m < T → c m ≠ 0)
    (hzinj : ∀ m m', m < T → m' < T → z m = z m' → m = m') (hNP : T ≤ fbNP N P) :
    (∀ I, I < fbNP N P → ∑ K ∈ range P, mentryM (fbMatrix (tones N T c z) P) I K * v K = 0)
      ↔ (∀ m, m < T → ∑ K ∈ range P, v K * (z m)⁻¹ ^ K = 0) := by
  constructor
  · intro h
    exact null_vector_vanishes N P T c z v hz0 hc hzinj hNP (fun I hI => h I (by omega))
  · intro h I hI
    exact (tone_null_space N P T c z v hz0 h I hI).1

theorem noise_term_vanishes_at_tone {ω : F} {nfft P : ℕ} (hn : 0 < nfft) (hω : ω ^ nfft = 1)
    (hstar : star ω = ω⁻¹) (hP : P ≤ nfft) (v : ℕ → F) (zt : F) (k : ℕ) (hk : ω ^ k = zt)
    (hv : ∑ K ∈ range P, v K * zt⁻¹ ^ K = 0) :
    dftBin (twiddles ω nfft) nfft (vec P (fun K => -star (v K))) k = 0 := by
  rw [dftBin_neg_star_col hn hω hstar hP, hk, hv, star_zero, neg_zero]

theorem music_null_at_tone {ω : F} {nfft P : ℕ} (hn : 0 < nfft) (hω : ω ^ nfft = 1)
    (hstar : star ω = ω⁻¹) (hP : P ≤ nfft) (cols : List (List F)) (S : List F) (nsig : ℕ)
    (ev : Bool) (v : ℕ → ℕ → F) (zt : F) (k : ℕ) (hk : ω ^ k = zt)
    (hcols : ∀ i, nsig ≤ i → i < P → cols.getD i [] = vec P (fun K => -star (v i K)))
    (hv : ∀ i, nsig ≤ i → i < P → ∑ K ∈ range P, v i K * zt⁻¹ ^ K = 0) :
    eigenDenom (twiddles ω nfft) cols S nsig P nfft ev k = 0 := by
  apply eigenDenom_eq_zero
  intro i h1 h2
  rw [hcols i h1 h2]
  exact noise_term_vanishes_at_tone hn hω hstar hP (v i) zt k hk (hv i h1 h2)

/-- **poles at the true frequencies** (MUSIC and EV, before reordering): noiseless sum of `T` distinct
    non-zero tones with non-zero amplitudes, `T ≤ NP`, the noise columns `i ∈ [nsig, P)` come from right
    singular vectors `v_i` with `FB · v_i = 0` (SVD contract; only the first `T` forward rows are used);
    then at every tone `z_m` lying on the grid (`ω^k = z_m`) the denominator vanishes. -/
theorem denominator_vanishes_at_tones {ω : F} {nfft P : ℕ} (hn : 0 < nfft) (hω : ω ^ nfft = 1)
    (hstar : star ω = ω⁻¹) (hP : P ≤ nfft) (N T : ℕ) (c z : ℕ → F)
    (hz0 : ∀ m, m < T → z m ≠ 0) (hc : ∀ m, m < T → c m ≠ 0)
    (hzinj : ∀ m m', m < T → m' < T → z m = z m' → m = m') (hNP : T ≤ fbNP N P)
    (cols : List (List F)) (S : List F) (nsig : ℕ) (ev : Bool) (v : ℕ → ℕ → F)
    (hcols : ∀ i, nsig ≤ i → i < P → cols.getD i [] = vec P (fun K => -star (v i K)))
    (hsvd : ∀ i, nsig ≤ i → i < P → ∀ I, I < T →
      ∑ K ∈ range P, mentryM (fbMatrix (tones N T c z) P) I K * v i K = 0)
    (m : ℕ) (hm : m < T) (k : ℕ) (hk : ω ^ k = z m) :
    eigenDenom (twiddles ω nfft) cols S nsig P nfft ev k = 0 :=
  music_null_at_tone hn hω hstar hP cols S nsig ev v (z m) k hk hcols (fun i h1 h2 =>
    null_vector_vanishes N P T c z (v i) hz0 hc hzinj hNP (hsvd i h1 h2) m hm)

/-- non-vacuity: one tone `x_n = (-1)^n`, `N = 5`, `P = 2`, `NFFT = 2`, `ω = -1`, `NSIG = 1`, noise
    singular vector `(1,1)` (so the noise column is `(-1,-1)`) -/
example : eigenDenom (twiddles (-1 : ℂ) 2) [[], [-1, -1]] [2, 0] 1 2 2 false 1 = 0 := by
  refine denominator_vanishes_at_tones (ω := (-1 : ℂ)) (nfft := 2) (P := 2) (by norm_num)
    (by norm_num) (by simp) (le_refl _) 5 1 (fun _ => 1) (fun _ => -1)
    (by intro m _; norm_num) (by intro m _; norm_num) (by intro m m' h h' _; omega) (by decide)
    _ _ 1 false (fun _ _ => 1) EigenOnlyL.tone_example_cols (fun _ _ _ => EigenOnlyL.tone_example_svd)
    0 (by norm_num) 1 (by norm_num)

end Star

section Idx
variable {F : Type} [Field F]

/-- the FFT bin at which a tone of signed frequency bin `b` (`z = ω^{-b} = e^{2πi b/NFFT}`) makes the
    denominator vanish -/
def fftBinOf (nfft : ℕ) (b : Int) : ℕ := (((nfft : Int) - b) % (nfft : Int)).toNat

theorem fftBinOf_eq_binIdx (nfft : ℕ) (b : Int) : fftBinOf nfft b = binIdx nfft ((nfft : Int) - b) := rfl

theorem fftBinOf_lt {nfft : ℕ} (hn : 0 < nfft) (b : Int) : fftBinOf nfft b < nfft := by
  rw [fftBinOf_eq_binIdx]
  exact binIdx_lt hn _

theorem fftBinOf_spec {ω : F} {nfft : ℕ} (hn : 0 < nfft) (hω : ω ^ nfft = 1) (b : Int) :
    fftBinOf nfft b < nfft ∧ ω ^ fftBinOf nfft b = ω ^ (-b) := by
  refine ⟨fftBinOf_lt hn b, ?_⟩
  have hω0 : ω ≠ 0 := ne_zero_of_pow_eq_one hn hω
  have hr0 : 0 ≤ ((nfft : Int) - b) % (nfft : Int) := Int.emod_nonneg _ (by omega)
  rw [fftBinOf, ← zpow_natCast, Int.toNat_of_nonneg hr0, Int.emod_def, zpow_sub₀ hω0, zpow_sub₀ hω0,
    zpow_mul, zpow_natCast, hω, one_zpow, div_one, one_div, zpow_neg]

theorem eigenReorder_entry (psd : List F) (nfft j : ℕ) (hj : j < nfft) :
    (eigenReorder psd nfft).length = nfft ∧
    nth (eigenReorder psd nfft) j
      = nth psd (if j ≤ nfft / 2 then nfft / 2 - j else nfft + nfft / 2 - j) :=
  ⟨eigenReorder_length psd nfft, nth_eigenReorder psd nfft j hj⟩

/-- function output: the value computed at the FFT bin of signed frequency bin `b`
    (`-h ≤ b < NFFT - h`) is returned at index `h + b` — the entry whose centre-DC frequency is `b` -/
theorem tone_index_function (psd : List F) (nfft : ℕ) (b : Int)
    (h1 : -((nfft / 2 : ℕ) : Int) ≤ b) (h2 : b < (nfft : Int) - ((nfft / 2 : ℕ) : Int)) :
    (((nfft / 2 : ℕ) : Int) + b).toNat < nfft ∧
    nth (eigenReorder psd nfft) (((nfft / 2 : ℕ) : Int) + b).toNat = nth psd (fftBinOf nfft b) := by
  have hj : (((nfft / 2 : ℕ) : Int) + b).toNat < nfft := by omega
  have hb : b = (((((nfft / 2 : ℕ) : Int) + b).toNat : ℕ) : Int) - ((nfft / 2 : ℕ) : Int) := by
    omega
  refine ⟨hj, ?_⟩
  rw [eigenReorder_eq_repCenter, repCenter, nth_vec, if_pos hj, ← binIdx_center, ← hb, fftBinOf,
    sub_emod_toNat (by omega), revSpec]

theorem eigenPsd_entry [StarRing F] (tw : List F) (cols : List (List F)) (S : List F) (nsig P nfft : ℕ)
    (ev : Bool) (b : Int)
    (h1 : -((nfft / 2 : ℕ) : Int) ≤ b) (h2 : b < (nfft : Int) - ((nfft / 2 : ℕ) : Int)) :
    nth (eigenPsd tw cols S nsig P nfft ev) (((nfft / 2 : ℕ) : Int) + b).toNat
      = 1 / eigenDenom tw cols S nsig P nfft ev (fftBinOf nfft b) := by
  unfold eigenPsd
  rw [(tone_index_function _ nfft b h1 h2).2, nth_vec, if_pos (fftBinOf_lt (by omega) b)]

theorem eigenClassFold_complex (psd : List F) (nfft : ℕ) :
    eigenClassFold psd false nfft = ifftshift psd ∧
    (psd.length = nfft → ∀ i, i < nfft →
      nth (eigenClassFold psd false nfft) i = nth psd ((i + nfft / 2) % nfft)) := by
  have e : eigenClassFold psd false nfft = ifftshift psd := by simp [eigenClassFold]
  refine ⟨e, ?_⟩
  intro hlen i hi
  subst hlen
  rw [e, nth_ifftshift psd i hi]

/-- complex data, class output of the function output: the value of the FFT bin of signed bin `b`
    (any integer) is at index `b mod NFFT` — the entry whose two-sided frequency is that of bin `b` -/
theorem tone_index_class_complex (psd : List F) (nfft : ℕ) (hn : 0 < nfft) (b : Int) :
    binIdx nfft b < nfft ∧
    nth (eigenClassFold (eigenReorder psd nfft) false nfft) (binIdx nfft b)
      = nth psd (fftBinOf nfft b) := by
  have hi := binIdx_lt hn b
  refine ⟨hi, ?_⟩
  rw [nth_classFold_reorder_complex psd nfft _ hi, fftBinOf, sub_emod_toNat hn]

/-- real data (either parity: the model's parity `if` collapses to `NFFT/2 + 1`) -/
theorem eigenClassFold_real (psd : List F) (nfft j : ℕ) (hj : j ≤ nfft / 2) :
    (eigenClassFold psd true nfft).length = nfft / 2 + 1 ∧
    nth (eigenClassFold psd true nfft) j = 2 * nth psd (nfft / 2 - j) :=
  ⟨classFold_real_length psd nfft, nth_classFold_real psd nfft j hj⟩

/-- real data, class output of the function output: entry `j ≤ h` is twice the value at FFT bin `j`,
    which is the FFT bin of the signed bin `-j`: a real sinusoid of frequency bin `j` contains both tones
    `ω^{∓j}`, so the pole of its negative-frequency tone is reported at one-sided index `j`. -/
theorem tone_index_class_real (psd : List F) (nfft j : ℕ) (hj : j ≤ nfft / 2) (hn : 0 < nfft) :
    nth (eigenClassFold (eigenReorder psd nfft) true nfft) j = 2 * nth psd j ∧
    fftBinOf nfft (-(j : Int)) = j :=
  ⟨nth_classFold_reorder_real psd nfft j hj hn, sub_neg_emod_toNat (by omega)⟩

example : fftBinOf 8 (-3) = 3 ∧ fftBinOf 8 2 = 6 := by decide

/-- poles of the function output at the on-grid true frequencies -/
theorem peaks_at_true_frequencies_partial [StarRing F] {ω : F} {nfft P : ℕ} (hn : 0 < nfft)
    (hω : ω ^ nfft = 1) (hstar : star ω = ω⁻¹) (hP : P ≤ nfft) (N T : ℕ) (c z : ℕ → F)
    (hz0 : ∀ m, m < T → z m ≠ 0) (hc : ∀ m, m < T → c m ≠ 0)
    (hzinj : ∀ m m', m < T → m' < T → z m = z m' → m = m') (hNP : T ≤ fbNP N P)
    (cols : List (List F)) (S : List F) (nsig : ℕ) (ev : Bool) (v : ℕ → ℕ → F)
    (hcols : ∀ i, nsig ≤ i → i < P → cols.getD i [] = vec P (fun K => -star (v i K)))
    (hsvd : ∀ i, nsig ≤ i → i < P → ∀ I, I < T →
      ∑ K ∈ range P, mentryM (fbMatrix (tones N T c z) P) I K * v i K = 0)
    (m : ℕ) (hm : m < T) (b : Int) (hb : z m = ω ^ (-b))
    (h1 : -((nfft / 2 : ℕ) : Int) ≤ b) (h2 : b < (nfft : Int) - ((nfft / 2 : ℕ) : Int)) :
    ∃ d : F, d = 0 ∧ d = eigenDenom (twiddles ω nfft) cols S nsig P nfft ev (fftBinOf nfft b) ∧
      nth (eigenPsd (twiddles ω nfft) cols S nsig P nfft ev) (((nfft / 2 : ℕ) : Int) + b).toNat
        = 1 / d := by
  refine ⟨_, ?_, rfl, eigenPsd_entry _ cols S nsig P nfft ev b h1 h2⟩
  exact denominator_vanishes_at_tones hn hω hstar hP N T c z hz0 hc hzinj hNP cols S nsig ev v
    hcols hsvd m hm _ (by rw [(fftBinOf_spec hn hω b).2, hb])

end Idx

/-- C17 "the pseudo-spectrum is positive at every frequency (finite wherever the noise-subspace projection does
    not vanish)".  MUSIC: the denominator is a non-negative real; EV: likewise when the noise singular values are
    positive reals.  Wherever it does not vanish the pseudo-spectrum value `1 / denominator` is a
    positive real. -/
theorem pseudo_pos {F : Type} [RCLike F] (tw : List F) (cols : List (List F)) (S : List F)
    (nsig P nfft : ℕ) (ev : Bool) (k : ℕ)
    (hS : ev = true → ∀ i, nsig ≤ i → i < P → ∃ s : ℝ, 0 < s ∧ nth S i = (s : F)) :
    ∃ d : ℝ, 0 ≤ d ∧ eigenDenom tw cols S nsig P nfft ev k = (d : F) ∧
      (eigenDenom tw cols S nsig P nfft ev k ≠ 0 →
        0 < 1 / d ∧ 1 / eigenDenom tw cols S nsig P nfft ev k = ((1 / d : ℝ) : F)) := by
  obtain ⟨d, hd, he⟩ := EigenOnlyL.eigenDenom_nonneg_real tw cols S nsig P nfft ev k hS
  refine ⟨d, hd, he, ?_⟩
  intro hne
  have hd0 : d ≠ 0 := by
    intro h0
    apply hne
    rw [he, h0, RCLike.ofReal_zero]
  rw [he]
  exact EigenOnlyL.one_div_ofReal_pos (lt_of_le_of_ne hd (Ne.symm hd0))

section Only
variable {F : Type} [RCLike F]
open SpecVerif.EigenOnlyL

/-- core of the converse, with no reference to `FB` (`hspan` is `SpansToneNull P T nsig z v`): off the tones
    the denominator (MUSIC; EV with positive real floored noise singular values) is a POSITIVE real. -/
theorem denominator_pos_off_tones {ω : F} {nfft P : ℕ} (hn : 0 < nfft) (hω : ω ^ nfft = 1)
    (hstar : star ω = ω⁻¹) (hP : P ≤ nfft) (T : ℕ) (z : ℕ → F) (hT : T < P)
    (cols : List (List F)) (S : List F) (nsig : ℕ) (ev : Bool) (v : ℕ → ℕ → F)
    (hcols : ∀ i, nsig ≤ i → i < P → cols.getD i [] = vec P (fun K => -star (v i K)))
    (hspan : ∀ u : ℕ → F, (∀ m, m < T → ∑ K ∈ range P, u K * (z m)⁻¹ ^ K = 0) →
      ∃ a : ℕ → F, ∀ K, K < P → u K = ∑ i ∈ Ico nsig P, a i * v i K)
    (hS : ev = true → ∀ i, nsig ≤ i → i < P → ∃ s : ℝ, 0 < s ∧ nth S i = (s : F))
    (k : ℕ) (hk : ∀ m, m < T → ω ^ k ≠ z m) :
    ∃ d : ℝ, 0 < d ∧ eigenDenom (twiddles ω nfft) cols S nsig P nfft ev k = (d : F) := by
  obtain ⟨i, h1, h2, hne⟩ := exists_noise_nonvanishing P T nsig z v hT hspan (ω ^ k) hk
  apply eigenDenom_pos_of_term _ cols S nsig P nfft ev k hS i h1 h2
  rw [hcols i h1 h2, dftBin_neg_star_col hn hω hstar hP, neg_ne_zero, Ne, star_eq_zero]
  exact hne

/-- **pole iff tone**, with no reference to the data matrix: at a grid point the denominator is `0` at a
    node and a positive real elsewhere. -/
theorem denominator_at_grid {ω : F} {nfft P : ℕ} (hn : 0 < nfft) (hω : ω ^ nfft = 1)
    (hstar : star ω = ω⁻¹) (hP : P ≤ nfft) (T : ℕ) (z : ℕ → F) (hT : T < P)
    (cols : List (List F)) (S : List F) (nsig : ℕ) (ev : Bool) (v : ℕ → ℕ → F)
    (hcols : ∀ i, nsig ≤ i → i < P → cols.getD i [] = vec P (fun K => -star (v i K)))
    (hnull : ∀ i, nsig ≤ i → i < P → ∀ m, m < T → ∑ K ∈ range P, v i K * (z m)⁻¹ ^ K = 0)
    (hspan : SpansToneNull P T nsig z v)
    (hS : ev = true → ∀ i, nsig ≤ i → i < P → ∃ s : ℝ, 0 < s ∧ nth S i = (s : F)) (k : ℕ) :
    (eigenDenom (twiddles ω nfft) cols S nsig P nfft ev k = 0 ↔ ∃ m, m < T ∧ ω ^ k = z m) ∧
    ((∀ m, m < T → ω ^ k ≠ z m) →
      ∃ d : ℝ, 0 < d ∧ eigenDenom (twiddles ω nfft) cols S nsig P nfft ev k = (d : F)) := by
  refine ⟨⟨fun h0 => ?_, fun ⟨m, hm, hk⟩ => ?_⟩,
    denominator_pos_off_tones hn hω hstar hP T z hT cols S nsig ev v hcols hspan hS k⟩
  · -- off the tones some noise column has a non-zero DFT bin, so the denominator cannot vanish
    by_contra hcon
    obtain ⟨i, h1, h2, hne⟩ := exists_noise_nonvanishing P T nsig z v hT hspan (ω ^ k)
      (fun m hm h => hcon ⟨m, hm, h⟩)
    have h := (eigenDenom_eq_zero_iff _ cols S nsig P nfft ev k hS).mp h0 i h1 h2
    rw [hcols i h1 h2, dftBin_neg_star_col hn hω hstar hP, neg_eq_zero, star_eq_zero] at h
    exact hne h
  · exact music_null_at_tone hn hω hstar hP cols S nsig ev v (z m) k hk hcols
      (fun i h1 h2 => hnull i h1 h2 m hm)

/-- a vector annihilating the `T` steering vectors is a null vector of every row of `FB` (unit-modulus
    nodes for the backward half), so noise vectors spanning the null space of `FB` span the tone-null space -/
theorem toneNull_span_of_fb_span (N P T : ℕ) (c z : ℕ → F) (hz0 : ∀ m, m < T → z m ≠ 0)
    (hunit : ∀ m, m < T → star (z m) = (z m)⁻¹) (nsig : ℕ) (v : ℕ → ℕ → F)
    (hspan : ∀ u : ℕ → F,
      (∀ r, r < 2 * fbNP N P →
        ∑ K ∈ range P, mentryM (fbMatrix (tones N T c z) P) r K * u K = 0) →
      ∃ a : ℕ → F, ∀ K, K < P → u K = ∑ i ∈ Ico nsig P, a i * v i K) :
    SpansToneNull P T nsig z v := by
  intro u hu
  apply hspan u
  intro r hr
  by_cases h : r < fbNP N P
  · exact (tone_null_space N P T c z u hz0 hu r h).1
  · have e : fbNP N P + (r - fbNP N P) = r := by omega
    have := (tone_null_space N P T c z u hz0 hu (r - fbNP N P) (by omega)).2 hunit
    rw [e] at this
    exact this

/-- **the converse of `denominator_vanishes_at_tones`**: noiseless sum of `T < P` non-zero unit-modulus
    tones; the noise vectors `v_i`, `i ∈ [nsig, P)`, SPAN the null space of the forward-backward matrix
    (all `2·NP` rows) — what an exact SVD delivers for the zero singular value.  Then at every grid
    point `ω^k` that is NOT a tone the denominator is a positive real, in particular non-zero: the
    pseudo-spectrum has no pole off the true frequencies. -/
theorem denominator_vanishes_only_at_tones {ω : F} {nfft P : ℕ} (hn : 0 < nfft) (hω : ω ^ nfft = 1)
    (hstar : star ω = ω⁻¹) (hP : P ≤ nfft) (N T : ℕ) (c z : ℕ → F) (hT : T < P)
    (hz0 : ∀ m, m < T → z m ≠ 0) (hunit : ∀ m, m < T → star (z m) = (z m)⁻¹)
    (cols : List (List F)) (S : List F) (nsig : ℕ) (ev : Bool) (v : ℕ → ℕ → F)
    (hcols : ∀ i, nsig ≤ i → i < P → cols.getD i [] = vec P (fun K => -star (v i K)))
    (hspan : ∀ u : ℕ → F,
      (∀ r, r < 2 * fbNP N P →
        ∑ K ∈ range P, mentryM (fbMatrix (tones N T c z) P) r K * u K = 0) →
      ∃ a : ℕ → F, ∀ K, K < P → u K = ∑ i ∈ Ico nsig P, a i * v i K)
    (hS : ev = true → ∀ i, nsig ≤ i → i < P → ∃ s : ℝ, 0 < s ∧ nth S i = (s : F))
    (k : ℕ) (hk : ∀ m, m < T → ω ^ k ≠ z m) :
    ∃ d : ℝ, 0 < d ∧ eigenDenom (twiddles ω nfft) cols S nsig P nfft ev k = (d : F) :=
  denominator_pos_off_tones hn hω hstar hP T z hT cols S nsig ev v hcols
    (toneNull_span_of_fb_span N P T c z hz0 hunit nsig v hspan) hS k hk

/-- the same with the SVD contract in its usual form, `NSIG = T`: the `P - T` noise vectors are null
    vectors of `FB` (only the first `T` forward rows are used) and LINEARLY INDEPENDENT (orthonormal in
    the SVD); linear independence + the dimension count `dim ker = P - T` gives the spanning.  No
    unit-modulus hypothesis is needed in this form. -/
theorem denominator_vanishes_only_at_tones_of_linearIndependent {ω : F} {nfft P : ℕ} (hn : 0 < nfft)
    (hω : ω ^ nfft = 1) (hstar : star ω = ω⁻¹) (hP : P ≤ nfft) (N T : ℕ) (c z : ℕ → F) (hT : T < P)
    (hz0 : ∀ m, m < T → z m ≠ 0) (hc : ∀ m, m < T → c m ≠ 0)
    (hzinj : ∀ m m', m < T → m' < T → z m = z m' → m = m') (hNP : T ≤ fbNP N P)
    (cols : List (List F)) (S : List F) (ev : Bool) (v : ℕ → ℕ → F)
    (hcols : ∀ i, T ≤ i → i < P → cols.getD i [] = vec P (fun K => -star (v i K)))
    (hsvd : ∀ i, T ≤ i → i < P → ∀ I, I < T →
      ∑ K ∈ range P, mentryM (fbMatrix (tones N T c z) P) I K * v i K = 0)
    (hli : LinearIndependent F (fun (i : Fin (P - T)) (K : Fin P) => v (T + i) K))
    (hS : ev = true → ∀ i, T ≤ i → i < P → ∃ s : ℝ, 0 < s ∧ nth S i = (s : F))
    (k : ℕ) (hk : ∀ m, m < T → ω ^ k ≠ z m) :
    ∃ d : ℝ, 0 < d ∧ eigenDenom (twiddles ω nfft) cols S T P nfft ev k = (d : F) :=
  denominator_pos_off_tones hn hω hstar hP T z hT cols S T ev v hcols
    (spansToneNull_of_linearIndependent P T z v hT.le hzinj hli (fun i h1 h2 =>
      null_vector_vanishes N P T c z (v i) hz0 hc hzinj hNP (hsvd i h1 h2))) hS k hk

/-- **pole iff tone** on the FFT grid: under the hypotheses of both directions (noise vectors are null
    vectors of `FB` and span its null space) the denominator at bin `k` is zero IFF `ω^k` is one of the
    `T` tones. -/
theorem pole_iff_tone {ω : F} {nfft P : ℕ} (hn : 0 < nfft) (hω : ω ^ nfft = 1)
    (hstar : star ω = ω⁻¹) (hP : P ≤ nfft) (N T : ℕ) (c z : ℕ → F) (hT : T < P)
    (hz0 : ∀ m, m < T → z m ≠ 0) (hunit : ∀ m, m < T → star (z m) = (z m)⁻¹)
    (hc : ∀ m, m < T → c m ≠ 0)
    (hzinj : ∀ m m', m < T → m' < T → z m = z m' → m = m') (hNP : T ≤ fbNP N P)
    (cols : List (List F)) (S : List F) (nsig : ℕ) (ev : Bool) (v : ℕ → ℕ → F)
    (hcols : ∀ i, nsig ≤ i → i < P → cols.getD i [] = vec P (fun K => -star (v i K)))
    (hsvd : ∀ i, nsig ≤ i → i < P → ∀ I, I < T →
      ∑ K ∈ range P, mentryM (fbMatrix (tones N T c z) P) I K * v i K = 0)
    (hspan : ∀ u : ℕ → F,
      (∀ r, r < 2 * fbNP N P →
        ∑ K ∈ range P, mentryM (fbMatrix (tones N T c z) P) r K * u K = 0) →
      ∃ a : ℕ → F, ∀ K, K < P → u K = ∑ i ∈ Ico nsig P, a i * v i K)
    (hS : ev = true → ∀ i, nsig ≤ i → i < P → ∃ s : ℝ, 0 < s ∧ nth S i = (s : F))
    (k : ℕ) :
    eigenDenom (twiddles ω nfft) cols S nsig P nfft ev k = 0 ↔ ∃ m, m < T ∧ ω ^ k = z m :=
  (denominator_at_grid hn hω hstar hP T z hT cols S nsig ev v hcols
    (fun i h1 h2 => null_vector_vanishes N P T c z (v i) hz0 hc hzinj hNP (hsvd i h1 h2))
    (toneNull_span_of_fb_span N P T c z hz0 hunit nsig v hspan) hS k).1

/-- pole iff tone, SVD contract in the form "`NSIG = T`, the noise vectors are `P - T` linearly
    independent null vectors of `FB`" -/
theorem pole_iff_tone_of_linearIndependent {ω : F} {nfft P : ℕ} (hn : 0 < nfft)
    (hω : ω ^ nfft = 1) (hstar : star ω = ω⁻¹) (hP : P ≤ nfft) (N T : ℕ) (c z : ℕ → F) (hT : T < P)
    (hz0 : ∀ m, m < T → z m ≠ 0) (hc : ∀ m, m < T → c m ≠ 0)
    (hzinj : ∀ m m', m < T → m' < T → z m = z m' → m = m') (hNP : T ≤ fbNP N P)
    (cols : List (List F)) (S : List F) (ev : Bool) (v : ℕ → ℕ → F)
    (hcols : ∀ i, T ≤ i → i < P → cols.getD i [] = vec P (fun K => -star (v i K)))
    (hsvd : ∀ i, T ≤ i → i < P → ∀ I, I < T →
      ∑ K ∈ range P, mentryM (fbMatrix (tones N T c z) P) I K * v i K = 0)
    (hli : LinearIndependent F (fun (i : Fin (P - T)) (K : Fin P) => v (T + i) K))
    (hS : ev = true → ∀ i, T ≤ i → i < P → ∃ s : ℝ, 0 < s ∧ nth S i = (s : F))
    (k : ℕ) :
    eigenDenom (twiddles ω nfft) cols S T P nfft ev k = 0 ↔ ∃ m, m < T ∧ ω ^ k = z m :=
  have hnull := fun i h1 h2 => null_vector_vanishes N P T c z (v i) hz0 hc hzinj hNP (hsvd i h1 h2)
  (denominator_at_grid hn hω hstar hP T z hT cols S T ev v hcols hnull
    (spansToneNull_of_linearIndependent P T z v hT.le hzinj hli hnull) hS k).1

/-- **poles exactly at the true frequencies** (function output; strengthens
    `peaks_at_true_frequencies_partial` by the converse and by positivity/finiteness elsewhere) -/
theorem peaks_exactly_at_true_frequencies {ω : F} {nfft P : ℕ} (hn : 0 < nfft) (hω : ω ^ nfft = 1)
    (hstar : star ω = ω⁻¹) (hP : P ≤ nfft) (N T : ℕ) (c z : ℕ → F) (hT : T < P)
    (hz0 : ∀ m, m < T → z m ≠ 0) (hunit : ∀ m, m < T → star (z m) = (z m)⁻¹)
    (hc : ∀ m, m < T → c m ≠ 0)
    (hzinj : ∀ m m', m < T → m' < T → z m = z m' → m = m') (hNP : T ≤ fbNP N P)
    (cols : List (List F)) (S : List F) (nsig : ℕ) (ev : Bool) (v : ℕ → ℕ → F)
    (hcols : ∀ i, nsig ≤ i → i < P → cols.getD i [] = vec P (fun K => -star (v i K)))
    (hsvd : ∀ i, nsig ≤ i → i < P → ∀ I, I < T →
      ∑ K ∈ range P, mentryM (fbMatrix (tones N T c z) P) I K * v i K = 0)
    (hspan : ∀ u : ℕ → F,
      (∀ r, r < 2 * fbNP N P →
        ∑ K ∈ range P, mentryM (fbMatrix (tones N T c z) P) r K * u K = 0) →
      ∃ a : ℕ → F, ∀ K, K < P → u K = ∑ i ∈ Ico nsig P, a i * v i K)
    (hS : ev = true → ∀ i, nsig ≤ i → i < P → ∃ s : ℝ, 0 < s ∧ nth S i = (s : F))
    (b : Int) (h1 : -((nfft / 2 : ℕ) : Int) ≤ b) (h2 : b < (nfft : Int) - ((nfft / 2 : ℕ) : Int)) :
    nth (eigenPsd (twiddles ω nfft) cols S nsig P nfft ev) (((nfft / 2 : ℕ) : Int) + b).toNat
        = 1 / eigenDenom (twiddles ω nfft) cols S nsig P nfft ev (fftBinOf nfft b) ∧
    (eigenDenom (twiddles ω nfft) cols S nsig P nfft ev (fftBinOf nfft b) = 0
        ↔ ∃ m, m < T ∧ z m = ω ^ (-b)) ∧
    ((∀ m, m < T → z m ≠ ω ^ (-b)) → ∃ d : ℝ, 0 < d ∧
      eigenDenom (twiddles ω nfft) cols S nsig P nfft ev (fftBinOf nfft b) = (d : F) ∧
      0 < 1 / d ∧
      nth (eigenPsd (twiddles ω nfft) cols S nsig P nfft ev) (((nfft / 2 : ℕ) : Int) + b).toNat
        = ((1 / d : ℝ) : F)) := by
  have hg := denominator_at_grid hn hω hstar hP T z hT cols S nsig ev v hcols
    (fun i h1 h2 => null_vector_vanishes N P T c z (v i) hz0 hc hzinj hNP (hsvd i h1 h2))
    (toneNull_span_of_fb_span N P T c z hz0 hunit nsig v hspan) hS (fftBinOf nfft b)
  rw [(fftBinOf_spec hn hω b).2] at hg
  have hent := eigenPsd_entry (twiddles ω nfft) cols S nsig P nfft ev b h1 h2
  refine ⟨hent, hg.1.trans (exists_congr fun m => and_congr_right fun _ => eq_comm), fun hoff => ?_⟩
  obtain ⟨d, hd, he⟩ := hg.2 (fun m hm h => hoff m hm h.symm)
  rw [hent, he]
  exact ⟨d, hd, rfl, one_div_ofReal_pos hd⟩

/-- the same with `NSIG = T` and the noise vectors `P - T` linearly independent null vectors of `FB` -/
theorem peaks_exactly_at_true_frequencies_of_linearIndependent {ω : F} {nfft P : ℕ} (hn : 0 < nfft)
    (hω : ω ^ nfft = 1) (hstar : star ω = ω⁻¹) (hP : P ≤ nfft) (N T : ℕ) (c z : ℕ → F) (hT : T < P)
    (hz0 : ∀ m, m < T → z m ≠ 0) (hc : ∀ m, m < T → c m ≠ 0)
    (hzinj : ∀ m m', m < T → m' < T → z m = z m' → m = m') (hNP : T ≤ fbNP N P)
    (cols : List (List F)) (S : List F) (ev : Bool) (v : ℕ → ℕ → F)
    (hcols : ∀ i, T ≤ i → i < P → cols.getD i [] = vec P (fun K => -star (v i K)))
    (hsvd : ∀ i, T ≤ i → i < P → ∀ I, I < T →
      ∑ K ∈ range P, mentryM (fbMatrix (tones N T c z) P) I K * v i K = 0)
    (hli : LinearIndependent F (fun (i : Fin (P - T)) (K : Fin P) => v (T + i) K))
    (hS : ev = true → ∀ i, T ≤ i → i < P → ∃ s : ℝ, 0 < s ∧ nth S i = (s : F))
    (b : Int) (h1 : -((nfft / 2 : ℕ) : Int) ≤ b) (h2 : b < (nfft : Int) - ((nfft / 2 : ℕ) : Int)) :
    nth (eigenPsd (twiddles ω nfft) cols S T P nfft ev) (((nfft / 2 : ℕ) : Int) + b).toNat
        = 1 / eigenDenom (twiddles ω nfft) cols S T P nfft ev (fftBinOf nfft b) ∧
    (eigenDenom (twiddles ω nfft) cols S T P nfft ev (fftBinOf nfft b) = 0
        ↔ ∃ m, m < T ∧ z m = ω ^ (-b)) ∧
    ((∀ m, m < T → z m ≠ ω ^ (-b)) → ∃ d : ℝ, 0 < d ∧
      eigenDenom (twiddles ω nfft) cols S T P nfft ev (fftBinOf nfft b) = (d : F) ∧
      0 < 1 / d ∧
      nth (eigenPsd (twiddles ω nfft) cols S T P nfft ev) (((nfft / 2 : ℕ) : Int) + b).toNat
        = ((1 / d : ℝ) : F)) := by
  have hnull := fun i h1 h2 => null_vector_vanishes N P T c z (v i) hz0 hc hzinj hNP (hsvd i h1 h2)
  have hg := denominator_at_grid hn hω hstar hP T z hT cols S T ev v hcols hnull
    (spansToneNull_of_linearIndependent P T z v hT.le hzinj hli hnull) hS (fftBinOf nfft b)
  rw [(fftBinOf_spec hn hω b).2] at hg
  have hent := eigenPsd_entry (twiddles ω nfft) cols S T P nfft ev b h1 h2
  refine ⟨hent, hg.1.trans (exists_congr fun m => and_congr_right fun _ => eq_comm), fun hoff => ?_⟩
  obtain ⟨d, hd, he⟩ := hg.2 (fun m hm h => hoff m hm h.symm)
  rw [hent, he]
  exact ⟨d, hd, rfl, one_div_ofReal_pos hd⟩

/-- non-vacuity (spanning form): one tone `x_n = (-1)^n`, `N = 5`, `P = 2`, `NFFT = 2`, `ω = -1`,
    `NSIG = 1`, noise singular vector `(1,1)`: it annihilates the steering vector of `z = -1` (bin 1:
    pole) and not that of `z = 1` (bin 0: no pole) -/
example : eigenDenom (twiddles (-1 : ℂ) 2) [[], [-1, -1]] [2, 0] 1 2 2 false 1 = 0
    ∧ eigenDenom (twiddles (-1 : ℂ) 2) [[], [-1, -1]] [2, 0] 1 2 2 false 0 ≠ 0 := by
  have key := pole_iff_tone (ω := (-1 : ℂ)) (nfft := 2) (P := 2) (by norm_num)
    (by norm_num) (by simp) (le_refl _) 5 1 (fun _ => 1) (fun _ => -1) (by norm_num)
    (by intro m _; norm_num) (by intro m _; simp) (by intro m _; norm_num)
    (by intro m m' h h' _; omega) (by decide)
    [[], [-1, -1]] [2, 0] 1 false (fun _ _ => 1)
    tone_example_cols (fun _ _ _ => tone_example_svd)
    (by
      intro u hu
      have h0 := hu 0 (by decide)
      rw [Finset.sum_range_succ, Finset.sum_range_one,
        fb_row_tone 5 2 1 0 0 _ _ (by intro m _; norm_num) (by decide) (by norm_num),
        fb_row_tone 5 2 1 0 1 _ _ (by intro m _; norm_num) (by decide) (by norm_num)] at h0
      norm_num at h0
      refine ⟨fun _ => u 0, ?_⟩
      intro K hK
      have e : u 1 = u 0 := by linear_combination h0
      interval_cases K <;> simp [e])
    (by intro h; exact absurd h (by simp))
  constructor
  · exact (key 1).mpr ⟨0, by norm_num, by norm_num⟩
  · rw [Ne, key 0]
    rintro ⟨m, _, h⟩
    norm_num at h

/-- non-vacuity (linear-independence form, EV with noise singular value `1`): same instance -/
example : eigenDenom (twiddles (-1 : ℂ) 2) [[], [-1, -1]] [2, 1] 1 2 2 true 1 = 0
    ∧ eigenDenom (twiddles (-1 : ℂ) 2) [[], [-1, -1]] [2, 1] 1 2 2 true 0 ≠ 0 := by
  have key := pole_iff_tone_of_linearIndependent (ω := (-1 : ℂ)) (nfft := 2) (P := 2)
    (by norm_num) (by norm_num) (by simp) (le_refl _) 5 1 (fun _ => 1) (fun _ => -1) (by norm_num)
    (by intro m _; norm_num) (by intro m _; norm_num)
    (by intro m m' h h' _; omega) (by decide)
    [[], [-1, -1]] [2, 1] true (fun _ _ => 1)
    tone_example_cols (fun _ _ _ => tone_example_svd)
    (by
      rw [Fintype.linearIndependent_iff]
      intro g hg i
      have := congrFun hg ⟨0, by norm_num⟩
      have hi : i = ⟨0, by norm_num⟩ := Fin.ext (by omega)
      subst hi
      simpa using this)
    (by
      intro _ i h1 h2
      have : i = 1 := by omega
      subst this
      exact ⟨1, one_pos, by simp [nth]⟩)
  constructor
  · exact (key 1).mpr ⟨0, by norm_num, by norm_num⟩
  · rw [Ne, key 0]
    rintro ⟨m, _, h⟩
    norm_num at h

end Only

section Rules
variable {F : Type} [Field F]

/-- C17, last sentence: precedence NSIG > threshold > AIC/MDL is the definition; the threshold rule returns at
    least 1 -/
theorem nsig_rules [ReOrd F] (S : List F) (n : ℕ) (t : F) (thr : Option F) (c : ℕ) :
    signalSpace S (some n) thr c = n ∧
    signalSpace S none (some t) c
      = (if (S.filter (fun s => reGt s
              (t * S.foldl (fun m s => if reGt m s then s else m) (nth S 0)))).length = 0 then 1
         else (S.filter (fun s => reGt s
              (t * S.foldl (fun m s => if reGt m s then s else m) (nth S 0)))).length) ∧
    1 ≤ signalSpace S none (some t) c ∧
    signalSpace S none none c = c + 1 := by
  refine ⟨rfl, rfl, ?_, rfl⟩
  simp only [signalSpace]
  split_ifs <;> omega

/-- `eigen` argument validation: `ValueError` iff `methodOk` fails (unknown method, threshold < 1, unknown
    criterion name), or `NSIG` and `threshold` are both given, or `NSIG < 0`, or `NSIG ≥ P`; otherwise
    `AssertionError` iff `2(N-P) ≤ P-1`; otherwise accepted. -/
theorem eigenValidate_rules (methodOk : Bool) (nsig : Option Int) (hasThr : Bool) (N P : ℕ) :
    let bad := methodOk = false ∨ (nsig.isSome = true ∧ hasThr = true)
      ∨ (∃ n, nsig = some n ∧ (n < 0 ∨ (P : Int) ≤ n))
    (eigenValidate methodOk nsig hasThr N P = .error "value" ↔ bad) ∧
    (eigenValidate methodOk nsig hasThr N P = .error "assert" ↔ ¬ bad ∧ 2 * (N - P) ≤ P - 1) ∧
    (eigenValidate methodOk nsig hasThr N P = .ok () ↔ ¬ bad ∧ P - 1 < 2 * (N - P)) := by
  intro bad
  rw [eigenValidate_cases]
  by_cases hb : bad
  · rw [if_pos hb]
    simp [hb]
  · rw [if_neg hb]
    by_cases ha : 2 * (N - P) ≤ P - 1
    · rw [if_pos ha]
      simp [hb, ha]
    · rw [if_neg ha]
      have ha' : P - 1 < 2 * (N - P) := by omega
      simp [hb, ha']

/-- `NSIG` and `threshold` are mutually exclusive; an `NSIG` outside `[0, P)` is rejected -/
theorem nsig_exclusive_and_range (n : Int) (hasThr : Bool) (N P : ℕ)
    (h : hasThr = true ∨ n < 0 ∨ (P : Int) ≤ n) :
    eigenValidate true (some n) hasThr N P = .error "value" := by
  apply ((eigenValidate_rules true (some n) hasThr N P).1).mpr
  rcases h with h | h
  · exact Or.inr (Or.inl ⟨rfl, h⟩)
  · exact Or.inr (Or.inr ⟨n, rfl, h⟩)

end Rules

end SpecVerif.C17
